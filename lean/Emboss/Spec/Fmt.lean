/-
Specification side of C11 (formatter): what "content" means, which trees are trees of
the grammar, the kinds of values handlers exchange, and the table of terminal pairs
the formatter may print without a blank between them.

Written from the property statement ("the same token sequence up to whitespace, blank
lines and trailing blanks in comments/documentation"; "never raises on parseable
input"), independently of how format_emb.py computes.
-/
import Emboss.Model.Fmt
namespace Emboss.Fmt

/-! ## Content: a text with every blank character erased -/

/-- Erase every character Python regards as white space (blank, tab, newline, …). -/
def despace (s : Str) : Str := s.filter (fun c => !isPySpace c)

mutual
  /-- Texts of all leaves (tokens) of a parse tree, left to right. -/
  def leaves : Tree → List Str
    | .tok _ text => [text]
    | .node _ cs => leavesList cs
  def leavesList : List Tree → List Str
    | [] => []
    | t :: ts => leaves t ++ leavesList ts
end

/-- The layout tokens of the tokenizer. -/
def isLayoutSym (s : String) : Bool := s == "Indent" || s == "Dedent" || s == nlSym

mutual
  /-- Texts of the non-layout leaves (everything except Indent, Dedent, newline). -/
  def contentLeaves : Tree → List Str
    | .tok sym text => if isLayoutSym sym then [] else [text]
    | .node _ cs => contentLeavesList cs
  def contentLeavesList : List Tree → List Str
    | [] => []
    | t :: ts => contentLeaves t ++ contentLeavesList ts
end

mutual
  /-- Layout tokens carry only blanks (Indent: the indentation; newline: "\n"; Dedent: ""),
  as every token stream of the tokenizer does. -/
  def layoutBlank : Tree → Bool
    | .tok sym text => !isLayoutSym sym || (despace text).isEmpty
    | .node _ cs => layoutBlankList cs
  def layoutBlankList : List Tree → Bool
    | [] => true
    | t :: ts => layoutBlank t && layoutBlankList ts
end

/-- The token-level content of a tree: the blank-erased texts of its leaves. -/
def leafContent (t : Tree) : Str := despace (leaves t).flatten

/-! ## Kinds of handler results -/

inductive Kind
  | str          -- a Python str
  | strs2        -- a list of exactly two str (field-location)
  | rows         -- list of single-column `_Row`s
  | blocksF      -- list of `_Block`s headed by "field"/"virtual-field" rows
  | blocksF1     -- … non-empty
  | blocksE      -- list of `_Block`s headed by "enum-value" rows
  | sections     -- list of lists of rows (type-definition*)
  | inlineBody   -- `_InlineBitsBodyType`
  deriving DecidableEq, Repr, Inhabited

/-- Rows that `_render_row_to_text` accepts (`len(row.columns) < 2`). -/
def PlainRows (l : List Row) : Prop := ∀ r ∈ l, r.columns.length < 2

def BlockOK (names : List RowName) (b : Block) : Prop :=
  PlainRows b.pre ∧ PlainRows b.body ∧ b.header.name ∈ names

def fieldNames : List RowName := [.field, .virtualField]
def enumNames : List RowName := [.enumValue]

def HasKind (v : Fmt) : Kind → Prop
  | .str => ∃ s, v = .str s
  | .strs2 => ∃ a b, v = .strs [a, b]
  | .rows => ∃ l, asRows v = some l ∧ PlainRows l
  | .blocksF => ∃ l, asBlocks v = some l ∧ ∀ b ∈ l, BlockOK fieldNames b
  | .blocksF1 => ∃ l, asBlocks v = some l ∧ l ≠ [] ∧ ∀ b ∈ l, BlockOK fieldNames b
  | .blocksE => ∃ l, asBlocks v = some l ∧ ∀ b ∈ l, BlockOK enumNames b
  | .sections => ∃ l, asSections v = some l ∧ ∀ s ∈ l, PlainRows s
  | .inlineBody => ∃ h f, v = .inlineBody h f ∧ PlainRows h ∧ ∀ b ∈ f, BlockOK fieldNames b

def HasKinds : List Fmt → List Kind → Prop
  | [], [] => True
  | v :: vs, k :: ks => HasKind v k ∧ HasKinds vs ks
  | _, _ => False

/-- `k₁ ≤ k₂`: every value of kind `k₁` is a value of kind `k₂`. -/
def Kind.le : Kind → Kind → Bool
  | .blocksF1, .blocksF => true
  | a, b => a == b

/-- The kind of the value the fold produces for each grammar symbol.  Everything not
listed is a string (all terminals, and every sub-line nonterminal).  The assignment is
*checked*, not trusted: `tableTyped` verifies it against every production of the
regenerated table. -/
def kindOf (sym : String) : Kind :=
  if sym ∈ ["comment-line*", "comment-line", "doc-line*", "doc-line", "import-line*", "import-line",
            "attribute-line*", "attribute-line", "eol", "struct", "bits", "enum", "external",
            "type-definition", "struct-body", "bits-body", "enum-body", "external-body",
            "field-body", "field-body?", "enum-value-body", "enum-value-body?"] then .rows
  else if sym = "type-definition*" then .sections
  else if sym = "field-location" then .strs2
  else if sym ∈ ["field", "virtual-field", "unconditional-struct-field", "unconditional-bits-field",
                 "unconditional-anonymous-bits-field", "inline-enum-field-definition",
                 "inline-struct-field-definition", "inline-bits-field-definition",
                 "anonymous-bits-field-definition", "conditional-struct-field-block",
                 "conditional-bits-field-block", "conditional-anonymous-bits-field-block",
                 "unconditional-struct-field+", "unconditional-bits-field+",
                 "unconditional-anonymous-bits-field+"] then .blocksF1
  else if sym ∈ ["struct-field-block", "bits-field-block", "anonymous-bits-field-block",
                 "unconditional-struct-field*", "unconditional-bits-field*",
                 "unconditional-anonymous-bits-field*"] then .blocksF
  else if sym ∈ ["enum-value", "enum-value*", "enum-value+"] then .blocksE
  else if sym = "anonymous-bits-body" then .inlineBody
  else .str

/-- Signature of a handler: for argument kinds `ks`, the kind of the result (`none`:
the handler is not typed at these kinds).  The three variadic string handlers accept
any number of strings. -/
def Handler.sig : Handler → List Kind → Option Kind
  | .module, ks => if ks = [.rows, .rows, .rows, .rows, .sections] then some .str else none
  | .docLine, ks => if ks = [.str, .str, .rows] then some .rows else none
  | .importLine, ks => if ks = [.str, .str, .str, .str, .str, .rows] then some .rows else none
  | .attributeLine, ks => if ks = [.str, .str, .rows] then some .rows else none
  | .attribute, ks => if ks = [.str, .str, .str, .str, .str, .str, .str] then some .str else none
  | .parameterDefinition, ks => if ks = [.str, .str, .str] then some .str else none
  | .typeDefinitions, ks => if ks = [.rows, .sections] then some .sections else none
  | .structureType, ks => if ks = [.str, .str, .str, .str, .str, .rows, .rows] then some .rows else none
  | .type_, ks => if ks = [.str, .str, .str, .str, .rows, .rows] then some .rows else none
  | .structureBody, ks =>
    if ks = [.str, .rows, .rows, .sections, .blocksF, .str] then some .rows else none
  | .fieldLocation, ks => if ks = [.str, .str, .str, .str, .str] then some .strs2 else none
  | .structureBlock, ks =>
    if ks = [.blocksF1, .blocksF] then some .blocksF1
    else if ks = [.blocksF, .blocksF] then some .blocksF else none
  | .virtualField, ks =>
    if ks = [.str, .str, .str, .str, .str, .rows, .rows] then some .blocksF1 else none
  | .unconditionalField, ks =>
    if ks = [.strs2, .str, .str, .str, .str, .str, .str, .rows, .rows] then some .blocksF1 else none
  | .fieldBody, ks => if ks = [.str, .rows, .rows, .str] then some .rows else none
  | .inlineBits, ks => if ks = [.strs2, .str, .str, .str, .rows, .inlineBody] then some .blocksF1 else none
  | .inlineType, ks =>
    if ks = [.strs2, .str, .str, .str, .str, .str, .rows, .rows] then some .blocksF1 else none
  | .conditionalField, ks =>
    if ks = [.str, .str, .str, .str, .rows, .str, .blocksF1, .str] then some .blocksF1 else none
  | .inlineBitsBody, ks => if ks = [.str, .rows, .blocksF, .str] then some .inlineBody else none
  | .enumBody, ks => if ks = [.str, .rows, .rows, .blocksE, .str] then some .rows else none
  | .enumValues, ks => if ks = [.blocksE, .blocksE] then some .blocksE else none
  | .enumValue, ks =>
    if ks = [.str, .str, .str, .str, .str, .str, .rows, .rows] then some .blocksE else none
  | .enumValueBody, ks => if ks = [.str, .rows, .rows, .str] then some .rows else none
  | .externalBody, ks => if ks = [.str, .rows, .rows, .str] then some .rows else none
  | .commentLine, ks => if ks = [.str, .str] then some .rows else none
  | .eol, ks => if ks = [.str, .rows] then some .rows else none
  | .emptyList, ks => if ks = [] then some .rows else none   -- refined below: `[]` has every list kind
  | .emptyString, ks => if ks = [] then some .str else none
  | .identity, ks => match ks with
    | [k] => some k
    | _ => none
  | .concatenate, ks => if ks.all (· == .str) then some .str else none
  | .concatenateWithPrefixSpaces, ks => if ks.all (· == .str) then some .str else none
  | .concatenateWithSpaces, ks => if ks.all (· == .str) then some .str else none
  | .concatenateLists, ks => if ks = [.rows, .rows] then some .rows else none
  | .docRstrip, ks => if ks = [.str] then some .str else none
  | .additiveExpressionRight, ks => if ks = [.str, .str] then some .str else none

/-- Kinds that the Python `[]` inhabits. -/
def Kind.hasEmpty : Kind → Bool
  | .rows | .blocksF | .blocksE | .sections => true
  | _ => false

/-- One registry entry is well typed: the handler is known and registered with the
right calling convention, and at the kinds of the production's right-hand side it
yields a value of the kind of the left-hand side. -/
def checkCore (r : Option Handler) (kl : Kind) (krs : List Kind) : Bool :=
  match r with
  | none => false
  | some .emptyList => krs.isEmpty && kl.hasEmpty
  | some h =>
    match h.sig krs with
    | some k => k.le kl
    | none => false

def checkEntry (e : String × List String × String × Bool) : Bool :=
  checkCore (resolve e) (kindOf e.1) (e.2.1.map kindOf)

/-- Argument positions a handler ignores (`del indent, dedent  # Unused`, `del eol`). -/
def Handler.dropped : Handler → List Nat
  | .structureBody => [0, 5]
  | .fieldBody | .enumValueBody | .externalBody | .inlineBitsBody => [0, 3]
  | .conditionalField => [5, 7]
  | .enumBody => [0, 4]
  | .commentLine => [1]
  | .eol => [0]
  | _ => []

/-- Every ignored argument position holds a layout terminal (Indent, Dedent, newline) in
the production the handler is registered for — so ignoring it loses no content. -/
def dropCore (r : Option Handler) (lay : List Bool) : Bool :=
  match r with
  | none => false
  | some h => h.dropped.all (fun i => match lay[i]? with
    | some b => b
    | none => false)

def dropOK (e : String × List String × String × Bool) : Bool :=
  dropCore (resolve e) (e.2.1.map isLayoutSym)

def tableTyped (tbl : Table) : Bool :=
  tbl.all checkEntry && tbl.all dropOK && tbl.all (fun e => !isLayoutSym e.1)

/-! ### The same obligations on the interned table

The regenerated table also comes with every symbol replaced by its index in `symbols`
(`formattersN`).  `tableTypedN` computes the kind and the layout flag of every symbol
*once* and then works on numbers, which the kernel evaluates quickly (kernel `String`
equality is slow); `decodeEntry` maps an interned entry back, and Lemmas/FmtTableOK.lean
proves that `tableTypedN` of the interned table implies `tableTyped` of the decoded one. -/

/-- `[l[i] for i in is]`, `none` if an index is out of range. -/
def getAll {α : Type} (l : List α) : List Nat → Option (List α)
  | [] => some []
  | i :: r =>
    match l[i]?, getAll l r with
    | some x, some xs => some (x :: xs)
    | _, _ => none

def decodeEntry (syms : List String) (e : Nat × List Nat × String × Bool) :
    Option (String × List String × String × Bool) :=
  match syms[e.1]?, getAll syms e.2.1 with
  | some l, some r => some (l, r, e.2.2.1, e.2.2.2)
  | _, _ => none

def decodeTable (syms : List String) : List (Nat × List Nat × String × Bool) → Option Table
  | [] => some []
  | e :: r =>
    match decodeEntry syms e, decodeTable syms r with
    | some d, some ds => some (d :: ds)
    | _, _ => none

def resolveN (e : Nat × List Nat × String × Bool) : Option Handler :=
  resolve ("", [], e.2.2.1, e.2.2.2)

def entryOKN (kinds : List Kind) (lays : List Bool) (e : Nat × List Nat × String × Bool) : Bool :=
  match kinds[e.1]?, getAll kinds e.2.1, lays[e.1]?, getAll lays e.2.1 with
  | some kl, some krs, some ll, some lrs =>
    checkCore (resolveN e) kl krs && dropCore (resolveN e) lrs && !ll
  | _, _, _, _ => false

def tableTypedN (syms : List String) (tblN : List (Nat × List Nat × String × Bool)) : Bool :=
  tblN.all (entryOKN (syms.map kindOf) (syms.map isLayoutSym))

def prodOf (e : String × List String × String × Bool) : String × List String := (e.1, e.2.1)

/-- `_check_productions` (the registered productions are exactly `module_ir.PRODUCTIONS`),
plus pairwise distinctness. -/
def tableMatchesGrammar (tbl : Table) (grammar : List (String × List String)) : Bool :=
  decide ((tbl.map prodOf).Nodup) &&
  grammar.all (fun p => (tbl.map prodOf).contains p) &&
  (tbl.map prodOf).all (fun p => grammar.contains p)

/-! ## Trees of the grammar -/

/-- Root symbol of a tree. -/
def rootSym (tbl : Table) : Tree → String
  | .tok sym _ => sym
  | .node p _ => match tbl[p]? with
    | some e => e.1
    | none => ""

/-- "Comment cannot follow Documentation on a line" (tokenizer: `-- .*` swallows it): in a
`doc-line -> doc Comment? eol` node the `Comment?` child is the empty production. -/
def docLineOK (tbl : Table) (h : Handler) (cs : List Tree) : Bool :=
  if h = .docLine then
    match cs with
    | [_, .node q [], _] => (tbl[q]?.bind resolve) == some .emptyString
    | _ => false
  else true

mutual
  /-- `t` is a parse tree over the registry's productions: every node's children carry
  the symbols of its production's right-hand side, tokens carry terminal symbols (symbols
  of kind `str`), and doc lines have no comment. -/
  def wf (tbl : Table) : Tree → Bool
    | .tok sym _ => kindOf sym == .str
    | .node p cs =>
      match tbl[p]? with
      | none => false
      | some e =>
        (cs.map (rootSym tbl) == e.2.1) && wfList tbl cs &&
          (match resolve e with
           | some h => docLineOK tbl h cs
           | none => false)
  def wfList (tbl : Table) : List Tree → Bool
    | [] => true
    | t :: ts => wf tbl t && wfList tbl ts
end

/-! ## What the formatter may not look at

Two parse trees are *equivalent* when they have the same productions node by node and the
same tokens, except that layout tokens (Indent, Dedent, newline: the source's indentation
and line ends) may carry any text and `Documentation` tokens may differ in trailing
blanks.  The property statement ("the same token sequence up to whitespace, blank lines
and trailing blanks in comments/documentation") allows the formatter to change exactly
these; idempotence needs the converse: the formatter's output must not *depend* on them. -/

def docSym : String := "Documentation"

def tokEquiv (s : String) (x x' : Str) : Bool :=
  isLayoutSym s || (if s == docSym then rstrip x == rstrip x' else x == x')

mutual
  def equivT : Tree → Tree → Bool
    | .tok s x, .tok s' x' => s == s' && tokEquiv s x x'
    | .node p cs, .node p' cs' => p == p' && equivL cs cs'
    | _, _ => false
  def equivL : List Tree → List Tree → Bool
    | [], [] => true
    | t :: ts, t' :: ts' => equivT t t' && equivL ts ts'
    | _, _ => false
end

/-- Table obligation for that: in every registered production, a right-hand-side position
that holds a layout terminal is one the handler ignores (`Handler.dropped`; the converse of
`dropOK`), and a `Documentation` terminal is only ever handed to `_doc`, which strips its
trailing blanks before anything measures it. -/
def normPos (h : Handler) : Nat → List String → Bool
  | _, [] => true
  | i, s :: rest =>
    (!isLayoutSym s || h.dropped.contains i) && (s != docSym || h == .docRstrip) &&
      normPos h (i + 1) rest

def normCore (r : Option Handler) (rhs : List String) : Bool :=
  match r with
  | none => false
  | some h => normPos h 0 rhs

def normOK (e : String × List String × String × Bool) : Bool := normCore (resolve e) e.2.1

def tableNormal (tbl : Table) : Bool := tbl.all normOK

/-! ## Content of values -/

def Row.content (r : Row) : Str := despace r.columns.flatten
def rowsContent (l : List Row) : Str := (l.map Row.content).flatten
def Block.content (b : Block) : Str := rowsContent b.pre ++ b.header.content ++ rowsContent b.body
def blocksContent (l : List Block) : Str := (l.map Block.content).flatten

def content : Fmt → Str
  | .str s => despace s
  | .strs l => despace l.flatten
  | .nil => []
  | .rows l => rowsContent l
  | .blocks l => blocksContent l
  | .sections l => (l.map rowsContent).flatten
  | .inlineBody h f => rowsContent h ++ blocksContent f

def contents (l : List Fmt) : Str := (l.map content).flatten

/-! ## Terminal pairs the formatter may juxtapose

`gluedPairs` computes, from the regenerated grammar and handler table, every pair of
terminals (last leaf of one argument, first leaf of a later argument, everything between
them able to be empty) that some handler prints with nothing in between.  `glue h i j`
transcribes, per handler, between which arguments no blank is inserted (read off the
format strings / joins of format_emb.py; columns of a row are always blank-separated by
`_columnize`).  `allowedGlued` is the audited list of computed pairs: for each of them
the harness checks on sample texts that the real tokenizer splits the juxtaposition
back into the two tokens.  The one pair that must not be glued, `("-", "-")` (`a - -b`
would become `a--b`, a documentation token), is kept apart by
`_additive_expression_right` (`keptApart`); no other handler can produce it. -/

/-- Arguments `i < j` of handler `h` are printed with nothing in between (when every
argument strictly between them is empty). -/
def glue : Handler → Nat → Nat → Bool
  | .concatenate, _, _ => true
  | .attribute, 0, _ => true
  | .attribute, 3, 4 => true
  | .attribute, 5, 6 => true
  | .parameterDefinition, 0, 1 => true
  | .fieldLocation, 1, 2 => true
  | .fieldLocation, 2, 3 => true
  | .fieldLocation, 3, 4 => true
  | .structureType, 1, 2 => true
  | .structureType, 1, 3 => true
  | .structureType, 2, 3 => true
  | .type_, 1, 2 => true
  | .conditionalField, 1, 2 => true
  | .inlineBits, 1, 2 => true
  | .inlineType, 2, 4 => true
  | .inlineType, 3, 4 => true
  | .additiveExpressionRight, 0, 1 => true   -- (except `keptApart`)
  | _, _, _ => false

/-- Terminal pairs (last terminal of the left argument, first terminal of the right one)
between which the handler inserts a blank although it glues the two arguments otherwise:
`_additive_expression_right` tests `operator == "-" and operand.startswith("-")`
(`minus` = the terminal `"-"`). -/
def keptApart {α : Type} [DecidableEq α] (minus : α) : Handler → α → α → Bool
  | .additiveExpressionRight, x, y => x == minus && y == minus
  | _, _, _ => false

/-! The computation is generic in the type of symbols (it is run on the table of strings
by the compiled checker, ops `GLUE`/`GLUECHECK`: obligation `C11_render_separable`.  A
kernel evaluation on an interned copy was tried and dropped: the kernel's call-by-name
evaluation recomputes the FIRST/LAST fixpoints at every use, > 15 min). -/

abbrev Gram (α : Type) := List (α × List α)
/-- A registry entry with its handler resolved. -/
abbrev GEntry (α : Type) := α × List α × Option Handler

section Generic
variable {α : Type} [DecidableEq α]

def addAll (acc : List α) (l : List α) : List α :=
  l.foldl (fun a x => if a.contains x then a else a ++ [x]) acc

/-- Apply `step` until nothing changes, at most `fuel` times. -/
def iterFix {β : Type} [DecidableEq β] (step : β → β) : Nat → β → β
  | 0, x => x
  | n + 1, x => let y := step x; if y = x then x else iterFix step n y

def nullableStep (g : Gram α) (ns : List α) : List α :=
  addAll ns ((g.filter (fun p => p.2.all ns.contains)).map (·.1))

/-- Symbols that can derive the empty token sequence. -/
def nullableSyms (g : Gram α) : List α := iterFix (nullableStep g) g.length []

def lookupSet (m : List (α × List α)) (s : α) : List α :=
  match m.find? (fun p => p.1 == s) with
  | some p => p.2
  | none => []

def isNonterminal (g : Gram α) (s : α) : Bool := g.any (fun p => p.1 == s)

/-- Terminals that can begin a derivation of the symbol sequence `rhs`. -/
def firstOfSeq (g : Gram α) (ns : List α) (m : List (α × List α)) : List α → List α
  | [] => []
  | s :: rest =>
    let here := if isNonterminal g s then lookupSet m s else [s]
    if ns.contains s then addAll here (firstOfSeq g ns m rest) else here

def setInsert (m : List (α × List α)) (k : α) (vs : List α) : List (α × List α) :=
  if m.any (fun p => p.1 == k) then m.map (fun p => if p.1 == k then (p.1, addAll p.2 vs) else p)
  else m ++ [(k, addAll [] vs)]

def edgeStep (g : Gram α) (ns : List α) (rev : Bool) (m : List (α × List α)) : List (α × List α) :=
  g.foldl (fun m p => setInsert m p.1 (firstOfSeq g ns m (if rev then p.2.reverse else p.2))) m

/-- FIRST sets (`rev = false`) or LAST sets (`rev = true`) of all nonterminals. -/
def edgeSets (g : Gram α) (rev : Bool) : List (α × List α) :=
  iterFix (edgeStep g (nullableSyms g) rev) g.length []

def symEdge (g : Gram α) (m : List (α × List α)) (s : α) : List α :=
  if isNonterminal g s then lookupSet m s else [s]

def leadOkSeq (ns S : List α) (rhs : List α) : Bool :=
  (rhs.foldl (fun (st : Bool × Bool) s =>
    -- st = (still scanning, verdict so far)
    if !st.1 then st
    else if !S.contains s then (false, false)
    else if ns.contains s then (true, true) else (false, true)) (true, true)).2

def leadOkEntry (ns S : List α) (e : GEntry α) : Bool :=
  match e.2.2 with
  | some .concatenateWithPrefixSpaces => true
  | some .emptyString => true
  | some .concatenate => leadOkSeq ns S e.2.1
  | some .identity => leadOkSeq ns S e.2.1
  | _ => false

def leadStep (tbl : List (GEntry α)) (ns S : List α) : List α :=
  S.filter (fun s => (tbl.filter (fun e => e.1 == s)).all (leadOkEntry ns S))

/-- Symbols whose rendering, when non-empty, always begins with a blank (results of
`_concatenate_with_prefix_spaces`, and concatenations/identities that begin with such a
symbol): greatest fixpoint. -/
def leadBlankSyms (tbl : List (GEntry α)) (g : Gram α) : List α :=
  iterFix (leadStep tbl (nullableSyms g)) g.length (addAll [] (g.map (·.1)))

def pairsOfEntry (minus : α) (g : Gram α) (ns : List α) (fs ls : List (α × List α))
    (lead : List α) (e : GEntry α) : List (α × α) :=
  match e.2.2 with
  | none => []
  | some h =>
    let rhs := e.2.1
    let n := rhs.length
    (List.range n).flatMap fun i =>
      (List.range n).flatMap fun j =>
        if i < j && glue h i j && ((rhs.drop (i + 1)).take (j - i - 1)).all ns.contains then
          match rhs[i]?, rhs[j]? with
          | some a, some b =>
            if lead.contains b then [] else
            (symEdge g ls a).flatMap fun x =>
              ((symEdge g fs b).filter fun y => !keptApart minus h x y).map fun y => (x, y)
          | _, _ => []
        else []

/-- Every terminal pair some handler can print without a blank in between. -/
def gluedPairsG (minus : α) (tbl : List (GEntry α)) : List (α × α) :=
  let g : Gram α := tbl.map (fun e => (e.1, e.2.1))
  let ns := nullableSyms g
  let fs := edgeSets g false
  let ls := edgeSets g true
  let lead := leadBlankSyms tbl g
  (tbl.flatMap (pairsOfEntry minus g ns fs ls lead)).foldl (fun a x => if a.contains x then a else a ++ [x]) []

/-- The four fixpoint computations did reach a fixpoint (they are cut off after as many
rounds as there are productions). -/
def fixpointsReached (tbl : List (GEntry α)) : Bool :=
  let g : Gram α := tbl.map (fun e => (e.1, e.2.1))
  let ns := nullableSyms g
  decide (nullableStep g ns = ns) &&
  decide (edgeStep g ns false (edgeSets g false) = edgeSets g false) &&
  decide (edgeStep g ns true (edgeSets g true) = edgeSets g true) &&
  decide (leadStep tbl ns (leadBlankSyms tbl g) = leadBlankSyms tbl g)

end Generic

abbrev Grammar := Gram String

def minusSym : String := "\"-\""

def resolved (tbl : Table) : List (GEntry String) := tbl.map (fun e => (e.1, e.2.1, resolve e))

/-- On the table of strings (the productions of the registry are the grammar: `C11_table_ok`). -/
def gluedPairs (tbl : Table) : List (String × String) := gluedPairsG minusSym (resolved tbl)

def allowedGlued : List (String × String) := [
  ("\"[\"", "\"(\""),
  ("\"[\"", "\"$default\""),
  ("\"[\"", "SnakeWord"),
  ("SnakeWord", "\":\""),
  ("String", "\"]\""),
  ("\")\"", "\"]\""),
  ("BooleanConstant", "\"]\""),
  ("Number", "\"]\""),
  ("ShoutyWord", "\"]\""),
  ("\"$next\"", "\"]\""),
  ("\"$static_size_in_bits\"", "\"]\""),
  ("\"$is_statically_sized\"", "\"]\""),
  ("\"$min_size_in_bytes\"", "\"]\""),
  ("\"$min_size_in_bits\"", "\"]\""),
  ("\"$max_size_in_bytes\"", "\"]\""),
  ("\"$max_size_in_bits\"", "\"]\""),
  ("\"$size_in_bytes\"", "\"]\""),
  ("\"$size_in_bits\"", "\"]\""),
  ("SnakeWord", "\"]\""),
  ("CamelWord", "\"(\""),
  ("CamelWord", "\":\""),
  ("\")\"", "\":\""),
  ("\"[\"", "\"+\""),
  ("\"+\"", "\"-\""),
  ("\"+\"", "\"+\""),
  ("\"+\"", "\"(\""),
  ("\"+\"", "BooleanConstant"),
  ("\"+\"", "\"$lower_bound\""),
  ("\"+\"", "\"$upper_bound\""),
  ("\"+\"", "\"$present\""),
  ("\"+\"", "\"$max\""),
  ("\"+\"", "Number"),
  ("\"+\"", "\"$min_size_in_bytes\""),
  ("\"+\"", "\"$min_size_in_bits\""),
  ("\"+\"", "\"$max_size_in_bytes\""),
  ("\"+\"", "\"$max_size_in_bits\""),
  ("\"+\"", "\"$size_in_bytes\""),
  ("\"+\"", "\"$size_in_bits\""),
  ("\"+\"", "SnakeWord"),
  ("\"+\"", "\"$next\""),
  ("\"+\"", "\"$static_size_in_bits\""),
  ("\"+\"", "\"$is_statically_sized\""),
  ("\"+\"", "ShoutyWord"),
  ("\"+\"", "CamelWord"),
  ("\"bits\"", "\":\""),
  ("BooleanConstant", "\":\""),
  ("Number", "\":\""),
  ("ShoutyWord", "\":\""),
  ("\"$next\"", "\":\""),
  ("\"$static_size_in_bits\"", "\":\""),
  ("\"$is_statically_sized\"", "\":\""),
  ("\"$min_size_in_bytes\"", "\":\""),
  ("\"$min_size_in_bits\"", "\":\""),
  ("\"$max_size_in_bytes\"", "\":\""),
  ("\"$max_size_in_bits\"", "\":\""),
  ("\"$size_in_bytes\"", "\":\""),
  ("\"$size_in_bits\"", "\":\""),
  ("\")\"", "\",\""),
  ("BooleanConstant", "\",\""),
  ("Number", "\",\""),
  ("ShoutyWord", "\",\""),
  ("\"$next\"", "\",\""),
  ("\"$static_size_in_bits\"", "\",\""),
  ("\"$is_statically_sized\"", "\",\""),
  ("\"$min_size_in_bytes\"", "\",\""),
  ("\"$min_size_in_bits\"", "\",\""),
  ("\"$max_size_in_bytes\"", "\",\""),
  ("\"$max_size_in_bits\"", "\",\""),
  ("\"$size_in_bytes\"", "\",\""),
  ("\"$size_in_bits\"", "\",\""),
  ("SnakeWord", "\",\""),
  ("\"$lower_bound\"", "\"(\""),
  ("\"$upper_bound\"", "\"(\""),
  ("\"$present\"", "\"(\""),
  ("\"$max\"", "\"(\""),
  ("\"(\"", "\"-\""),
  ("\"(\"", "\"+\""),
  ("\"(\"", "\"(\""),
  ("\"(\"", "BooleanConstant"),
  ("\"(\"", "\"$lower_bound\""),
  ("\"(\"", "\"$upper_bound\""),
  ("\"(\"", "\"$present\""),
  ("\"(\"", "\"$max\""),
  ("\"(\"", "Number"),
  ("\"(\"", "\"$min_size_in_bytes\""),
  ("\"(\"", "\"$min_size_in_bits\""),
  ("\"(\"", "\"$max_size_in_bytes\""),
  ("\"(\"", "\"$max_size_in_bits\""),
  ("\"(\"", "\"$size_in_bytes\""),
  ("\"(\"", "\"$size_in_bits\""),
  ("\"(\"", "SnakeWord"),
  ("\"(\"", "\"$next\""),
  ("\"(\"", "\"$static_size_in_bits\""),
  ("\"(\"", "\"$is_statically_sized\""),
  ("\"(\"", "ShoutyWord"),
  ("\"(\"", "CamelWord"),
  ("\"(\"", "\")\""),
  ("\")\"", "\")\""),
  ("BooleanConstant", "\")\""),
  ("Number", "\")\""),
  ("ShoutyWord", "\")\""),
  ("\"$next\"", "\")\""),
  ("\"$static_size_in_bits\"", "\")\""),
  ("\"$is_statically_sized\"", "\")\""),
  ("\"$min_size_in_bytes\"", "\")\""),
  ("\"$min_size_in_bits\"", "\")\""),
  ("\"$max_size_in_bytes\"", "\")\""),
  ("\"$max_size_in_bits\"", "\")\""),
  ("\"$size_in_bytes\"", "\")\""),
  ("\"$size_in_bits\"", "\")\""),
  ("SnakeWord", "\")\""),
  ("SnakeWord", "\".\""),
  ("\".\"", "CamelWord"),
  ("\"-\"", "\"(\""),
  ("\"-\"", "BooleanConstant"),
  ("\"-\"", "\"$lower_bound\""),
  ("\"-\"", "\"$upper_bound\""),
  ("\"-\"", "\"$present\""),
  ("\"-\"", "\"$max\""),
  ("\"-\"", "Number"),
  ("\"-\"", "\"$min_size_in_bytes\""),
  ("\"-\"", "\"$min_size_in_bits\""),
  ("\"-\"", "\"$max_size_in_bytes\""),
  ("\"-\"", "\"$max_size_in_bits\""),
  ("\"-\"", "\"$size_in_bytes\""),
  ("\"-\"", "\"$size_in_bits\""),
  ("\"-\"", "SnakeWord"),
  ("\"-\"", "\"$next\""),
  ("\"-\"", "\"$static_size_in_bits\""),
  ("\"-\"", "\"$is_statically_sized\""),
  ("\"-\"", "ShoutyWord"),
  ("\"-\"", "CamelWord"),
  ("\"$min_size_in_bytes\"", "\".\""),
  ("\"$min_size_in_bits\"", "\".\""),
  ("\"$max_size_in_bytes\"", "\".\""),
  ("\"$max_size_in_bits\"", "\".\""),
  ("\"$size_in_bytes\"", "\".\""),
  ("\"$size_in_bits\"", "\".\""),
  ("\".\"", "\"$min_size_in_bytes\""),
  ("\".\"", "\"$min_size_in_bits\""),
  ("\".\"", "\"$max_size_in_bytes\""),
  ("\".\"", "\"$max_size_in_bits\""),
  ("\".\"", "\"$size_in_bytes\""),
  ("\".\"", "\"$size_in_bits\""),
  ("\".\"", "SnakeWord"),
  ("\")\"", "\"*\""),
  ("BooleanConstant", "\"*\""),
  ("Number", "\"*\""),
  ("ShoutyWord", "\"*\""),
  ("\"$next\"", "\"*\""),
  ("\"$static_size_in_bits\"", "\"*\""),
  ("\"$is_statically_sized\"", "\"*\""),
  ("\"$min_size_in_bytes\"", "\"*\""),
  ("\"$min_size_in_bits\"", "\"*\""),
  ("\"$max_size_in_bytes\"", "\"*\""),
  ("\"$max_size_in_bits\"", "\"*\""),
  ("\"$size_in_bytes\"", "\"*\""),
  ("\"$size_in_bits\"", "\"*\""),
  ("SnakeWord", "\"*\""),
  ("\"*\"", "\"-\""),
  ("\"*\"", "\"+\""),
  ("\"*\"", "\"(\""),
  ("\"*\"", "BooleanConstant"),
  ("\"*\"", "\"$lower_bound\""),
  ("\"*\"", "\"$upper_bound\""),
  ("\"*\"", "\"$present\""),
  ("\"*\"", "\"$max\""),
  ("\"*\"", "Number"),
  ("\"*\"", "\"$min_size_in_bytes\""),
  ("\"*\"", "\"$min_size_in_bits\""),
  ("\"*\"", "\"$max_size_in_bytes\""),
  ("\"*\"", "\"$max_size_in_bits\""),
  ("\"*\"", "\"$size_in_bytes\""),
  ("\"*\"", "\"$size_in_bits\""),
  ("\"*\"", "SnakeWord"),
  ("\"*\"", "\"$next\""),
  ("\"*\"", "\"$static_size_in_bits\""),
  ("\"*\"", "\"$is_statically_sized\""),
  ("\"*\"", "ShoutyWord"),
  ("\"*\"", "CamelWord"),
  ("\"]\"", "\",\""),
  ("CamelWord", "\",\""),
  ("\"]\"", "\")\""),
  ("CamelWord", "\")\""),
  ("\"[\"", "\"]\""),
  ("\")\"", "\"-\""),
  ("\")\"", "\"+\""),
  ("BooleanConstant", "\"-\""),
  ("BooleanConstant", "\"+\""),
  ("Number", "\"-\""),
  ("Number", "\"+\""),
  ("ShoutyWord", "\"-\""),
  ("ShoutyWord", "\"+\""),
  ("\"$next\"", "\"-\""),
  ("\"$next\"", "\"+\""),
  ("\"$static_size_in_bits\"", "\"-\""),
  ("\"$static_size_in_bits\"", "\"+\""),
  ("\"$is_statically_sized\"", "\"-\""),
  ("\"$is_statically_sized\"", "\"+\""),
  ("\"$min_size_in_bytes\"", "\"-\""),
  ("\"$min_size_in_bytes\"", "\"+\""),
  ("\"$min_size_in_bits\"", "\"-\""),
  ("\"$min_size_in_bits\"", "\"+\""),
  ("\"$max_size_in_bytes\"", "\"-\""),
  ("\"$max_size_in_bytes\"", "\"+\""),
  ("\"$max_size_in_bits\"", "\"-\""),
  ("\"$max_size_in_bits\"", "\"+\""),
  ("\"$size_in_bytes\"", "\"-\""),
  ("\"$size_in_bytes\"", "\"+\""),
  ("\"$size_in_bits\"", "\"-\""),
  ("\"$size_in_bits\"", "\"+\""),
  ("SnakeWord", "\"-\""),
  ("SnakeWord", "\"+\""),
  ("\"-\"", "\"+\""),
  ("CamelWord", "\".\""),
  ("\".\"", "ShoutyWord"),
  ("\":\"", "Number"),
  ("\"]\"", "\"[\""),
  ("\"[\"", "\"-\""),
  ("\"[\"", "BooleanConstant"),
  ("\"[\"", "\"$lower_bound\""),
  ("\"[\"", "\"$upper_bound\""),
  ("\"[\"", "\"$present\""),
  ("\"[\"", "\"$max\""),
  ("\"[\"", "Number"),
  ("\"[\"", "\"$min_size_in_bytes\""),
  ("\"[\"", "\"$min_size_in_bits\""),
  ("\"[\"", "\"$max_size_in_bytes\""),
  ("\"[\"", "\"$max_size_in_bits\""),
  ("\"[\"", "\"$size_in_bytes\""),
  ("\"[\"", "\"$size_in_bits\""),
  ("\"[\"", "\"$next\""),
  ("\"[\"", "\"$static_size_in_bits\""),
  ("\"[\"", "\"$is_statically_sized\""),
  ("\"[\"", "ShoutyWord"),
  ("\"[\"", "CamelWord"),
  ("CamelWord", "\"[\""),
  ("\")\"", "\"[\""),
  ("Number", "\"[\"")
]

/-- The separability obligation on the regenerated table: the fixpoint computations
converged, and every terminal pair some handler prints with nothing in between is in the
audited list (none of whose pairs the tokenizer merges or splits differently — sampled on
the real tokenizer on every run). -/
def gluedOK (tbl : Table) : Bool :=
  fixpointsReached (resolved tbl) && (gluedPairs tbl).all (fun p => allowedGlued.contains p)

end Emboss.Fmt
