import Emboss.Properties.C06
open Emboss.Text
#print axioms C06_int_roundtrip
#print axioms C06_decode_no_wrap
#print axioms C06_decode_rejects
#print axioms C06_decode_accepts
#print axioms C06_tokens_roundtrip
#print axioms C06_single_line_comments_counterexample
#print axioms C06_text_roundtrip_partial
#print axioms C06_text_roundtrip_hypothesis_exact
#print axioms C06_array_multiline_counterexample
#print axioms C06_struct_roundtrip_partial
#print axioms C06_struct_roundtrip_counterexample
#print axioms C06_struct_roundtrip_described
#print axioms C06_emission_order
#print axioms C06_emission_after_dependencies
#print axioms C06_emission_after_transitive_dependencies
