/-
C05 — Inferred integer bounds and alignments are sound, and tight where documented.

Model: Emboss/Model/Bounds.lean (expression_bounds.py, ir_util.constant_value,
constraints._integer_bounds_errors_for_expression, _cpp_integer_type_for_range),
Model/ExprType.lean (`tyOf`), Model/CppArith.lean (`intRanges`, `hullOf`).
Spec:  Emboss/Spec/Bounds.lean (γ, evaluation over ℤ/Bool, physical leaf ranges),
Spec/BoundsInv.lean (`InvOk`, `GivenOk`, `LinOnce`), Spec/BoundsSize.lean (`sizeExpr`),
Spec/BoundsArith.lean (`ArithOnly`).
-/
import Emboss.Lemmas.BoundsSound
import Emboss.Lemmas.BoundsGate
import Emboss.Lemmas.BoundsTight
import Emboss.Lemmas.BoundsTyped
namespace Emboss.Bounds
open ExtInt

/-- **Soundness.**  For every expression `e`, every environment whose leaves hold values
of their physical types, if the analysis attaches the type `ty` to `e` (it did not
raise) and `e` evaluates to `v`, then `v ∈ γ(ty)`: `min ≤ v ≤ max`,
`v ≡ modular_value (mod modulus)`; a boolean/enum type with a value is that value. -/
theorem C05_sound (ρ : Env) (e : Expr) (ty : AType) (v : CVal)
    (henv : EnvOk ρ e) (habs : abs e = some ty) (hev : eval ρ e = some v) : GammaT ty v :=
  (sound_aux ρ e henv v hev).1 ty habs

/-- non-vacuity: `(a0 * 12 + 7) * (a1 * 20 + 15)` over `UInt:12 a0`, `Int:9 a1` gets the
    var×var modulus 20 and remainder 5, and a concrete environment satisfies the hypotheses -/
example :
    let e : Expr := .bin .mul (.bin .add (.bin .mul (.ileaf 0 .uint (some 12)) (.const 12)) (.const 7))
                               (.bin .add (.bin .mul (.ileaf 1 .sint (some 9)) (.const 20)) (.const 15))
    let ρ : Env := ⟨fun i => if i = 0 then 4095 else -256, fun _ => false, fun _ => 0⟩
    abs e = some (.int ⟨.fin (-250895435), .fin 251386905, .fin 20, .fin 5⟩) ∧
    eval ρ e = some (.int (-250895435)) ∧ EnvOk ρ e := by
  refine ⟨by decide +kernel, by decide +kernel, ?_⟩
  simp [EnvOk, InPhys]

/-- **Constants are exact.**  An expression the compiler treats as constant
(`modulus = "infinity"`) has exactly the value `modular_value`. -/
theorem C05_constant_exact (ρ : Env) (e : Expr) (a : AVal) (v : Int)
    (henv : EnvOk ρ e) (habs : abs e = some (.int a)) (hconst : a.modulus = .inf)
    (hev : eval ρ e = some (.int v)) : a.mv = .fin v :=
  Gamma.const (C05_sound ρ e _ _ henv habs hev) hconst

example : abs (.bin .mul (.const 0) (.ileaf 0 .uint (some 8))) =
    some (.int ⟨.fin 0, .fin 0, .inf, .fin 0⟩) := by decide +kernel

/-- **`ir_util.constant_value` agrees with evaluation** (and therefore with the
annotation whenever both say "constant"). -/
theorem C05_constant_value_agrees (ρ : Env) (e : Expr) (x v : CVal)
    (henv : EnvOk ρ e) (hcv : cv e = .val x) (hev : eval ρ e = some v) : v = x :=
  (sound_aux ρ e henv v hev).2 x hcv

example : cv (.bin .and (.bconst false) (.bin .eq (.ileaf 0 .uint (some 8)) (.const 1))) =
    .val (.bool false) := by decide +kernel

/-- **`$upper_bound` / `$lower_bound` are true bounds.** -/
theorem C05_bounds_functions (ρ : Env) (e : Expr) (v u l : Int) (henv : EnvOk ρ e)
    (hev : eval ρ e = some (.int v)) :
    (eval ρ (.upper e) = some (.int u) → v ≤ u) ∧ (eval ρ (.lower e) = some (.int l) → l ≤ v) :=
  ⟨(eval_bound_le henv hev).1 u, (eval_bound_le henv hev).2 l⟩

example : eval ⟨fun _ => 200, fun _ => false, fun _ => 0⟩
    (.upper (.bin .add (.ileaf 0 .uint (some 8)) (.const 1))) = some (.int 256) := by decide +kernel

/-- references to virtual fields (`vref`): `let c = 3`, `let v0 = (c == 3)`,
    `let v1 = ((c * a0) + c)` over `UInt:8 a0` — the comparison is **not** folded
    (`constant_value` of a field reference is unknown) while the arithmetic uses the copied
    constant annotation; exactly what the front end does -/
example :
    let c : Expr := .vref (.const 3)
    abs (.bin .eq c (.const 3)) = some (.bool none) ∧ cv (.bin .eq c (.const 3)) = .unknown ∧
    abs (.bin .add (.bin .mul c (.ileaf 0 .uint (some 8))) c) =
      some (.int ⟨.fin 3, .fin 768, .fin 3, .fin 0⟩) := by
  decide +kernel

/-- **`$max_size_in_*` / `$min_size_in_*` bound the run-time size, which bounds every
present field.**  `sizeExpr fs` is the expression `synthetics._add_size_virtuals` builds for
`$size_in_bits`/`$size_in_bytes` (`$max(0, cond ? start + size : 0, …)` over the physical
fields; the harness checks that shape on every structure of every compiled module), and
`$max_size_in_*`/`$min_size_in_*` are `$upper_bound`/`$lower_bound` of it.  For every
environment: the size is ≥ 0, every field whose existence condition holds ends at or before
the size, and `$min_size ≤ size ≤ $max_size`; hence every present field ends at or before
`$max_size_in_*` (`MaxSizeInBytes()`). -/
theorem C05_size_bounds (ρ : Env) (fs : List PField) (v : Int)
    (henv : EnvOk ρ (sizeExpr fs)) (hev : eval ρ (sizeExpr fs) = some (.int v)) :
    0 ≤ v ∧
    (∀ f ∈ fs, ∀ s z : Int, eval ρ f.cond = some (.bool true) →
      eval ρ f.start = some (.int s) → eval ρ f.size = some (.int z) → s + z ≤ v) ∧
    (∀ u, eval ρ (.upper (sizeExpr fs)) = some (.int u) → v ≤ u) ∧
    (∀ l, eval ρ (.lower (sizeExpr fs)) = some (.int l) → l ≤ v) := by
  obtain ⟨h0, h1⟩ := sizeExpr_ge hev
  exact ⟨h0, h1, eval_bound_le henv hev⟩

/-- non-vacuity: `0 [+1] UInt n; if n > 3: 1 [+n] UInt:8[] payload` — the size is
    `$max(0, true ? 0+1 : 0, n > 3 ? 1+n : 0)`, `$max_size` is 256, `$min_size` is 1, and
    for n = 200 the size is 201 -/
example :
    let n : Expr := .ileaf 0 .uint (some 8)
    let fs : List PField := [⟨.bconst true, .const 0, .const 1⟩, ⟨.bin .gt n (.const 3), .const 1, n⟩]
    let ρ : Env := ⟨fun _ => 200, fun _ => false, fun _ => 0⟩
    eval ρ (sizeExpr fs) = some (.int 201) ∧
    eval ρ (.upper (sizeExpr fs)) = some (.int 256) ∧
    eval ρ (.lower (sizeExpr fs)) = some (.int 1) ∧ EnvOk ρ (sizeExpr fs) := by
  refine ⟨by decide +kernel, by decide +kernel, by decide +kernel, ?_⟩
  simp [sizeExpr, sizeClause, EnvOk, EnvOkList, InPhys]

/-- **The 64-bit gate implies one C++ type.**  If `_integer_bounds_errors_for_expression`
accepts a run-time (non-constant) function node, every integer clause (result and operands)
has finite bounds and one of int32/uint32/int64/uint64 — the one
`_cpp_integer_type_for_range` returns for the hull — holds all of them.  (Feeds
`C04_no_overflow`.) -/
theorem C05_gate_implies_one_type (ty : AType) (args : List ATree)
    (h : gate (.node true ty args) = some []) (hnc : isConstType ty = false) :
    ∃ rs, intRanges (ty :: argTys args) = some rs ∧
      (hullOf rs = none ∨
       ∃ lo hi it, hullOf rs = some (lo, hi) ∧ cppTypeForRange lo hi = some it ∧
         ∀ p ∈ rs, it.lo ≤ p.1 ∧ p.2 ≤ it.hi) :=
  (gate_one_type h hnc).2

/-- non-vacuity (and the gate is not trivially true): uint64 + small is accepted with one
    type; int64 compared with uint64 is rejected as mixed -/
example :
    gate (.node true (.int ⟨.fin 0, .fin 18446744073709551615, .fin 1, .fin 0⟩)
      [.node false (.int ⟨.fin 0, .fin 18446744073709551000, .fin 1, .fin 0⟩) [],
       .node false (.int ⟨.fin 0, .fin 615, .fin 1, .fin 0⟩) []]) = some [] ∧
    gate (.node true (.bool none)
      [.node false (.int ⟨.fin 0, .fin 18446744073709551615, .fin 1, .fin 0⟩) [],
       .node false (.int ⟨.fin (-9223372036854775808), .fin 9223372036854775807, .fin 1, .fin 0⟩) []])
      = some [.mixed] := by
  constructor <;> decide +kernel

/-!
### The invariant `_assert_integer_constraints`

`invPy` is the assert block of `_assert_integer_constraints` as written.  The inductive
invariant is `InvOk a := invPy a = some true ∧ CanonMv a ∧ FiniteConst a`
(Spec/BoundsInv.lean, a decidable `Bool`):
* `FiniteConst` — no "constant infinity" (`modulus = modular_value = "infinity"`), which
  passes the asserts and crashes `+ - * ?:`; no transfer function produces it
  (`$upper_bound` / `$lower_bound` of an infinite bound yield the unbounded annotation, finding F8);
* `CanonMv` — `0 ≤ modular_value < modulus`: what every transfer function produces
  (`% modulus`) and what the asserts force whenever one bound is finite; needed because the
  asserts never look at `modular_value` of a value without finite bounds
  (`C05_inv_needs_canonical_counterexample`).
Proved: every transfer function maps `InvOk` arguments to a result — it does **not raise** —
that is `InvOk` again (`C05_inv_transfer`, `C05_inv_transfer_max`), leaves and literals
satisfy it (`C05_inv_leaves`), hence **every** annotation `abs` attaches passes
`_assert_integer_constraints` (`C05_inv_preserved`, no side condition on the expression).
Totality: `abs` (and `ir_util.constant_value`) return on every well-typed expression,
comparisons, `&&`, `||` and `?:` on arbitrary conditions included (`C05_no_crash`; the typing
discipline `tyOf` is Model/ExprType.lean); `C05_no_crash_arith` is the special case of the
arithmetic fragment, stated without `tyOf`.
-/

/-- **Every transfer function preserves the invariant and does not raise.**
`+`, `-`, `*` (const×const, const×var, var×var), `?:` with an unknown condition,
`$upper_bound`/`$lower_bound`. -/
theorem C05_inv_transfer (l r : AVal) (hl : InvOk l = true) (hr : InvOk r = true) :
    (∀ isSub, ∃ a, additive isSub l r = some a ∧ InvOk a = true) ∧
    (∃ a, multiplicative l r = some a ∧ InvOk a = true) ∧
    (∃ a, choiceHull l r = some a ∧ InvOk a = true) ∧
    (∀ up, InvOk (boundFn up l) = true) := by
  simp only [InvOk_iff] at hl hr ⊢
  exact ⟨fun s => additive_inv s hl hr, multiplicative_inv hl hr, choiceHull_inv hl hr,
    fun up => boundFn_invS up l⟩

/-- non-vacuity: the var×var example of the soundness theorem, on the annotations -/
example :
    let l : AVal := ⟨.fin 7, .fin 49147, .fin 12, .fin 7⟩
    let r : AVal := ⟨.fin (-5105), .fin 5115, .fin 20, .fin 15⟩
    InvOk l = true ∧ InvOk r = true ∧
    multiplicative l r = some ⟨.fin (-250895435), .fin 251386905, .fin 20, .fin 5⟩ := by
  decide +kernel

/-- **`$max` preserves the invariant and does not raise** (any positive number of arguments). -/
theorem C05_inv_transfer_max (args : List AVal) (hne : args ≠ [])
    (h : ∀ a ∈ args, InvOk a = true) : ∃ r, maxFn args = some r ∧ InvOk r = true := by
  simp only [InvOk_iff] at h ⊢
  exact maxFn_inv hne h

example : maxFn [⟨.fin 7, .fin 247, .fin 12, .fin 7⟩, constRange 500] = some (constRange 500) ∧
    maxFn [⟨.fin 7, .fin 247, .fin 12, .fin 7⟩, ⟨.fin 15, .fin 95, .fin 20, .fin 15⟩] =
      some ⟨.fin 15, .fin 247, .fin 4, .fin 3⟩ := by decide +kernel

/-- **The invariant holds at the leaves**: every physical leaf — any kind, any size, sizes
< 1 and unknown sizes included (they get the unbounded annotation) —,
`$static_size_in_bits`, integer literals. -/
theorem C05_inv_leaves (k : LeafKind) (size : Option Int) (v : Int) :
    InvOk (leafRange k size) = true ∧ InvOk staticSizeRange = true ∧
    InvOk (constRange v) = true :=
  ⟨leafRange_invOk k size, by decide, InvOk_const v⟩

/-- **`_assert_integer_constraints` holds of every annotation** the analysis attaches to an
expression whose preset `$logical_value` annotations satisfy the invariant (`GivenOk`); by
`abs`'s recursion the same holds at every subexpression.  The conclusion is the
strengthened, inductive invariant. -/
theorem C05_inv_preserved (e : Expr) (hg : GivenOk e = true)
    (a : AVal) (h : abs e = some (.int a)) : invPy a = some true ∧ InvOk a = true := by
  have h1 : InvOk a = true := InvOk_of_InvS (inv_aux e hg _ h)
  refine ⟨?_, h1⟩
  simp only [InvOk, Bool.and_eq_true, beq_iff_eq] at h1
  exact h1.1.1

/-- non-vacuity: the hypotheses hold of a non-trivial expression with `$upper_bound`,
    `?:`, `$max` and a var×var product, and `abs` returns -/
example :
    let e : Expr := .bin .mul
      (.bin .add (.bin .mul (.ileaf 0 .uint (some 12)) (.const 12)) (.upper (.ileaf 2 .bcd (some 7))))
      (.max [.choice (.bleaf 0) (.ileaf 1 .sint (some 9)) (.const 15), .const 3])
    GivenOk e = true ∧
    abs e = some (.int ⟨.fin 237, .fin 12550845, .fin 1, .fin 0⟩) := by
  decide +kernel

/-- **The analysis never raises on the arithmetic fragment.**  For every integer expression
over literals, integer leaves of any kind/size, `$static_size_in_bits`, `$logical_value`,
references to virtual fields, `+ - *`, `$max`, `$upper_bound`, `$lower_bound` and `?:` on a
boolean field or literal (`ArithOnly`): `compute_constraints_of_expression` returns — no
assert fails, no `int("infinity")`, no `"infinity" % n` — an integer annotation satisfying
the invariant.  (Comparisons, `&&`, `||` and `?:` on arbitrary conditions are covered by
`C05_no_crash`.) -/
theorem C05_no_crash_arith (e : Expr) (h : ArithOnly e = true) (hg : GivenOk e = true) :
    ∃ a, abs e = some (.int a) ∧ InvOk a = true := by
  simp only [InvOk_iff]
  exact total_aux e h hg

/-- non-vacuity; `$upper_bound` of an unbounded leaf times 2 (the input of finding F8) is in the fragment -/
example :
    let e : Expr := .choice (.bleaf 0)
      (.bin .sub (.vref (.bin .mul (.ileaf 0 .sint (some 16)) (.const (-6)))) (.upper (.ileaf 2 .bcd (some 12))))
      (.max [.given 3 ⟨.fin 4, .posInf, .fin 8, .fin 4⟩, .lower (.ileaf 4 .uint (some 3))])
    ArithOnly e = true ∧ GivenOk e = true ∧
    ArithOnly (.bin .mul (.upper (.ileaf 0 .uint none)) (.const 2)) = true := by
  decide +kernel

/-- **The analysis never raises on a well-typed expression.**  For every expression that is
well typed with type `τ` (`tyOf e = some τ`: `+ - *` on integers, `< <= > >=` on integers,
`== !=` on two integers / two booleans / two enum values, `&& ||` on booleans, `?:` on a boolean
and two operands of one type, `$max` of ≥ 1 integers, `$upper_bound`/`$lower_bound` of an
integer, literals, fields, parameters, references to virtual fields) whose preset annotations
satisfy the invariant: `compute_constraints_of_expression` returns an annotation of type `τ`
that satisfies the invariant, and `ir_util.constant_value` does not raise and, when it knows
a value, the value has type `τ`.  No assert fails, no `int("infinity")`, no `"infinity" % n`,
no `KeyError`. -/
theorem C05_no_crash (e : Expr) (τ : Ty) (ht : tyOf e = some τ) (hg : GivenOk e = true) :
    (∃ ty, abs e = some ty ∧ ty.tag = τ ∧ InvOkT ty = true) ∧
    cv e ≠ .crash ∧ (∀ x, cv e = .val x → x.tag = τ) := by
  obtain ⟨⟨ty, habs, htag⟩, hc1, hc2⟩ := typed_aux e τ ht hg
  exact ⟨⟨ty, habs, htag, InvT_iff.mpr (inv_aux e hg ty habs)⟩, hc1, hc2⟩

/-- non-vacuity: `((a0 + 1 > $upper_bound(a1)) && (en == En.AA || fl)) ? $max(a0, 3) : a0 * dyn`
    (with `dyn` of unknown size) is well typed; an ill-typed comparison is not, and there the
    model's `abs` has no answer (type_check.py rejects such input before bounds are computed) -/
example :
    let a0 : Expr := .ileaf 0 .uint (some 8)
    let e : Expr := .choice
      (.bin .and (.bin .gt (.bin .add a0 (.const 1)) (.upper (.ileaf 1 .sint (some 16))))
                 (.bin .or (.bin .eq (.eleaf 0) (.econst 1)) (.bleaf 0)))
      (.max [a0, .const 3]) (.bin .mul a0 (.ileaf 2 .uint none))
    tyOf e = some .int ∧ GivenOk e = true ∧
    tyOf (.bin .lt (.bleaf 0) (.const 1)) = none ∧ abs (.bin .lt (.bconst true) (.const 1)) = none := by
  decide +kernel

/-- **`invPy` alone is not inductive**: an annotation without finite bounds passes the
asserts whatever its `modular_value` is; `+` then raises.  (Never produced by the code:
`CanonMv` is part of `InvOk`, which is what `C05_inv_preserved` proves.) -/
theorem C05_inv_needs_canonical_counterexample :
    let a : AVal := ⟨.negInf, .posInf, .fin 3, .posInf⟩
    invPy a = some true ∧ FiniteConst a = true ∧ additive false a (constRange 1) = none := by
  decide +kernel

/-- `$upper_bound` of an unbounded argument is the unbounded annotation (finding F8), and
    arithmetic on it returns (the 64-bit gate then rejects the expression as unbounded);
    `ir_util.constant_value` of a bound function is read from the annotation -/
example :
    abs (.bin .mul (.upper (.ileaf 0 .uint none)) (.const 2)) =
      some (.int ⟨.negInf, .posInf, .fin 2, .fin 0⟩) ∧
    abs (.bin .eq (.upper (.const 3)) (.const 3)) = some (.bool (some true)) ∧
    cv (.upper (.const 3)) = .val (.int 3) ∧
    cv (.upper (.ileaf 0 .uint none)) = .unknown := by
  decide +kernel

/-!
### Tightness

`LinOnce` (Spec/BoundsInv.lean) is the fragment of the property statement's tightness
clause: expressions over `+`, `-`, `*`, `$max`, integer literals and physical integer leaves
of known size ≥ 1 in which every leaf occurs at most once (operands of every operator
mention disjoint leaves).  It contains the linear forms `c0 + c1*x1 + … + cn*xn`; products of
distinct leaves are included because the four-corner extrema are attained when the factors
vary independently.  `?:` is *not* in the fragment, and cannot be:
`C05_tight_choice_counterexample`.
-/

/-- **Tightness.**  For every expression of the single-occurrence fragment the analysis
returns (does not raise), both inferred bounds are finite, and each is attained: there is
an environment whose leaves hold values of their physical types under which the
expression evaluates to the inferred minimum, and one for the inferred maximum. -/
theorem C05_tight_linear (e : Expr) (h : LinOnce e = true) :
    ∃ a lo hi, abs e = some (.int a) ∧ a.min = .fin lo ∧ a.max = .fin hi ∧
      (∃ ρ, EnvOk ρ e ∧ eval ρ e = some (.int lo)) ∧
      (∃ ρ, EnvOk ρ e ∧ eval ρ e = some (.int hi)) := by
  obtain ⟨a, habs, _, ⟨lo, h1, h3⟩, ⟨hi, h2, h4⟩⟩ := tight_aux e h
  exact ⟨a, lo, hi, habs, h1, h2, h3, h4⟩

/-- non-vacuity: `$max(3*a0 - a1, a2*a3 + 7, 100)` over `UInt:8 a0`, `Int:8 a1`, `Bcd:8 a2`,
    `Int:4 a3` is in the fragment; its inferred range is 100 … 893 -/
example :
    let e : Expr := .max [
      .bin .sub (.bin .mul (.const 3) (.ileaf 0 .uint (some 8))) (.ileaf 1 .sint (some 8)),
      .bin .add (.bin .mul (.ileaf 2 .bcd (some 8)) (.ileaf 3 .sint (some 4))) (.const 7),
      .const 100]
    LinOnce e = true ∧ abs e = some (.int ⟨.fin 100, .fin 893, .fin 1, .fin 0⟩) := by
  decide +kernel

/-- a repeated variable leaves the fragment (and `x - x` is indeed not tight: inferred
    −255 … 255, value always 0) -/
example : LinOnce (.bin .sub (.ileaf 0 .uint (some 8)) (.ileaf 0 .uint (some 8))) = false ∧
    abs (.bin .sub (.ileaf 0 .uint (some 8)) (.ileaf 0 .uint (some 8))) =
      some (.int ⟨.fin (-255), .fin 255, .fin 1, .fin 0⟩) := by
  decide +kernel

/-- **Tightness of `?:` with an independent, non-constant condition.**  If both branches are in
the single-occurrence fragment and mention disjoint leaves, the condition mentions none of the
branches' leaves, the analysis does not fold the condition (`abs c` is a boolean without value)
and the condition can evaluate to `true` as well as to `false`, then the analysis returns, both
ends of the inferred interval are finite and each is attained.  The last hypothesis is what F12
(`C05_tight_choice_counterexample`: a tautological condition) violates. -/
theorem C05_tight_choice_independent (c t f : Expr)
    (ht : LinOnce t = true) (hf : LinOnce f = true)
    (hdtf : disjoint (ivars t) (ivars f) = true)
    (hdtc : disjoint (ivars t) (ivars c) = true) (hdfc : disjoint (ivars f) (ivars c) = true)
    (hc : abs c = some (.bool none))
    (hT : ∃ ρ, EnvOk ρ c ∧ eval ρ c = some (.bool true))
    (hF : ∃ ρ, EnvOk ρ c ∧ eval ρ c = some (.bool false)) :
    ∃ a lo hi, abs (.choice c t f) = some (.int a) ∧ a.min = .fin lo ∧ a.max = .fin hi ∧
      (∃ ρ, EnvOk ρ (.choice c t f) ∧ eval ρ (.choice c t f) = some (.int lo)) ∧
      (∃ ρ, EnvOk ρ (.choice c t f) ∧ eval ρ (.choice c t f) = some (.int hi)) := by
  obtain ⟨a, habs, _, ⟨lo, h1, h3⟩, ⟨hi, h2, h4⟩⟩ := choice_tight ht hf hdtf hdtc hdfc hc hT hF
  exact ⟨a, lo, hi, habs, h1, h2, h3, h4⟩

/-- non-vacuity: `(a0 > 3 || fl) ? a1 + 1 : 2 * a2` over `UInt:8 a0, a1`, `Int:4 a2`, `Flag fl`
    meets every hypothesis; the inferred interval is −16 … 256 -/
example :
    let c : Expr := .bin .or (.bin .gt (.ileaf 0 .uint (some 8)) (.const 3)) (.bleaf 0)
    let t : Expr := .bin .add (.ileaf 1 .uint (some 8)) (.const 1)
    let f : Expr := .bin .mul (.const 2) (.ileaf 2 .sint (some 4))
    LinOnce t = true ∧ LinOnce f = true ∧ disjoint (ivars t) (ivars f) = true ∧
    disjoint (ivars t) (ivars c) = true ∧ disjoint (ivars f) (ivars c) = true ∧
    abs c = some (.bool none) ∧
    (∃ ρ, EnvOk ρ c ∧ eval ρ c = some (.bool true)) ∧
    (∃ ρ, EnvOk ρ c ∧ eval ρ c = some (.bool false)) ∧
    abs (.choice c t f) = some (.int ⟨.fin (-16), .fin 256, .fin 1, .fin 0⟩) := by
  refine ⟨by decide +kernel, by decide +kernel, by decide +kernel, by decide +kernel,
    by decide +kernel, by decide +kernel,
    ⟨⟨fun _ => 4, fun _ => false, fun _ => 0⟩, ?_, by decide +kernel⟩,
    ⟨⟨fun _ => 0, fun _ => false, fun _ => 0⟩, ?_, by decide +kernel⟩, by decide +kernel⟩ <;>
  simp [EnvOk, InPhys]

/-- **F12: `?:` with a tautological, non-folded condition is not tight.**
`$upper_bound(x >= 0 ? 1 : 100)` over `UInt:8 x` is 100; `x` occurs once; the inner
expression only ever evaluates to 1. -/
theorem C05_tight_choice_counterexample :
    let inner : Expr := .choice (.bin .ge (.ileaf 0 .uint (some 8)) (.const 0)) (.const 1) (.const 100)
    abs (.upper inner) = some (.int ⟨.fin 100, .fin 100, .inf, .fin 100⟩) ∧
    ∀ ρ : Env, EnvOk ρ inner → eval ρ inner = some (.int 1) := by
  refine ⟨by decide +kernel, ?_⟩
  intro ρ h
  -- `x` is a `UInt:8`, so `0 ≤ x` and the condition `x >= 0` always holds
  simp only [EnvOk, InPhys] at h
  have h0 : 0 ≤ ρ.i 0 := by
    have := h.1
    simp at this
    exact this.1
  simp [eval, evalBin, h0]

end Emboss.Bounds
