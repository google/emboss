/-
C19 — Enum names, values and C++ representation match the definition.

Model: Emboss/Model/Enum.lean (+ CppInt.lean); spec: Emboss/Spec/Enum.lean; lemmas:
Emboss/Lemmas/Enum*.lean, CppInt.lean.

Reading guide: `d : Def` is the enum as the front end leaves it, `g : Gen` is everything
`_generate_enum_definition` emits (`generate d = some g`), `g.enumerators` the `NAME = value`
lines; `namesOf d v` (Emboss/Lemmas/EnumGen.lean) the C++ spellings of the value `v`, in the order of
its `enum_case` text (`d.spellings v` of the model, with `[]` where the back end would crash);
`g.cppFromName es`, `g.cppToName es`, `g.cppIsKnown es` are the meanings of the three
generated functions given the C++ enumerator table `es`.
-/
import Emboss.Lemmas.EnumSpec
import Emboss.Lemmas.EnumDistinct
import Emboss.Lemmas.EnumView
namespace Emboss.Enum
open Emboss.CppInt

/-- **Underlying type and enumerator values.**  For an accepted enum the C++ underlying type
has the declared signedness (or, when `is_signed` is not given, is signed iff some value is
negative), is at least `maximum_bits` (default 64) wide and at most 64; there is one
enumerator per declared value per requested spelling, in order; and the C++ value of every
enumerator — the rendered literal converted to the underlying type — is exactly the declared
value (no narrowing, so the enumerator list is well-formed). -/
theorem C19_underlying_type (d : Def) (g : Gen) (hacc : d.frontAccepts = true)
    (hgen : generate d = some g) :
    g.ty.signed = d.isSigned ∧
    (d.signedAttr = none → (d.isSigned = true ↔ ∃ v ∈ d.values, v.value < 0)) ∧
    (d.maxBitsAttr = none → d.maxBits = 64) ∧
    d.maxBits ≤ g.ty.bits ∧ g.ty.bits ≤ 64 ∧
    g.enumerators = d.values.flatMap (fun v => (namesOf d v).map (fun x => (x, v.value))) ∧
    (∀ v ∈ d.values, namesOf d v ≠ []) ∧
    g.cppEnumerators = some g.enumerators := by
  obtain ⟨hty, hne, he, _, _, _⟩ := generate_spec d g hgen
  rw [entries_map] at he
  obtain ⟨hs, hb, hw⟩ := cppTypeForEnum_spec _ _ _ hty
  simp only [Def.frontAccepts, Def.widthOk, Def.representable, Bool.and_eq_true, decide_eq_true_eq,
    List.all_eq_true] at hacc
  refine ⟨hs, ?_, ?_, hb, by omega, he, hne, ?_⟩
  · intro hn
    simp only [Def.isSigned, hn, List.any_eq_true, decide_eq_true_eq]
  · intro hn; simp [Def.maxBits, hn]
  · unfold Gen.cppEnumerators
    apply mapM_enumeratorValue
    intro p hp
    rw [he] at hp
    obtain ⟨v, hv, hp'⟩ := List.mem_flatMap.mp hp
    obtain ⟨x, _, rfl⟩ := List.mem_map.mp hp'
    apply enumeratorValue_exact _ _ (by omega)
    apply holds_of_inRange d.isSigned d.maxBits.toNat g.ty v.value hs (by omega)
    exact hacc.2 v hv

/-- Non-vacuity: a signed 8-bit enum with two spellings of one value and a duplicate value. -/
def exDef : Def :=
  { name := "Foo".toList, maxBitsAttr := some 8,
    levels := [[⟨"cpp".toList, true, "kCamelCase, SHOUTY_CASE".toList⟩]],
    values := [{ name := "AB_C".toList, value := 1 }, { name := "BC".toList, value := 1 },
               { name := "CD".toList, value := -128,
                 attrs := [⟨"cpp".toList, false, "SHOUTY_CASE".toList⟩] }] }

def exGen : Gen :=
  { ty := ⟨true, 8⟩,
    enumerators := [("kAbC".toList, 1), ("AB_C".toList, 1), ("kBc".toList, 1), ("BC".toList, 1),
                    ("CD".toList, -128)],
    fromName := [("AB_C".toList, "kAbC".toList), ("AB_C".toList, "AB_C".toList),
                 ("BC".toList, "kBc".toList), ("BC".toList, "BC".toList), ("CD".toList, "CD".toList)],
    toName := [("kAbC".toList, "AB_C".toList), ("CD".toList, "CD".toList)],
    known := ["kAbC".toList, "CD".toList] }

example : exDef.frontAccepts = true ∧ (generate exDef).map (·.enumerators) = some exGen.enumerators ∧
    (generate exDef).map (·.toName) = some exGen.toName ∧
    (generate exDef).map (·.fromName) = some exGen.fromName ∧
    (generate exDef).map (·.ty) = some ⟨true, 8⟩ := by
  -- evaluation on characters, see `classified_chars` in Emboss/Lemmas/StaticAsserts.lean
  simp -index only [exDef, exGen, String.toList_ofList]
  decide +kernel

/-- **`TryToGetEnumFromName`.**  For an enum the back end accepts (so that the enumerator
identifiers are pairwise distinct, `C19_enumerators_distinct`) the function
returns the value of the first declared value named `n`, and fails for `nullptr`.  When the
declared names are distinct (the front end rejects duplicates) this says: `fromName n = some v`
iff `n` is a declared Emboss name with value `v` — nothing else maps, in particular not the
`kCamelCase` spellings. -/
theorem C19_from_name (d : Def) (g : Gen) (hgen : generate d = some g)
    (hacc : d.backAccepts = true) (hnames : (d.values.map (·.name)).Nodup) :
    g.cppFromName g.enumerators none = none ∧
    (∀ n v, g.cppFromName g.enumerators (some n) = some v ↔ Spec.Declares d.declared n v) ∧
    (∀ n, (∀ v, ¬ Spec.Declares d.declared n v) → g.cppFromName g.enumerators (some n) = none) := by
  obtain ⟨_, hne, _, hf, _, _⟩ := generate_spec d g hgen
  have iff : ∀ n v, g.cppFromName g.enumerators (some n) = some v ↔ Spec.Declares d.declared n v := by
    intro n v
    rw [fromName_find (resolves_of_accepts d g hgen hacc) hne hf n]
    exact find_name_iff d.values hnames n v
  exact ⟨rfl, iff, fun n hn => Option.eq_none_iff_forall_ne_some.mpr fun v h => hn v ((iff n v).mp h)⟩

/-- **`TryToGetNameFromEnum`** returns the first declared name having the value, and `nullptr`
exactly for undeclared values. -/
theorem C19_to_name_first (d : Def) (g : Gen) (hgen : generate d = some g)
    (hacc : d.backAccepts = true) (x : Int) :
    (∀ n, g.cppToName g.enumerators x = some n ↔ Spec.FirstNameOf d.declared x n) ∧
    (g.cppToName g.enumerators x = none ↔ ¬ Spec.Known d.declared x) := by
  obtain ⟨_, hne, _, _, ht, _⟩ := generate_spec d g hgen
  have key := toName_find (resolves_of_accepts d g hgen hacc) hne ht x
  constructor
  · intro n
    rw [key]
    exact first_iff d.values x n
  · rw [key, known_iff]
    simp

/-- **`EnumIsKnown`** is true exactly for declared values. -/
theorem C19_is_known_iff_declared (d : Def) (g : Gen) (hgen : generate d = some g)
    (hacc : d.backAccepts = true) (x : Int) :
    g.cppIsKnown g.enumerators x = true ↔ Spec.Known d.declared x := by
  rw [cppIsKnown_eq_isSome g _ x (generate_known d g hgen), ← Option.ne_none_iff_isSome, Ne,
    (C19_to_name_first d g hgen hacc x).2, Classical.not_not]

/-- **No duplicate `case` labels** in the two generated `switch`es (needed for the header to
compile): every label resolves to an enumerator, and the label values are pairwise distinct.
Rests on the `previously_seen_numeric_values` logic. -/
theorem C19_switch_labels_distinct (d : Def) (g : Gen) (hgen : generate d = some g)
    (hacc : d.backAccepts = true) :
    (g.labelValues g.enumerators).Nodup ∧ (∀ o ∈ g.labelValues g.enumerators, o.isSome = true) ∧
    g.known = g.toName.map (·.1) := by
  rw [labels_resolve (resolves_of_accepts d g hgen hacc) (generate_spec d g hgen).2.2.2.2.1]
  refine ⟨?_, ?_, generate_known d g hgen⟩
  · exact List.pairwise_map.mpr ((firsts_nodup _ _ _).imp fun h he => h (Option.some.inj he))
  · intro o ho
    obtain ⟨w, _, rfl⟩ := List.mem_map.mp ho
    rfl

/-- Non-vacuity for `C19_from_name`, `C19_to_name_first`, `C19_is_known_iff_declared` and
`C19_switch_labels_distinct`: `exDef` generates `exGen`, its enumerators are
distinct, names are distinct; lookups behave as stated (tests by evaluation). -/
example : (generate exDef).map (·.known) = some exGen.known ∧ (exGen.enumerators.map (·.1)).Nodup ∧
    (exDef.values.map (·.name)).Nodup ∧
    exGen.cppFromName exGen.enumerators (some "BC".toList) = some 1 ∧
    exGen.cppFromName exGen.enumerators (some "kBc".toList) = none ∧
    exGen.cppToName exGen.enumerators 1 = some "AB_C".toList ∧
    exGen.cppToName exGen.enumerators 2 = none ∧
    exGen.cppIsKnown exGen.enumerators (-128) = true ∧ exDef.backAccepts = true := by
  simp -index only [exDef, exGen, String.toList_ofList]
  decide +kernel

/-- **Enumerator identifiers are pairwise distinct** for every enum the back end accepts (so
the `enum class` body is well-formed).  The back end (`fix: dca9b37`) rejects an enum two of
whose values would get the same C++ name ("Enum values 'A_1B' and 'A1B' would both be named
'kA1b' in the generated C++ code."); the check is exact: it passes iff the identifiers are
pairwise distinct. -/
theorem C19_enumerators_distinct (d : Def) (g : Gen) (hgen : generate d = some g) :
    (d.backAccepts = true → (g.enumerators.map (·.1)).Nodup) ∧
    (d.namesDistinct = true ↔ (g.enumerators.map (·.1)).Nodup) :=
  ⟨enumerators_nodup_of_accepts d g hgen, namesDistinct_iff d g hgen⟩

/-- **The check rejects nothing but genuine case-conversion collisions**: an enum whose declared
names are distinct SHOUTY names (the front end guarantees both), whose `enum_case` attributes
are verified, and whose names stay pairwise distinct after `snake_to_camel` passes it. -/
theorem C19_rejects_only_camel_collisions (d : Def) (g : Gen) (hgen : generate d = some g)
    (hnames : (d.values.map (·.name)).Nodup)
    (hshape : ∀ v ∈ d.values, ∃ c cs, v.name = c :: cs ∧ c ≠ 'k')
    (hver : d.attrsVerified = true)
    (hcamel : d.values.Pairwise (fun a b => snakeToCamel a.name ≠ snakeToCamel b.name)) :
    d.backAccepts = true := by
  simp only [Def.backAccepts, hver, Bool.true_and]
  rw [namesDistinct_iff d g hgen, enumerator_idents d g hgen]
  exact enumerator_names_nodup_of_camel_distinct d hshape
    (fun v hv => namesOf_nodup d v (hshape v hv) (effective_verified d hver v hv)) hcamel

/-- The witness of finding `enum-value-names-equal-after-camel-conversion` (fixed by dca9b37):
`A_1B` and `A1B` are distinct SHOUTY names, the attribute is valid, the front end accepts — and
the back end rejects, because both would be `kA1b`.  Input:
`corpus/C19/camel_collision_must_be_rejected.emb`; reverting the fix makes the module accepted
with a header g++ refuses. -/
def exCollide : Def :=
  { name := "Foo".toList, levels := [[⟨"cpp".toList, true, "kCamelCase".toList⟩]],
    values := [{ name := "A_1B".toList, value := 1 }, { name := "A1B".toList, value := 2 }] }

theorem C19_collision_rejected :
    exCollide.frontAccepts = true ∧ (exCollide.values.map (·.name)).Nodup ∧
    exCollide.attrsVerified = true ∧
    (generate exCollide).map (fun g => g.enumerators.map (·.1)) =
      some ["kA1b".toList, "kA1b".toList] ∧
    exCollide.backAccepts = false := by
  simp -index only [exCollide, String.toList_ofList]
  decide +kernel

/-- Non-vacuity: `exDef` is accepted by the back end and meets every hypothesis of
`C19_rejects_only_camel_collisions`. -/
example : exDef.backAccepts = true ∧ (exDef.values.map (·.name)).Nodup ∧
    (exDef.values.all (fun v => match v.name with | c :: _ => c != 'k' | [] => false)) = true ∧
    exDef.attrsVerified = true ∧
    exDef.values.Pairwise (fun a b => snakeToCamel a.name ≠ snakeToCamel b.name) := by
  simp -index only [exDef, String.toList_ofList]
  decide +kernel

/-- **`operator<<`** streams the first declared name of a declared value and the decimal
number of any other value — whatever the underlying type (the value is promoted with unary `+`,
`fix: 43666cd`, so 8-bit enums are not streamed as characters). -/
theorem C19_ostream (d : Def) (g : Gen) (hgen : generate d = some g) (hacc : d.backAccepts = true)
    (x : Int) :
    (∀ n, Spec.FirstNameOf d.declared x n → g.cppShow g.enumerators x = .name n) ∧
    (¬ Spec.Known d.declared x → g.cppShow g.enumerators x = .number x) := by
  obtain ⟨h1, h2⟩ := C19_to_name_first d g hgen hacc x
  constructor
  · intro n hn
    simp [Gen.cppShow, (h1 n).mpr hn]
  · intro hk
    simp [Gen.cppShow, h2.mpr hk]

example : exGen.cppShow exGen.enumerators 1 = .name "AB_C".toList ∧
    exGen.cppShow exGen.enumerators 65 = .number 65 := by
  simp -index only [exGen, String.toList_ofList]
  decide +kernel

/-- **`$default` precedence** (doc/language-reference.md: "a `$default` enum case can be set on
a module, struct, bits, or enum and applies to all enum values within"): an attribute on the
value wins; otherwise the innermost enclosing `$default`; otherwise SHOUTY_CASE only. -/
theorem C19_enum_case_precedence (outer : List (List Attr)) (inner : List Attr)
    (t : List Char) (n : Name) :
    effectiveCase [⟨['c', 'p', 'p'], false, t⟩] (defaultsOf (outer ++ [inner])) = .cases t ∧
    defaultsOf (outer ++ [[⟨['c', 'p', 'p'], true, t⟩]]) = some t ∧
    defaultsOf (outer ++ [[]]) = defaultsOf outer ∧
    enumeratorNames n (effectiveCase [] none) = some [n] := by
  refine ⟨by simp [effectiveCase, Attr.isCpp], ?_, ?_, by simp [effectiveCase, enumeratorNames]⟩
  · simp [defaultsOf, gatherDefault, List.foldl_append, Attr.isCpp]
  · simp [defaultsOf, gatherDefault, List.foldl_append]

/-- **Attributes addressed to another back end do not count** (`[(rust) enum_case: …]`): they
change neither the effective case of a value nor the `$default` in force. -/
theorem C19_enum_case_other_back_end_ignored (levels : List (List Attr)) (lvl : List Attr)
    (b : List Char) (d : Bool) (t : List Char) (attrs : List Attr) (dflt : Option (List Char))
    (hb : b ≠ ['c', 'p', 'p']) :
    effectiveCase (⟨b, d, t⟩ :: attrs) dflt = effectiveCase attrs dflt ∧
    defaultsOf (levels ++ [⟨b, d, t⟩ :: lvl]) = defaultsOf (levels ++ [lvl]) := by
  have hc : (⟨b, d, t⟩ : Attr).isCpp = false := by
    simp only [Attr.isCpp, beq_eq_false_iff_ne, ne_eq]; exact hb
  constructor
  · simp [effectiveCase, hc]
  · simp [defaultsOf, gatherDefault, List.foldl_append, List.foldl_cons, hc]

example : defaultsOf [[⟨"cpp".toList, true, "kCamelCase".toList⟩], [],
    [⟨"cpp".toList, true, "SHOUTY_CASE".toList⟩]] = some "SHOUTY_CASE".toList := by
  simp -index only [String.toList_ofList]
  decide +kernel

/-- Full statement (false on the real code):

  theorem C19_field_accepts_in_range (ty : IntTy) (bvt w : Nat) (v : Int) … :
      viewCouldWrite ty bvt w v = true ↔ Spec.FieldRange ty.signed w v
      ∧ viewRead ty raw = Spec.FieldValue ty.signed w raw

Proved fragments: unsigned enums (any field width), and signed enums whose field is as wide as
the underlying type (in any container, `fix: f572d62`).  Missing: signed enums in a field
*narrower* than the underlying type; for them the statement is false (counterexample below,
finding `signed-enum-in-field-narrower-than-underlying-type`, open: the repair was
rejected because `runtime/cpp/test/emboss_enum_view_test.cc:156` pins the zero-extension).

**Enum fields accept any in-range value, named or not** — partial: unsigned enums.
`w` = field width, `bvt` = width of the unsigned integer the field's bits are read into
(`BitViewType::ValueType`), `ty` = the enum's underlying type. -/
theorem C19_field_accepts_in_range_partial (ty : IntTy) (bvt w : Nat) (v : Int) (raw : Nat)
    (hu : ty.signed = false) (hw1 : 1 ≤ w) (hwb : w ≤ bvt) (hwt : w ≤ ty.bits)
    (hv : ty.holds v = true) (hraw : (raw : Int) < pow2 w) :
    (viewCouldWrite ty bvt w v = true ↔ Spec.FieldRange false w v) ∧
    viewRead ty raw = Spec.FieldValue false w raw ∧
    (Spec.FieldRange false w v → (viewWriteBits ty bvt w v : Int) = v) := by
  have mwt : pow2 w ≤ pow2 ty.bits := pow2_mono hwt
  have hv' := (holds_unsigned ty v hu).mp hv
  have hU : v % pow2 ty.bits = v := Int.emod_eq_of_lt hv'.1 (by omega)
  have hR : Spec.FieldRange false w v ↔ v < pow2 w := by
    simp only [Spec.FieldRange, Bool.false_eq_true, if_false]
    exact and_iff_right hv'.1
  refine ⟨?_, ?_, fun h => ?_⟩
  · rw [viewCouldWrite_iff ty bvt w v (by omega) hwb hv, hU, hR]
  · rw [viewRead_eq ty raw (by omega), hu]
    rfl
  · rw [viewWriteBits_eq ty bvt w v hwb (by rw [hU]; exact hR.mp h), hU]

/-- Non-vacuity: a 3-bit field of a `uint8_t` enum inside an 8-bit `bits`. -/
example : (⟨false, 8⟩ : IntTy).holds 5 = true ∧ viewCouldWrite ⟨false, 8⟩ 8 3 5 = true ∧
    viewCouldWrite ⟨false, 8⟩ 8 3 8 = false ∧ viewRead ⟨false, 8⟩ 7 = 7 := by decide +kernel

/-- Second proved fragment of the field clause: a signed enum whose field is as wide as its
underlying type — in a container (`BitViewType::ValueType`, `bvt` bits) of the same width (an
`int8_t` enum in a one-byte `struct` field) *or wider* (an 8-bit field of a 16-bit `bits`;
`fix: f572d62`) — accepts exactly the values of its type, stores their two's-complement
bits in the field and nothing above it, and reads two's complement. -/
theorem C19_field_signed_full_width_partial (ty : IntTy) (bvt : Nat) (v : Int) (raw : Nat)
    (hs : ty.signed = true) (hb : 0 < ty.bits) (hbv : ty.bits ≤ bvt) (hv : ty.holds v = true)
    (hraw : (raw : Int) < pow2 ty.bits) :
    viewCouldWrite ty bvt ty.bits v = true ∧ Spec.FieldRange true ty.bits v ∧
    (viewWriteBits ty bvt ty.bits v : Int) = v % pow2 ty.bits ∧
    viewRead ty raw = Spec.FieldValue true ty.bits raw := by
  have hp := pow2_pos ty.bits
  have hh := pow2_pred ty.bits hb
  have hv' := (holds_signed ty v hs).mp hv
  have hm1 := Int.emod_lt_of_pos v hp
  refine ⟨(viewCouldWrite_iff ty bvt ty.bits v hb hbv hv).mpr hm1, ?_,
    viewWriteBits_eq ty bvt ty.bits v hbv hm1, hs ▸ viewRead_eq ty raw hraw⟩
  simp only [Spec.FieldRange, if_true]
  show -(pow2 (ty.bits - 1)) ≤ v ∧ v < pow2 (ty.bits - 1)
  omega

example : (⟨true, 8⟩ : IntTy).holds (-1) = true ∧ viewCouldWrite ⟨true, 8⟩ 8 8 (-1) = true ∧
    viewCouldWrite ⟨true, 8⟩ 16 8 (-1) = true ∧ viewWriteBits ⟨true, 8⟩ 16 8 (-1) = 255 ∧
    viewRead ⟨true, 8⟩ 255 = -1 := by decide +kernel

/-- **Enum fields accept any in-range value through the text format too** (`UpdateFromText`
with the decimal number — which is what `WriteToString` emits for an unnamed value): for an
unsigned enum every value of the field's range, up to `2^64 - 1`, is accepted and stored
exactly; for a signed enum in a full-width field every value of the type, down to `-2^63`. -/
theorem C19_field_text_number_partial (ty : IntTy) (bvt w : Nat) (v : Int)
    (hb0 : 0 < ty.bits) (hb64 : ty.bits ≤ 64) (hv : ty.holds v = true) :
    (ty.signed = false → 1 ≤ w → w ≤ bvt → w ≤ ty.bits → Spec.FieldRange false w v →
      viewReadTextNumber ty bvt w v = some v.toNat) ∧
    (ty.signed = true → ty.bits ≤ bvt →
      viewReadTextNumber ty bvt ty.bits v = some (v % pow2 ty.bits).toNat) := by
  refine ⟨fun hu _ hwb _ hr => ?_, fun _ hbv =>
    viewReadTextNumber_eq ty bvt ty.bits v hb0 hb64 hbv hv (Int.emod_lt_of_pos v (pow2_pos _))⟩
  have hv' := (holds_unsigned ty v hu).mp hv
  have hU : v % pow2 ty.bits = v := Int.emod_eq_of_lt hv'.1 (by omega)
  have := viewReadTextNumber_eq ty bvt w v hb0 hb64 hwb hv (by rw [hU]; exact hr.2)
  rwa [hU] at this

/-- Non-vacuity / the boundary the text reader must get right: `2^64 - 1` and `2^63` of an
unsigned 64-bit enum, `-2^63` of a signed one (tests by evaluation). -/
example : viewReadTextNumber ⟨false, 64⟩ 64 64 18446744073709551615 = some 18446744073709551615 ∧
    viewReadTextNumber ⟨false, 64⟩ 64 64 9223372036854775808 = some 9223372036854775808 ∧
    viewReadTextNumber ⟨true, 64⟩ 64 64 (-9223372036854775808) = some 9223372036854775808 ∧
    viewReadTextNumber ⟨false, 64⟩ 64 64 18446744073709551616 = none ∧
    viewReadTextNumber ⟨false, 8⟩ 8 3 8 = none := by decide +kernel

/-- Counterexample for signed enums (finding `signed-enum-in-field-narrower-than-underlying-
type`, F14, open): `[maximum_bits: 8] [is_signed: true] NEG = -1` in a 4-bit field of an 8-bit
`bits`: the raw bits `0xF` (two's-complement −1 in 4 bits) read as 15, `NEG` cannot be
written, and 15 — outside the 4-bit signed range — can. -/
theorem C19_field_counterexample :
    viewRead ⟨true, 8⟩ 15 = 15 ∧ Spec.FieldValue true 4 15 = -1 ∧
    viewCouldWrite ⟨true, 8⟩ 8 4 (-1) = false ∧ Spec.FieldRange true 4 (-1) ∧
    viewCouldWrite ⟨true, 8⟩ 8 4 15 = true ∧ ¬ Spec.FieldRange true 4 15 := by decide +kernel

end Emboss.Enum
