/-
C07 — Every module the compiler accepts yields a header that compiles and instantiates.

"g++ accepts this text" is not a Lean proposition; the property is decomposed into the finite
list of reasons a generated header can be ill-formed that the *compiler's decisions* control:
rendered constants, template-argument preconditions (`static_assert`s and `enable_if`s of the
runtime, lists regenerated on every run), the intermediate type of an operation, identifier
clashes, and the `(cpp) namespace` attribute.  Everything else about C++
well-formedness is only observed (by really compiling an instantiate-everything driver).

Models: Emboss/Model/CppInt.lean, StaticAsserts.lean, EnableIfs.lean, Names.lean, NamesCheck.lean
(+ Enum.lean for `cppTypeForEnum`).  `IsIdent`, `nsLead`, `nsTail`, in which the two namespace
theorems state the documented shape of the attribute's text, are defined in
Emboss/Lemmas/NamesScan.lean.
-/
import Emboss.Lemmas.StaticAsserts
import Emboss.Lemmas.EnumGen
import Emboss.Lemmas.Names
import Emboss.Lemmas.NamesScan
import Emboss.Model.Names
import Emboss.Model.EnableIfs
import Emboss.Generated.CppReserved
import Emboss.Spec.CppKeywords
namespace Emboss.C07
open Emboss.CppInt Emboss.StaticAsserts Emboss.Names

/-! ## constants -/

/-- **Rendered constants denote the front end's values.**  For every value the back end can
be asked to render (`[-2^63, 2^64)`; outside, its assertion fires and no header is produced),
`_render_integer` produces `static_cast<T>(…)` whose meaning under the C++ rules — decimal
literal typing with the `LL`/`ULL` suffix, unary minus, the `-9223372036854775807LL - 1` form
for `-2^63`, the outer conversion — is exactly the value. -/
theorem C07_constants_equal_front_end (v : Int) :
    (-9223372036854775808 ≤ v ∧ v ≤ 18446744073709551615 →
      ∃ r, renderInteger v = some r ∧ evalRendered r = some v ∧ r.longLongSuffix = true) ∧
    (v < -9223372036854775808 ∨ v > 18446744073709551615 → renderInteger v = none) :=
  ⟨render_eval v, render_none v⟩

/-- Non-vacuity / the interesting literals (tests by evaluation): `-2^63` takes the
`… - 1` form, `2^63` needs the `U` suffix, and a plain `-9223372036854775808LL` would be
ill-formed (its literal does not fit `long long`). -/
example : (renderInteger (-9223372036854775808)).map Rendered.toString =
      some "static_cast<int64>(-9223372036854775807LL - 1)" ∧
    (renderInteger 9223372036854775808).map Rendered.toString =
      some "static_cast<uint64>(9223372036854775808ULL)" ∧
    evalRendered ⟨i64, true, 9223372036854775808, false, true, false⟩ = none := by decide +kernel

/-! ## static_asserts -/

/-- **Every `static_assert` of the runtime is accounted for** (table regenerated from
`runtime/cpp/*.h` on every run): each is classified as platform / runtime-internal /
generated-argument, and every generated-argument tag is one of the ten of `provedTags`.  Eight of
them have their obligation proved in `C07_static_asserts_hold`; `choice-types` only in part
(`C07_choice_types_partial`, with a counterexample); `op-types` (`ResultT`, `IntermediateT`, `LeftT`,
`RightT`, `ConditionT` are `bool` where the operator asks for it) has no lemma and is observed by the
compile tie.  A new or edited assertion makes this fail to elaborate. -/
theorem C07_static_asserts_classified : allClassified = true ∧ allTagsProved = true := by
  refine ⟨?_, by decide +kernel⟩
  unfold allClassified classify
  rw [classified_chars]
  unfold Emboss.Generated.staticAsserts table
  simp -index only [List.map, String.toList_ofList]
  decide +kernel

/-- **Accepted ⇒ every template argument the back end writes satisfies its precondition.**
The five conjuncts, by generated-argument class of `Emboss.StaticAsserts.table`:
1. `bits-le-64`, `bits-le-value-type`, `flag-bits`, `float-bits`: a `UInt`/`Int`/`Bcd` field the
   front end accepted (`1 ≤ bits ≤ 64`) has a `LeastWidthInteger` and fits its `ValueType`; an
   accepted `Flag` is 1 bit, an accepted `Float` 32 or 64;
2. `bits-le-value-type` for `EnumView`: a field of `w ≤ maximum_bits` bits fits the enum's
   underlying type;
3. `bitblock`, `null-byte-order` (arithmetic only, no model definition involved): a byte-sized
   field of `n ≤ 8` bytes gives a `BitBlock` of `8 * n` bits, a multiple of 8 and at most 64,
   and 8 for a one-byte field;
4. `alignment`: power-of-two alignment and `offset < alignment` are preserved by
   `OffsetStorageType` from any power-of-two root;
5. `sub-alignment`: `(modulus, modular_value)` with `modular_value < modulus` (C05's
   invariant), or modulus "infinity" rendered as 0, satisfies `kSubAlignment == 0 ||
   kSubAlignment > kSubOffset`. -/
theorem C07_static_asserts_hold :
    (∀ p b, Prelude.accepts p b = true →
      match p with
      | .uint | .int | .bcd => ∃ w, leastWidth b = some w ∧ b ≤ w
      | .flag => b = 1
      | .float => b = 32 ∨ b = 64) ∧
    (∀ (mb : Int) (sg : Bool) (ty : IntTy) (w : Nat),
      Emboss.Enum.cppTypeForEnum mb sg = some ty → (w : Int) ≤ mb → w ≤ ty.bits) ∧
    (∀ n : Nat, n ≤ 8 → (8 * n) % 8 = 0 ∧ 8 * n ≤ 64 ∧ (n = 1 → 8 * n = 8)) ∧
    (∀ k off subAl subOff : Nat,
      (∃ j, (offsetStorage (2 ^ k) off subAl subOff).1 = 2 ^ j) ∧
      (offsetStorage (2 ^ k) off subAl subOff).2 < (offsetStorage (2 ^ k) off subAl subOff).1) ∧
    (∀ (m : Option Nat) (v : Nat), (∀ x, m = some x → v < x) →
      (alignmentOf m v).1 = 0 ∨ (alignmentOf m v).1 > (alignmentOf m v).2) := by
  refine ⟨?_, ?_, ?_, offsetStorage_ok, ?_⟩
  · intro p b h
    cases p with
    | uint | int | bcd =>
      simp only [Prelude.accepts, Bool.and_eq_true, decide_eq_true_eq] at h
      exact leastWidth_ok b h.2
    | flag | float => simpa [Prelude.accepts] using h
  · intro mb sg ty w hty hw
    obtain ⟨_, hb, _⟩ := Emboss.Enum.cppTypeForEnum_spec mb sg ty hty
    omega
  · intro n hn; omega
  · intro m v h
    cases m with
    | none => exact .inl rfl
    | some x => exact .inr (h x rfl)

/-- Non-vacuity: the arguments of a 3-byte `UInt` at offset `4*n + 1` inside a struct viewed
through `MakeAligned…View<…, 8>`. -/
example : Prelude.accepts .uint 24 = true ∧ leastWidth 24 = some 32 ∧
    offsetStorage 8 0 4 1 = (4, 1) ∧ alignmentOf (some 4) 1 = (4, 1) := by decide +kernel

/-- Full statement (false on the real code): for `c ? a : b` on integers the back end's
`IntermediateT` and `ResultT` are the same type (runtime `static_assert` "Choice's
IntermediateT should be the same as ResultT").

Proved fragment: when the result range is the hull of the two branches' ranges — what
`expression_bounds` computes for a non-constant condition.  Missing: constant conditions,
where the front end narrows the result to the selected branch (counterexample below, finding
`constant-condition-choice-static-assert`). -/
theorem C07_choice_types_partial (a b : Int × Int) :
    (choiceTypes (min a.1 b.1, max a.2 b.2) a b).1 = (choiceTypes (min a.1 b.1, max a.2 b.2) a b).2 := by
  simp only [choiceTypes, Int.min_self, Int.max_self]

/-- Counterexample: `let v = true ? a : b` with `a : UInt:8`, `b : UInt:64` — result range
`[0, 255]` (`int32_t`), but `IntermediateT` ranges over `b` too (`uint64_t`). -/
theorem C07_choice_counterexample :
    choiceTypes (0, 255) (0, 255) (0, 18446744073709551615) = (some u64, some i32) := by decide +kernel

example : choiceTypes (min 0 0, max 255 65535) (0, 255) (0, 65535) = (some i32, some i32) := by decide +kernel

/-! ## arithmetic and comparison operations -/

/-- **`IntermediateT` exists and is wide enough.**  For an operation node the front end
accepted — every integer clause (the result, when it is an integer, and each integer operand)
fits `int64_t` or `uint64_t`, and not one of them needing the signed and another the unsigned
type — the back end's `_cpp_integer_type_for_range(min(…), max(…))` is a type (never the
Python `None`, which would be written into the header as the text `None`), and it holds every
value of every clause, so no operand is truncated by the conversion to `IntermediateT`.
Covers `+ - *`, the comparisons (which have no integer result clause), `?:`, `$max`. -/
theorem C07_operation_intermediate_type (c : Int × Int) (cs : List (Int × Int))
    (hacc : frontAcceptsOp (c :: cs) = true) :
    ∃ ty, opIntermediate (c :: cs) = some ty ∧
      ∀ d ∈ c :: cs, ∀ v, d.1 ≤ v → v ≤ d.2 → ty.holds v = true := by
  have hull := hullOf_bounds cs c
  obtain ⟨ty, hty⟩ := Option.isSome_iff_exists.mp <| (typeForRange_isSome_iff _ _).mpr <|
    (frontAcceptsOp_uniform _ hacc).imp (hull _ _).mpr (hull _ _).mpr
  have hb := (hull _ _).mp ⟨Int.le_refl _, Int.le_refl _⟩
  exact ⟨ty, hty, fun d hd v hv1 hv2 =>
    (typeForRange_sound hty).2 (Int.le_trans (hb d hd).1 hv1) (Int.le_trans hv2 (hb d hd).2)⟩

/-- Non-vacuity: `big < 5` with `big : UInt:64`, and `a - b` on two `Int:32`s. -/
example : frontAcceptsOp [(0, 18446744073709551615), (5, 5)] = true ∧
    opIntermediate [(0, 18446744073709551615), (5, 5)] = some u64 ∧
    frontAcceptsOp [(-4294967295, 4294967295), (-2147483648, 2147483647), (-2147483648, 2147483647)] = true ∧
    opIntermediate [(-4294967295, 4294967295), (-2147483648, 2147483647), (-2147483648, 2147483647)] = some i64 := by
  decide +kernel

/-- Why the front end's mixed-signedness check is needed (and must see *comparisons* too,
whose result is not an integer): `big == small` with `big : UInt:64`, `small : Int:8` — each
operand fits a 64-bit type, the node is rejected, and without the rejection there is no
intermediate type (the header would contain `Equal</**/None, …>`). -/
theorem C07_mixed_signedness_counterexample :
    [(0, 18446744073709551615), ((-128 : Int), (127 : Int))].all (fun c => fitsU64 c || fitsI64 c) = true ∧
    frontAcceptsOp [(0, 18446744073709551615), (-128, 127)] = false ∧
    opIntermediate [(0, 18446744073709551615), (-128, 127)] = none := by decide +kernel

/-! ## names -/

/-- **Accepted ⇒ the helper types of a structure have pairwise distinct names**: the nested
view classes of the non-alias virtual fields (`EmbossReservedVirtual<Camel>View`,
`EmbossReservedDollarVirtual<Name>View` for `$size_in_bytes` & co.) and the validators of the
fields with `[requires]` (`EmbossReservedValidatorFor<Camel>`).  Hypotheses: the back end's
check passed (`fieldNamesDistinct`, mirror of `_verify_generated_field_names_are_distinct`),
field names are distinct (front end), `$`-fields are virtual.  For every other identifier of the
generated code see `C07_identifiers_distinct`. -/
theorem C07_names_distinct (fs : List Field)
    (hnames : (fs.map (·.name)).Nodup)
    (hdv : ∀ f ∈ fs, isDollar f.name = true → f.validator = false)
    (hacc : fieldNamesDistinct fs = true) :
    (reservedNames fs).Nodup := by
  obtain ⟨hV, hR⟩ := (fieldNamesDistinct_iff fs).mp hacc
  unfold reservedNames List.Nodup
  rw [List.pairwise_append]
  refine ⟨?_, ?_, ?_⟩
  · rw [List.pairwise_filterMap]
    refine ((List.pairwise_map.mp hnames).and (List.pairwise_filter.mp hV)).imp ?_
    rintro a b ⟨hne, hvv⟩ x hx y hy rfl
    obtain ⟨hoa, hx⟩ := Option.ite_none_right_eq_some.mp hx
    obtain ⟨hob, hy⟩ := Option.ite_none_right_eq_some.mp hy
    rcases virtualViewName_inj _ _ _ hx hy with h | ⟨hda, hdb, h⟩
    · exact hne h
    · exact hvv (by simp [hoa, hda]) (by simp [hob, hdb]) h
  · rw [List.pairwise_map]
    have heq : fs.filter (fun f => f.validator) = fs.filter (fun f => f.validator && !isDollar f.name) := by
      apply List.filter_congr
      intro f hf
      cases hd : isDollar f.name
      · simp
      · simp [hdv f hf hd]
    rw [heq]
    exact hR.imp fun h e => h (List.append_cancel_left e)
  · intro x hx y hy h
    obtain ⟨f, _, hfx⟩ := List.mem_filterMap.mp hx
    obtain ⟨g, _, rfl⟩ := List.mem_map.mp hy
    exact virtualViewName_ne_validatorName _ _ (h ▸ (Option.ite_none_right_eq_some.mp hfx).2)

/-- **The check rejects nothing but genuine collisions**: fields whose names stay pairwise
distinct after `snake_to_camel` pass it. -/
theorem C07_rejects_only_camel_collisions (fs : List Field)
    (hcamel : fs.Pairwise (fun a b => Emboss.Enum.snakeToCamel a.name ≠ Emboss.Enum.snakeToCamel b.name)) :
    fieldNamesDistinct fs = true :=
  (fieldNamesDistinct_iff fs).mpr ⟨hcamel.sublist List.filter_sublist, hcamel.sublist List.filter_sublist⟩

def fPlain (n : String) : Field := { name := s n }
def fVirt (n : String) : Field := { name := s n, ownView := true }
def fReq (n : String) : Field := { name := s n, validator := true }
def fConst (n : String) : Field := { name := s n, ownView := true, constant := true }

/-- The witnesses of the findings `virtual-field-names-equal-after-camel-conversion` (F15) and
`validator-names-equal-after-camel-conversion` (fixed by dca9b37): the scopes would clash, and
the back end rejects the structure.  Inputs: `corpus/C07/*_must_be_rejected.emb`. -/
theorem C07_camel_collisions_rejected :
    clean (classScope { name := s "Foo", fields := [fPlain "y", fVirt "x_1", fVirt "x1"] }) = false ∧
    fieldNamesDistinct [fPlain "y", fVirt "x_1", fVirt "x1"] = false ∧
    clean (namespaceScope { owner := some { name := s "Foo", fields := [fReq "x_1", fReq "x1"] } }) = false ∧
    fieldNamesDistinct [fReq "x_1", fReq "x1"] = false ∧
    -- not flagged: a `[requires]` field next to a virtual field and an alias with the same CamelCase form
    fieldNamesDistinct [fReq "x_1", fVirt "x1", fPlain "x__1"] = true := by
  -- Evaluation on characters (see `classified_chars`): unfold down to the literals of the model,
  -- let `String.toList_ofList` turn each `s "…"` into its characters, and evaluate from there.
  simp -index only [classScope, namespaceScope, fixedMembers, structDecls, enumDecls, units,
    fPlain, fVirt, fReq, s, String.toList_append, String.toList_ofList, Bool.false_eq_true,
    ↓reduceIte]
  decide +kernel

/-- The scopes that *would* clash, one per clash class (the back end rejects each of these
modules, `_verify_generated_identifiers_are_distinct`: `C07_identifier_clashes_rejected`;
reverting that check makes `./check C07` report them again — they are in `corpus/C07/`), in the
order of the conjuncts: field `backing_`; parameter `x` and field `x_`; fields `x` and `has_x`;
nested enum `Ok`; struct `Bar` and enum `BarView`; enum `EnumTraits`; constant-size struct with
nested enum `MaxSizeInBytes`; a structure named `Storage`, and one named `ValueType`: the unqualified
`Storage::MaxSizeInBytes()` in the constant's `Read()` finds the template parameter instead of
the namespace; an enum nested in a structure of the same name; two structures `Foo` in one C++
namespace.  The last two conjuncts are scopes that do not clash: a nested enum `ValueType`, and a
structure named like a member function. -/
theorem C07_names_counterexample :
    clean (classScope { name := s "Foo", fields := [fPlain "backing_"] }) = false ∧
    clean (classScope { name := s "Foo", params := [s "x"], fields := [fPlain "x_"] }) = false ∧
    clean (classScope { name := s "Foo", fields := [fPlain "x", fPlain "has_x"] }) = false ∧
    clean (classScope { name := s "Foo", fields := [fPlain "y"], nestedEnums := [s "Ok"] }) = false ∧
    clean (namespaceScope { structs := [s "Bar"], enums := [s "BarView"] }) = false ∧
    clean (namespaceScope { enums := [s "EnumTraits"] }) = false ∧
    clean (namespaceScope { enums := [s "MaxSizeInBytes"], owner := some { name := s "Foo", fields := [fConst "$max_size_in_bytes"] } }) = false ∧
    clean (typeRefScope { name := s "Storage", fields := [fConst "$max_size_in_bytes"] }) = false ∧
    clean (nestedRefScope { name := s "ValueType", fields := [fConst "$max_size_in_bytes"] }) = false ∧
    -- 11. an enum nested in a structure and named like the structure
    clean (typeRefScope { name := s "Foo", nestedEnums := [s "Foo"] }) = false ∧
    -- 12. two modules of one C++ namespace that both declare `Foo`
    clean (namespaceScope { structs := [s "Foo", s "Foo"] }) = false ∧
    -- not a clash: a nested enum `ValueType`, a structure named like a member function
    clean (typeRefScope { name := s "Foo", nestedEnums := [s "ValueType"] }) = true ∧
    clean (nestedRefScope { name := s "IntrinsicSizeInBytes" }) = true := by
  simp -index only [classScope, typeRefScope, nestedRefScope, namespaceScope, fixedMembers,
    structDecls, enumDecls, units, fPlain, fConst, s, String.toList_append, String.toList_ofList,
    Bool.false_eq_true, ↓reduceIte]
  decide +kernel

/-- **The clash scopes, proved** (not only evaluated on witnesses): `clean` decides exactly the
declarative well-formedness of a scope — any two declarations of the same identifier belong to
one overload / redeclaration group — and each clash class of the view class makes *every*
structure of that shape ill-formed:
* a field named like a member every view class has (`Ok`-style names cannot occur, fields being
  snake_case; `backing_` and, with parameters, `parameters_initialized_` can);
* a field `<p>_` next to a parameter `<p>` (the parameter's data member);
* fields `x` and `has_x`;
* a nested enum named like a member of the view class (`Ok`, `Storage`, `IsComplete`, …). -/
theorem C07_clash_scopes :
    (∀ ds, clean ds = true ↔
      ds.Pairwise (fun a b => a.ident = b.ident → ∃ g, a.group = some g ∧ b.group = some g)) ∧
    (∀ st f, f ∈ st.fields → isDollar f.name = false → f.name ∈ fixedMembers st →
      clean (classScope st) = false) ∧
    (∀ st p f, p ∈ st.params → f ∈ st.fields → isDollar f.name = false → f.name = p ++ s "_" →
      clean (classScope st) = false) ∧
    (∀ st f g, f ∈ st.fields → g ∈ st.fields → isDollar f.name = false → isDollar g.name = false →
      g.name = s "has_" ++ f.name → clean (classScope st) = false) ∧
    (∀ st e, e ∈ st.nestedEnums → e ∈ fixedMembers st → clean (classScope st) = false) := by
  refine ⟨fun ds => (clean_iff ds).trans (by simp only [compatible_iff]), ?_, ?_, ?_, ?_⟩
  · intro st f hf hd hm
    exact not_clean_of_mem _ _ (fixed_mem st _ hm) (accessor_mem st f hf hd).1 (by simp) rfl rfl
  · intro st p f hp hf hd hn
    exact not_clean_of_mem _ _ (param_member_mem st p hp) (accessor_mem st f hf hd).1 (by simp) hn.symm rfl
  · intro st f g hf hg hdf hdg hn
    exact not_clean_of_mem _ _ (accessor_mem st f hf hdf).2 (accessor_mem st g hg hdg).1 (by simp) hn.symm rfl
  · intro st e he hm
    exact not_clean_of_mem _ _ (fixed_mem st _ hm) (nested_enum_mem st e he) (by simp) rfl rfl

/-- Non-vacuity: each clause has an instance (they are the witnesses of
`C07_names_counterexample`). -/
example : s "backing_" ∈ fixedMembers { name := s "Foo" } ∧ s "Ok" ∈ fixedMembers { name := s "Foo" } ∧
    isDollar (s "backing_") = false ∧ s "x_" = s "x" ++ s "_" ∧ s "has_x" = s "has_" ++ s "x" := by
  simp -index only [fixedMembers, units, s, String.toList_append, String.toList_ofList,
    Bool.false_eq_true, ↓reduceIte]
  decide +kernel

/-- **The namespace-scope clash classes, for every scope of the shape** (findings
`type-named-like-generated-type-identifier`, `type-named-like-enum-helper`,
`nested-type-named-like-size-constant`, closed by rejection): an enum named `<S>View`,
`<S>Writer`, `Generic<S>View`, `Make<S>View` or `MakeAligned<S>View` next to a structure `<S>`; an
enum named like one of the four
enum helpers (with traits); a type nested in a structure and named like the free function of one
of the structure's constant virtual fields (`MaxSizeInBytes`, …). -/
theorem C07_clash_scopes_namespace :
    (∀ (sc : Scope) (n e : Name), n ∈ sc.structs → e ∈ sc.enums →
      (e = n ++ s "View" ∨ e = n ++ s "Writer" ∨ e = s "Generic" ++ n ++ s "View" ∨
       e = s "Make" ++ n ++ s "View" ∨ e = s "MakeAligned" ++ n ++ s "View") →
      clean (namespaceScope sc) = false) ∧
    (∀ (sc : Scope) (e : Name), sc.traits = true → e ∈ sc.enums →
      (e = s "EnumTraits" ∨ e = s "TryToGetEnumFromName" ∨ e = s "TryToGetNameFromEnum" ∨ e = s "EnumIsKnown") →
      clean (namespaceScope sc) = false) ∧
    (∀ (sc : Scope) (st : Struct) (f : Field) (c e : Name), sc.owner = some st → f ∈ st.fields →
      f.constant = true → cppFieldName f.name = some c → e ∈ sc.enums → e = c →
      clean (namespaceScope sc) = false) := by
  refine ⟨?_, ?_, ?_⟩
  · intro sc n e hn he hcase
    exact struct_enum_clash sc n e hn he (by simpa [or_assoc] using Or.inl (b := e = n) hcase)
  · intro sc e ht he hcase
    exact enum_helper_clash sc e ht he (by simpa using hcase)
  · rintro sc st f c e ho hf hc hcpp he rfl
    exact enum_clash sc e he _ (constant_fn_mem sc st f e ho hf hc hcpp) rfl (by simp)

/-- **The reference and cross-module clash classes, for every structure / scope of the shape**
(`parameter-named-like-view-data-member`, `structure-named-Storage-or-ValueType`): a parameter
`<p>` whose data member `<p>_` is a member every view class has
(`backing`, `parameters_initialized`); a structure named `Storage` (template parameter of its view
class) or `ValueType` (alias in the nested view class of every virtual field), whose own
`<Struct>::…` references then resolve to those; an enum nested in a structure of the same name
(`nested-enum-named-like-its-structure`); a structure and an enum of one name in one C++ namespace
(only possible across modules: `type-declared-twice-in-one-cpp-namespace`). -/
theorem C07_clash_scopes_references :
    (∀ (st : Struct) (p : Name), p ∈ st.params → p ++ s "_" ∈ fixedMembers st → clean (classScope st) = false) ∧
    (∀ st : Struct, st.name = s "Storage" → clean (typeRefScope st) = false) ∧
    (∀ st : Struct, st.name = s "ValueType" → clean (nestedRefScope st) = false) ∧
    (∀ st : Struct, st.name ∈ st.nestedEnums → clean (typeRefScope st) = false) ∧
    (∀ (sc : Scope) (n : Name), n ∈ sc.structs → n ∈ sc.enums → clean (namespaceScope sc) = false) :=
  ⟨param_named_like_member, struct_named_storage, struct_named_valuetype, nested_enum_named_like_struct,
   struct_and_enum_of_one_name⟩

example : s "backing" ++ s "_" ∈ fixedMembers { name := s "Foo", params := [s "backing"] } ∧
    s "parameters_initialized" ++ s "_" ∈ fixedMembers { name := s "Foo", params := [s "parameters_initialized"] } := by
  simp -index only [fixedMembers, units, s, String.toList_append, String.toList_ofList,
    Bool.false_eq_true, ↓reduceIte]
  decide +kernel

example : s "BarView" = s "Bar" ++ s "View" ∧ cppFieldName (s "$max_size_in_bytes") = some (s "MaxSizeInBytes") := by
  simp -index only [cppFieldName, s, String.toList_ofList]
  decide +kernel

/-- Non-vacuity: an ordinary structure is clean, and meets the hypotheses of
`C07_names_distinct`. -/
example :
    clean (classScope { name := s "Foo", params := [s "n"], fields := [fPlain "a", fVirt "b_1", fConst "$size_in_bytes"], nestedEnums := [s "Kind"] }) = true ∧
    clean (namespaceScope { structs := [s "Foo", s "Bar"], enums := [s "Kind", s "Other"] }) = true ∧
    [fPlain "a", fVirt "b_1"].Pairwise
      (fun a b => Emboss.Enum.snakeToCamel a.name ≠ Emboss.Enum.snakeToCamel b.name) ∧
    fieldNamesDistinct [fPlain "a", fVirt "b_1", fConst "$size_in_bytes", fReq "c"] = true ∧
    ([fPlain "a", fVirt "b_1", fConst "$size_in_bytes", fReq "c"].map (·.name)).Nodup := by
  simp -index only [classScope, namespaceScope, fixedMembers, structDecls, enumDecls, units,
    fPlain, fVirt, fConst, fReq, s, String.toList_append, String.toList_ofList, Bool.false_eq_true,
    ↓reduceIte]
  decide +kernel

/-! ## accepted ⇒ the generated identifiers are distinct (`_verify_generated_identifiers_are_distinct`) -/

/-- **Accepted ⇒ within every C++ scope of the generated code, two declarations of one identifier
belong to one overload / redeclaration set** — the full statement of the naming half, a
consequence of acceptance: the back end walks every scope (`checkLoop`, the first-seen dictionary
of `_verify_generated_identifiers_are_distinct`) and rejects the module otherwise.
`Lemmas/Names.lean`: `checkLoop [] ds = clean ds`. -/
theorem C07_identifiers_distinct (scopes : List (List Decl)) (hacc : identifiersDistinct scopes = true) :
    ∀ sc ∈ scopes, sc.Pairwise (fun a b => a.ident = b.ident → ∃ g, a.group = some g ∧ b.group = some g) := by
  intro sc hs
  exact (C07_clash_scopes.1 sc).mp ((identifiersDistinct_iff scopes).mp hacc sc hs)

/-- **The check rejects nothing but genuine clashes**: it fails iff some scope holds two
incompatible declarations of one identifier. -/
theorem C07_rejects_only_identifier_clashes (scopes : List (List Decl)) :
    identifiersDistinct scopes = false ↔
      ∃ sc ∈ scopes, ¬ sc.Pairwise (fun a b => a.ident = b.ident → ∃ g, a.group = some g ∧ b.group = some g) := by
  rw [Bool.eq_false_iff, Ne, identifiersDistinct_iff]
  simp only [C07_clash_scopes.1, Classical.not_forall,  exists_prop]

/-- **The clash classes cannot occur in an accepted structure** (findings
`field-named-like-view-data-member`, `field-named-like-parameter-member`,
`field-named-has_-of-another-field`, `nested-enum-named-like-view-member`,
`parameter-named-like-view-data-member`, `structure-named-Storage-or-ValueType`,
`nested-enum-named-like-its-structure`; all fixed by rejection). -/
theorem C07_accepted_excludes_clash_classes (st : Struct) (hacc : identifiersDistinct (structScopes st) = true) :
    (∀ f ∈ st.fields, isDollar f.name = false → f.name ∉ fixedMembers st) ∧
    (∀ p ∈ st.params, ∀ f ∈ st.fields, isDollar f.name = false → f.name ≠ p ++ s "_") ∧
    (∀ f ∈ st.fields, ∀ g ∈ st.fields, isDollar f.name = false → isDollar g.name = false →
      g.name ≠ s "has_" ++ f.name) ∧
    (∀ e ∈ st.nestedEnums, e ∉ fixedMembers st) ∧
    (∀ p ∈ st.params, p ++ s "_" ∉ fixedMembers st) ∧
    st.name ≠ s "Storage" ∧ st.name ≠ s "ValueType" ∧ st.name ∉ st.nestedEnums := by
  have ok : ∀ sc ∈ structScopes st, clean sc ≠ false := fun sc h => by
    simp [(identifiersDistinct_iff _).mp hacc sc h]
  have hc := ok (classScope st) (by simp [structScopes])
  have ht := ok (typeRefScope st) (by simp [structScopes])
  have hn := ok (nestedRefScope st) (by simp [structScopes])
  exact ⟨fun f hf hd hm => hc (C07_clash_scopes.2.1 st f hf hd hm),
    fun p hp f hf hd hm => hc (C07_clash_scopes.2.2.1 st p f hp hf hd hm),
    fun f hf g hg hdf hdg hm => hc (C07_clash_scopes.2.2.2.1 st f g hf hg hdf hdg hm),
    fun e he hm => hc (C07_clash_scopes.2.2.2.2 st e he hm),
    fun p hp hm => hc (param_named_like_member st p hp hm),
    fun h => ht (struct_named_storage st h),
    fun h => hn (struct_named_valuetype st h),
    fun h => ht (nested_enum_named_like_struct st h)⟩

/-- **… nor in an accepted namespace scope** (findings `type-named-like-generated-type-identifier`,
`type-named-like-enum-helper`, `nested-type-named-like-size-constant`,
`type-declared-twice-in-one-cpp-namespace`). -/
theorem C07_accepted_excludes_namespace_clash_classes (sc : Scope)
    (hacc : identifiersDistinct [namespaceScope sc] = true) :
    (∀ n ∈ sc.structs, ∀ e ∈ sc.enums,
      e ≠ n ++ s "View" ∧ e ≠ n ++ s "Writer" ∧ e ≠ s "Generic" ++ n ++ s "View" ∧
      e ≠ s "Make" ++ n ++ s "View" ∧ e ≠ s "MakeAligned" ++ n ++ s "View" ∧ e ≠ n) ∧
    (sc.traits = true → ∀ e ∈ sc.enums,
      e ≠ s "EnumTraits" ∧ e ≠ s "TryToGetEnumFromName" ∧ e ≠ s "TryToGetNameFromEnum" ∧ e ≠ s "EnumIsKnown") ∧
    (∀ st f c, sc.owner = some st → f ∈ st.fields → f.constant = true → cppFieldName f.name = some c →
      c ∉ sc.enums) := by
  have hc : clean (namespaceScope sc) ≠ false := by
    simp [(identifiersDistinct_iff _).mp hacc _ (List.mem_singleton.mpr rfl)]
  refine ⟨fun n hn e he => ?_, fun ht e he => ?_, ?_⟩
  · simpa [not_or] using mt (struct_enum_clash sc n e hn he) hc
  · simpa [not_or] using mt (enum_helper_clash sc e ht he) hc
  · exact fun st f c ho hf hk hcpp he => hc (C07_clash_scopes_namespace.2.2 sc st f c c ho hf hk hcpp he rfl)

/-- The witnesses of the clash classes are rejected; an ordinary structure and scope are accepted
(non-vacuity of the three theorems above).  Inputs: `corpus/C07/clash_*_must_be_rejected.*`. -/
theorem C07_identifier_clashes_rejected :
    identifiersDistinct (structScopes { name := s "Foo", fields := [fPlain "backing_"] }) = false ∧
    identifiersDistinct (structScopes { name := s "Foo", params := [s "x"], fields := [fPlain "x_"] }) = false ∧
    identifiersDistinct (structScopes { name := s "Foo", params := [s "backing"], fields := [fPlain "y"] }) = false ∧
    identifiersDistinct (structScopes { name := s "Foo", fields := [fPlain "x", fPlain "has_x"] }) = false ∧
    identifiersDistinct (structScopes { name := s "Foo", fields := [fPlain "y"], nestedEnums := [s "Ok"] }) = false ∧
    identifiersDistinct (structScopes { name := s "Storage", fields := [fPlain "y"] }) = false ∧
    identifiersDistinct (structScopes { name := s "ValueType", fields := [fPlain "y"] }) = false ∧
    identifiersDistinct (structScopes { name := s "Foo", fields := [fPlain "y"], nestedEnums := [s "Foo"] }) = false ∧
    identifiersDistinct [namespaceScope { structs := [s "Bar"], enums := [s "BarView"] }] = false ∧
    identifiersDistinct [namespaceScope { enums := [s "EnumTraits"] }] = false ∧
    identifiersDistinct [namespaceScope { enums := [s "EnumTraits"], traits := false }] = true ∧
    identifiersDistinct [namespaceScope { structs := [s "Foo", s "Foo"] }] = false ∧
    identifiersDistinct (structScopes { name := s "Foo", params := [s "n"], fields := [fPlain "a", fVirt "b_1", fConst "$size_in_bytes"], nestedEnums := [s "Kind", s "ValueType"] }) = true ∧
    identifiersDistinct [namespaceScope { structs := [s "Foo", s "Bar"], enums := [s "Kind", s "Other"] }] = true := by
  simp -index only [structScopes, classScope, typeRefScope, nestedRefScope, namespaceScope,
    fixedMembers, structDecls, enumDecls, units, fPlain, fVirt, fConst, s, String.toList_append,
    String.toList_ofList, Bool.false_eq_true, ↓reduceIte]
  decide +kernel

/-! ## `(cpp) namespace` -/

/-- **An accepted `(cpp) namespace` value yields well-formed `namespace X {` lines**: the
components the back end emits (`_get_namespace_components`, the same scanner that validates the
text — whitespace around `::` and a leading `::` play no role) are at least one, each a C++
identifier, none of them a reserved word. -/
theorem C07_namespace_components (rw : List String) (text : List Char) (cs : List Name)
    (h : verifyNamespace rw text = .ok cs) :
    nsParse text = some cs ∧ cs ≠ [] ∧
    (∀ c ∈ cs, IsIdent c) ∧ (∀ c ∈ cs, String.ofList c ∉ rw) := by
  obtain ⟨hp, hk⟩ := (verifyNamespace_eq_ok rw text cs).mp h
  exact ⟨hp, (nsParse_sound text cs hp).1, (nsParse_sound text cs hp).2, hk⟩

/-- **Every text of the documented shape is accepted, with exactly its identifiers**
(completeness; with `C07_namespace_components` the scanner is characterised): blanks `w0`, an
optional `::` followed by blanks, an identifier, blanks, then any number of `:: blanks
identifier blanks` — whatever the blanks (any `str.isspace()` character), provided no component is
a reserved word. -/
theorem C07_namespace_text_complete (rw : List String) (w0 : List Char) (lead : Option (List Char))
    (n : Name) (w2 : List Char) (rest : List (List Char × Name × List Char))
    (h0 : w0.all Emboss.Enum.isSpace = true) (hl : ∀ w1, lead = some w1 → w1.all Emboss.Enum.isSpace = true)
    (hn : IsIdent n) (h2 : w2.all Emboss.Enum.isSpace = true)
    (hr : ∀ p ∈ rest, p.1.all Emboss.Enum.isSpace = true ∧ IsIdent p.2.1 ∧ p.2.2.all Emboss.Enum.isSpace = true)
    (hk : ∀ c ∈ n :: rest.map (·.2.1), String.ofList c ∉ rw) :
    verifyNamespace rw (w0 ++ nsLead lead ++ n ++ w2 ++ nsTail rest) = .ok (n :: rest.map (·.2.1)) :=
  (verifyNamespace_eq_ok ..).mpr ⟨nsParse_complete w0 lead n w2 rest h0 hl hn h2 hr, hk⟩

/-- Non-vacuity: `" :: a1 :: b::c_1\t"` is such a text. -/
example : [' '] ++ nsLead (some [' ']) ++ s "a1" ++ [' '] ++ nsTail [([' '], s "b", []), ([], s "c_1", ['\t'])] =
    " :: a1 :: b::c_1\t".toList := by
  simp -index only [s, String.toList_ofList]
  decide +kernel

/-- **Every C++17 keyword and alternative token is refused as a namespace component** — over the
back end's own table, regenerated from `_CPP_RESERVED_WORDS` on every run. -/
theorem C07_namespace_keywords_reserved :
    Emboss.Spec.cpp17Keywords.all (fun k => Emboss.Generated.cppReservedWords.contains k) = true := by
  rw [all_contains_chars]
  unfold Emboss.Spec.cpp17Keywords Emboss.Generated.cppReservedWords
  simp -index only [List.map, String.toList_ofList]
  decide +kernel

/-- Non-vacuity and the boundary cases (tests by evaluation): whitespace and a leading `::` are
tolerated; a keyword is refused however it is padded; `::` alone, an empty text, `a::`, `a b`
and `a:::b` are not namespaces. -/
example :
    verifyNamespace ["protected", "new"] " ::a1 :: b_2\t::c ".toList = .ok [s "a1", s "b_2", s "c"] ∧
    verifyNamespace ["protected", "new"] " new".toList = .reserved [s "new"] ∧
    verifyNamespace ["protected", "new"] "::".toList = .global ∧
    verifyNamespace ["protected", "new"] "  ".toList = .empty ∧
    verifyNamespace ["protected", "new"] "a::".toList = .invalid ∧
    verifyNamespace ["protected", "new"] "a b".toList = .invalid ∧
    verifyNamespace ["protected", "new"] "a:::b".toList = .invalid ∧
    verifyNamespace ["protected", "new"] "Protected".toList = .ok [s "Protected"] := by
  simp -index only [s, String.toList_ofList]
  decide +kernel

/-- … and against the real table: the seeded-change witness. -/
example : verifyNamespace Emboss.Generated.cppReservedWords "acme :: protected :: wire".toList =
    .reserved [s "protected"] := by decide +kernel

/-! ## `enable_if` preconditions -/

/-- **Every `enable_if` of the runtime and of the code templates is accounted for** (table
regenerated on every run): caller-argument overload rules, the constructor guard, and the
ones over generated template arguments.  Of the latter, `array-unit` and `byte-array-to-string`
have their clause in `C07_enable_if_array_members`; `ascii-shorthand` (`Parameters::kBits == 8`) has
none and is observed by the compile tie. -/
theorem C07_enable_ifs_classified :
    Emboss.EnableIfs.allClassified = true ∧ Emboss.EnableIfs.allTagsProved = true := by
  refine ⟨?_, by decide +kernel⟩
  unfold Emboss.EnableIfs.allClassified Emboss.EnableIfs.classify
  rw [classified_chars]
  unfold Emboss.Generated.enableIfs Emboss.EnableIfs.table
  -- `rw`, not `simp -index`: the characters of these conditions nest deeper than `simp` recurses
  simp only [List.map]
  repeat rw [String.toList_ofList]
  decide +kernel

/-- **The generated `GenericArrayView` arguments enable exactly the members the templates use**:
`kAddressableUnitSize` is 8 for an array in a `struct` and 1 in a `bits`, so exactly one of the
two `SizeOfBuffer()` overloads (which `ElementCount()`/`Ok()` call unconditionally) exists, and
it is `SizeInBytes()` for a `struct`, `SizeInBits()` for a `bits`; `ToString()` exists only for
byte arrays of one-byte elements; any other unit would leave no overload at all. -/
theorem C07_enable_if_array_members (isBits : Bool) (elementSize : Nat) :
    Emboss.EnableIfs.sizeOverloads (Emboss.EnableIfs.arrayUnit isBits) = (!isBits, isBits) ∧
    (Emboss.EnableIfs.hasToString (Emboss.EnableIfs.arrayUnit isBits) elementSize = true ↔
      isBits = false ∧ elementSize = 1) ∧
    (∀ u, u ≠ 1 → u ≠ 8 → Emboss.EnableIfs.sizeOverloads u = (false, false)) := by
  refine ⟨by cases isBits <;> rfl, ?_, ?_⟩
  · cases isBits <;> simp [Emboss.EnableIfs.hasToString, Emboss.EnableIfs.arrayUnit]
  · intro u h1 h8
    simp [Emboss.EnableIfs.sizeOverloads, h1, h8]

example : Emboss.EnableIfs.sizeOverloads (Emboss.EnableIfs.arrayUnit true) = (false, true) ∧
    Emboss.EnableIfs.hasToString (Emboss.EnableIfs.arrayUnit false) 1 = true := by decide +kernel

end Emboss.C07
