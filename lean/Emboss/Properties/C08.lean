/-
C08 — the LR(1) generator builds a parser for exactly the grammar's language.

Translation validation: for all grammars `G`, automata `A` (tables as dumped from the real
`lr1.Parser`) and certificates `C`, `Valid G A C` (decided by the executable checker, run on
every generated table) implies the theorems below about `run A` — the model of `Parser.parse`.
The section "Level B" is about a model `gen` of the generator itself: for every
grammar it returns tables, and tables without the conflict flag satisfy `Valid`.
-/
import Emboss.Lemmas.Lr1Examples
import Emboss.Lemmas.Lr1Fast
import Emboss.Lemmas.Lr1Term
import Emboss.Lemmas.Lr1GenValid
import Emboss.Lemmas.Lr1GenFuelBfs
import Emboss.Lemmas.Lr1TermCex
import Emboss.Lemmas.Lr1EmbossRuns
namespace Emboss.Lr1

/-- **The compiled validator decides `Valid`.**  `validFast` (hash-set membership; what the
driver runs on every dumped table, the Emboss grammars included) implies `Valid`, from which
all theorems below follow. -/
theorem C08_validator_sound {G : Grammar} {A : Automaton} {C : Cert} (h : validFast G A C = true) :
    Valid G A C := validFast_sound h

/-- **Soundness.**  If the tables validate and the parser accepts `w` with tree `t`, then `t`
is a derivation of `w`: every node an instance of a production of `G`, the root is the start
symbol, the leaves are the input tokens in order — for **every** token list, also one that
contains a client token with the end-of-input symbol (such a token has no action since fix
935ff56; pinned by `exRun3`, `exRun5`). -/
theorem C08_sound {G : Grammar} {A : Automaton} {C : Cert} (hv : Valid G A C)
    {w : List Token} {fuel : Nat} {t : Tree}
    (h : run A fuel w = .accept t) : Derives G t w :=
  (run_accepts_iff hv t).mp ⟨fuel, h⟩

/-- **Safety.**  Over validated tables `Parser.parse` never raises: no `KeyError` (missing goto
or action row), no failed assertion, no stack underflow, no shift past the end of input — for
every token list (also ill-formed ones) and every step budget. -/
theorem C08_safe {G : Grammar} {A : Automaton} {C : Cert} (hv : Valid G A C)
    (w : List Token) (fuel : Nat) (m : String) : run A fuel w ≠ .internal m :=
  fun h => run_post hv h

/-- **Completeness.**  If the tables validate, every derivation `t` of `w` from the start
symbol is found: with enough fuel the parser accepts `w` and returns exactly `t`. -/
theorem C08_complete {G : Grammar} {A : Automaton} {C : Cert} (hv : Valid G A C)
    {t : Tree} {w : List Token} (hd : Derives G t w) :
    ∃ f0, ∀ fuel, f0 ≤ fuel → run A fuel w = .accept t :=
  run_complete hv hd

/-- **Unambiguity.**  A grammar whose tables validate has at most one parse tree per token
string: an ambiguous grammar can never be validated, i.e. is never silently conflict-free. -/
theorem C08_unambiguous {G : Grammar} {A : Automaton} {C : Cert} (hv : Valid G A C)
    {t₁ t₂ : Tree} {w : List Token} (h₁ : Derives G t₁ w) (h₂ : Derives G t₂ w) : t₁ = t₂ := by
  obtain ⟨f₁, hf₁⟩ := run_complete hv h₁
  obtain ⟨f₂, hf₂⟩ := run_complete hv h₂
  have e₁ := hf₁ (max f₁ f₂) (Nat.le_max_left _ _)
  have e₂ := hf₂ (max f₁ f₂) (Nat.le_max_right _ _)
  rw [e₁] at e₂
  cases e₂; rfl

/-- **Exactly the grammar's language.**  Over validated tables the parser accepts `w` with tree
`t` iff `t` is a derivation of `w`. -/
theorem C08_accepts_iff {G : Grammar} {A : Automaton} {C : Cert} (hv : Valid G A C)
    {w : List Token} (t : Tree) :
    (∃ fuel, run A fuel w = .accept t) ↔ Derives G t w :=
  run_accepts_iff hv t

/-- **Termination (accepted and rejected inputs).**  `TermOK A` is the decidable termination
analysis of Model/Lr1Term.lean (run by the driver on every dumped table, op `LRTERM`: for every
state, successor state and row key it executes the chain of reductions the table prescribes at
a fixed cursor and checks that it comes to a Shift/Accept/Error or pops below its starting
point).  Over a table that passes, `Parser.parse` halts on **every** token list: there is a
step budget with which the model run returns a result (accept, syntax error, or a Python
exception) instead of running out of fuel.  Measure: (tokens left, stack height).

`Valid` alone does not imply this — a certificate may carry a FIRST table that is closed but not
least, and then validates tables with spurious ε-reductions that loop on a lookahead no
sentence can have (e.g. `S → a | A c; A → B A; B → ε` with `c ∈ FIRST(A)`: the state reached
over `B` reduces `B → ε` on `c` and returns to itself) — hence the separate, checked hypothesis. -/
theorem C08_terminates {A : Automaton} (hT : TermOK A) (w : List Token) :
    ∃ fuel, run A fuel w ≠ .outOfFuel :=
  run_terminates hT w

/-- **Counterexample: `Valid` alone does not give termination.**  A hand-built table for
`S → a | A c ; A → B A ; B → ε` whose certificate carries a closed but not least FIRST table
(`c ∈ FIRST(A)`) satisfies `Valid`, fails the termination analysis, and on the input `c` is
still running after 200 steps (it reduces `B → ε` on `c` forever).  Not an output of the real
generator (which computes least FIRST sets); it shows why `C08_terminates` needs `TermOK`. -/
theorem C08_valid_not_terminating_counterexample :
    Valid TermCex.G TermCex.A TermCex.C ∧ ¬ TermOK TermCex.A ∧
      run TermCex.A 200 [⟨6, 0⟩] = .outOfFuel :=
  ⟨TermCex.valid, TermCex.notTermOK, TermCex.loops⟩

/-- **Total correctness.**  Over tables that validate and pass the termination analysis every
token list is decided: with enough fuel the run either accepts with a derivation of `w`, or
reports a syntax error, and then `w` is not a sentence. -/
theorem C08_decides {G : Grammar} {A : Automaton} {C : Cert} (hv : Valid G A C) (hT : TermOK A)
    (w : List Token) :
    ∃ fuel, (∃ t, run A fuel w = .accept t ∧ Derives G t w) ∨
      (∃ code i s e, run A fuel w = .error code i s e ∧ ¬ Sentence G w) := by
  obtain ⟨fuel, hf⟩ := C08_terminates hT w
  refine ⟨fuel, ?_⟩
  cases hr : run A fuel w with
  | accept t => exact Or.inl ⟨t, rfl, C08_sound hv hr⟩
  | error code i s e => exact Or.inr ⟨code, i, s, e, rfl, no_sentence_of_error hv hr (fun _ _ => rfl)⟩
  | internal m => exact absurd hr (C08_safe hv w fuel m)
  | outOfFuel => exact absurd hr hf

/-- Accepting runs terminate also without the analysis (from completeness). -/
theorem C08_terminates_accepting {G : Grammar} {A : Automaton} {C : Cert} (hv : Valid G A C)
    {w : List Token} (hs : Sentence G w) : ∃ fuel t, run A fuel w = .accept t := by
  obtain ⟨t, hd⟩ := hs
  obtain ⟨f, hf⟩ := (run_accepts_iff hv t).mpr hd
  exact ⟨f, t, hf⟩

/-- **Error position.**  If the tables validate and every nonterminal is productive, an error
reported at index `i` is raised at the first token no sentence can continue with: the consumed
input `w[:i]` is a prefix of a sentence, and no sentence agrees with `w` on positions `≤ i` —
in particular none starts with `w[:i+1]`, and `w` itself is not a sentence.  (Index `|w|` is
the implicit end-of-input token.) -/
theorem C08_error_position {G : Grammar} {A : Automaton} {C : Cert} (hv : Valid G A C)
    (hr : Reduced G) {w : List Token} {fuel : Nat} {code : Option Nat} {i s : Nat} {e : List Nat}
    (h : run A fuel w = .error code i s e) :
    ViablePrefix G (w.take i) ∧
    (i < w.length → ∀ v, ¬ Sentence G (w.take (i + 1) ++ v)) ∧
    ¬ Sentence G w := by
  obtain ⟨st, hl, hy⟩ := run_post hv h
  refine ⟨hy ▸ hl.viable hv hr, ?_, ?_⟩
  · intro hi v
    refine no_sentence_of_error hv h (fun j hj => ?_)
    have hj' : j < (w.take (i + 1)).length := by simp; omega
    rw [List.getElem?_append_left hj', List.getElem?_take]
    simp [Nat.lt_succ_of_le hj]
  · exact no_sentence_of_error hv h (fun _ _ => rfl)

/-- **The hypothesis `Reduced G` is checkable.**  `Gen.reducedB G` — the marking loop for
productive nonterminals, run by the driver (op `REDUCED`) for every grammar whose tables are
validated, the two Emboss grammars included, and compared with the harness's own oracle — implies
`Reduced G`. -/
theorem C08_reduced_check_sound {G : Grammar} (h : Gen.reducedB G = true) : Reduced G :=
  reducedB_sound h

/-- **Error position, all hypotheses executable**: tables that pass the compiled validator, for a
grammar that passes the productivity check, report every syntax error at the first token no
sentence can continue with. -/
theorem C08_error_position_checked {G : Grammar} {A : Automaton} {C : Cert}
    (hv : validFast G A C = true) (hr : Gen.reducedB G = true)
    {w : List Token} {fuel : Nat} {code : Option Nat} {i s : Nat} {e : List Nat}
    (h : run A fuel w = .error code i s e) :
    ViablePrefix G (w.take i) ∧
    (i < w.length → ∀ v, ¬ Sentence G (w.take (i + 1) ++ v)) ∧
    ¬ Sentence G w :=
  C08_error_position (C08_validator_sound hv) (C08_reduced_check_sound hr) h

/-! ### Level B: the generator model `gen` (Model/Lr1Gen.lean)

`gen G` models `Grammar(start, productions).parser()`: `_compute_symbols`, the FIRST fixed point
(`_compute_seed_firsts`: rounds until nothing is added), the worklist closure, `_parallel_goto`,
the breadth-first numbering of `_items`, the ACTION loop with its conflict check, goto trimming.
It is compared **exactly** with the real generator on every grammar of the run (driver op `GEN`:
item sets, numbering, conflict flag, tables).  The theorems below are about every grammar. -/

/-- **Level B: the generator is correct by construction.**  Whenever the generator model returns
tables without conflicts, these tables — with the item sets it built, in the order it found the
items, and its own FIRST table as certificate — satisfy all nine conditions of the validator:
`Valid`.  (`WfG G`: the client's productions do not use the reserved symbols `$` and `S'`.)  So
"the generator builds a parser for exactly the grammar's language" is a theorem about the
generator model, not only a per-table validation. -/
theorem C08_gen_valid {G : Grammar} {o : Gen.Out} (h : gen G = some o) (hW : WfG G)
    (hc : o.conflicts = false) : Valid G o.aut o.cert :=
  gen_valid h hW hc

/-- **Level B: exactly the grammar's language, unambiguously, without exceptions** — the
consequences of `C08_gen_valid` for the generated tables: the parser accepts `w` with tree `t`
iff `t` is a derivation of `w`; a grammar with two derivations of one string is never
conflict-free; the driver never raises on any token list. -/
theorem C08_gen_correct {G : Grammar} {o : Gen.Out} (h : gen G = some o) (hW : WfG G)
    (hc : o.conflicts = false) :
    (∀ (w : List Token) (t : Tree), (∃ fuel, run o.aut fuel w = .accept t) ↔ Derives G t w) ∧
    (∀ (w : List Token) (t₁ t₂ : Tree), Derives G t₁ w → Derives G t₂ w → t₁ = t₂) ∧
    (∀ (w : List Token) (fuel : Nat) (m : String), run o.aut fuel w ≠ .internal m) :=
  have hv := C08_gen_valid h hW hc
  ⟨fun _ t => C08_accepts_iff hv t, fun _ _ _ h₁ h₂ => C08_unambiguous hv h₁ h₂,
    fun w fuel m => C08_safe hv w fuel m⟩

/-- **Level B: the fuel bounds suffice.**  The generator model never answers "out of fuel": the FIRST
iteration stops within `n·(n+1) + 2` rounds (`n` = number of symbol codes: every round that does not
stop adds a (nonterminal, terminal-or-ε) fact), every worklist closure within
`|rules|·(maxrhs+1)·n + |seed|` iterations (only dot-0 items are added, each once), and the
breadth-first construction within `2 ^ (|rules|·(maxrhs+1)·n) + 2` steps (states are pairwise
different sorted duplicate-free lists of items, i.e. sublists of the sorted list of all items).
`hW` is not used: `gen_terminates` shows this of every grammar. -/
theorem C08_gen_fuel_sufficient {G : Grammar} (hW : WfG G) : ∃ o, gen G = some o :=
  gen_terminates G

/-- **Level B, in one statement.**  For every grammar that does not use the reserved symbols the
generator model returns tables, and they either carry the conflict flag or validate — hence
(`C08_accepts_iff`, `C08_unambiguous`, `C08_safe`, `C08_error_position`) parse exactly the
grammar's language. -/
theorem C08_gen_total {G : Grammar} (hW : WfG G) :
    ∃ o, gen G = some o ∧ (o.conflicts = true ∨ Valid G o.aut o.cert) := by
  obtain ⟨o, h⟩ := C08_gen_fuel_sufficient hW
  refine ⟨o, h, ?_⟩
  cases hc : o.conflicts with
  | true => exact Or.inl rfl
  | false => exact Or.inr (C08_gen_valid h hW hc)

/-- **Level B: ambiguous grammars are reported.**  If some token string has two different
derivations, the generator model reports conflicts. -/
theorem C08_gen_ambiguous_conflicts {G : Grammar} {o : Gen.Out} (h : gen G = some o) (hW : WfG G)
    {w : List Token} {t₁ t₂ : Tree} (h₁ : Derives G t₁ w) (h₂ : Derives G t₂ w) (hne : t₁ ≠ t₂) :
    o.conflicts = true := by
  cases hc : o.conflicts with
  | true => rfl
  | false => exact absurd (C08_unambiguous (C08_gen_valid h hW hc) h₁ h₂) hne

/-- **Level B, `_closure_of_item`.**  The worklist closure contains its seed, is closed, and
everything it adds is a dot-0 item that some item of the result brings in (no junk). -/
theorem C08_gen_closure {C : Cert} {seed S : List Item} (h : Gen.closure C seed = some S) :
    (∀ x ∈ seed, x ∈ S) ∧ Gen.Closed C S ∧
      (∀ x ∈ S, x ∈ seed ∨ (x.dot = 0 ∧ ∃ y ∈ S, x ∈ Gen.succsOf C y)) :=
  Gen.closure_spec h

/-- **Level B, `_parallel_goto`.**  `goto(I, x)` contains the advance of every item of `I` with
`x` after the dot, is closed, and each of its items is a dot-0 item or such an advance (the item
condition of the validator's `VKernel`). -/
theorem C08_gen_goto {C : Cert} {I J : List Item} {x : Nat} (h : Gen.gotoSet C I x = some J) :
    (∀ it ∈ I, C.nextSyms it = [x] → Gen.advance it ∈ J) ∧ Gen.Closed C J ∧
    (∀ y ∈ J, y.dot = 0 ∨ ∃ it ∈ I, C.nextSyms it = [x] ∧ y = Gen.advance it) :=
  Gen.gotoSet_spec h

/-- **Error position for the generator model** (after the repair of finding F10: `Grammar.parser()`
reports nonterminals that derive no terminal string together with the conflicts).  For every
output of the generator model without a report — no conflict, no unproductive nonterminal — an
error is raised at the first token no sentence can continue with; the hypothesis `Reduced G` of
`C08_error_position` is discharged by the generator's own productivity check. -/
theorem C08_gen_error_position {G : Grammar} {o : Gen.Out} (h : gen G = some o) (hW : WfG G)
    (hc : o.conflicts = false)
    {w : List Token} {fuel : Nat} {code : Option Nat} {i s : Nat} {e : List Nat}
    (he : run o.aut fuel w = .error code i s e) :
    ViablePrefix G (w.take i) ∧
    (i < w.length → ∀ v, ¬ Sentence G (w.take (i + 1) ++ v)) ∧
    ¬ Sentence G w :=
  C08_error_position (C08_gen_valid h hW hc) (gen_reduced h hW hc) he

/-! ### non-vacuity and the counterexample (tables regenerated from the real lr1.py) -/
open Examples

-- test: the example tables (S → A b; A → a A | ε) validate, accept `a a b` with the expected
-- tree, and reject `a a` at end of input
example : Valid exG exA exC := exValid
example : run exA 20 [⟨5, 0⟩, ⟨5, 1⟩, ⟨4, 2⟩] =
    .accept (.node ⟨2, [3, 4]⟩ [.node ⟨3, [5, 3]⟩ [.leaf ⟨5, 0⟩,
      .node ⟨3, [5, 3]⟩ [.leaf ⟨5, 1⟩, .node ⟨3, []⟩ []]], .leaf ⟨4, 2⟩]) := by decide +kernel
example : run exA 20 [⟨5, 0⟩, ⟨5, 1⟩] = .error none 2 3 [4, 5] := by decide +kernel
-- test (tables and result regenerated from the real code): a client token whose symbol is the
-- end-of-input marker (code 0) is a syntax error at its own index, not "accept what came before"
example : run exA 60 [⟨5, 0⟩, ⟨0, 1⟩, ⟨5, 2⟩] = .error none 1 3 [4, 5] := exRun3
example : run exA 60 [⟨5, 0⟩, ⟨4, 1⟩, ⟨0, 2⟩] = .error none 2 4 [0] := exRun5
-- tie (tables and results regenerated from generated/cached_parser.py and the real `Parser.parse` on every run,
-- decided by the kernel): `run` on the rows of the shipped Emboss module / expression tables
example := EmbossRuns.moduleRun0
example := EmbossRuns.expressionRun0
-- test: the example tables (regenerated from the real code) pass the termination analysis
example : TermOK exA := by decide +kernel
example : TermOK f10A := by decide +kernel
-- test: the generator model runs on the example grammar (no conflicts, as many states as the real
-- parser has)
private theorem gen_exG : (gen exG).map (fun o => (o.conflicts, o.cert.items.size)) = some (false, exC.items.size) := by
  decide +kernel
example : (gen exG).map (fun o => (o.conflicts, o.cert.items.size)) = some (false, exC.items.size) := gen_exG
-- test: the hypotheses of `C08_gen_valid` are met by the example grammar
example : WfG exG ∧ (gen exG).map (·.conflicts) = some false :=
  ⟨by decide, by simpa using congrArg (Option.map (·.1)) gen_exG⟩
-- test: it reports conflicts for the ambiguous `S → S a S | b`
example : (gen ⟨2, [⟨2, [2, 3, 2]⟩, ⟨2, [4]⟩], 1, 0⟩).map (·.conflicts) = some true := by decide +kernel
example : (Gen.closure exC [⟨2, 0, 0⟩]).isSome = true := by decide +kernel
-- test: the productivity check accepts the example grammar and rejects the F10 grammar
example : Gen.reducedB exG = true ∧ Gen.reducedB f10G = false := by decide +kernel
example : Reduced exG := C08_reduced_check_sound (by decide +kernel)

-- test: the generator model reports the grammar of finding F10 (as `Grammar.parser()` does since a70d144)
example : (gen f10G).map (·.conflicts) = some true := by decide +kernel

/-- **Counterexample (finding F10; since a70d144 the generator reports this grammar, see
`C08_gen_error_position`).**  Without productivity `C08_error_position` is false on
the real tables: for `S → a B | a c ; B → b B` the (validated) parser consumes `a b` and reports
the error at index 2 (end of input), although no sentence starts with `a b`. -/
theorem C08_error_position_unproductive_counterexample :
    Valid f10G f10A f10C ∧
    run f10A 20 [⟨3, 0⟩, ⟨6, 1⟩] = .error none 2 4 [6] ∧
    ¬ ViablePrefix f10G ([⟨3, 0⟩, ⟨6, 1⟩].take 2) := by
  refine ⟨f10Valid, by decide +kernel, ?_⟩
  intro ⟨v, t, hp, hroot, hy⟩
  cases hp with
  | leaf tok hnt =>
    simp only [Tree.root] at hroot
    rw [hroot] at hnt
    revert hnt; decide
  | node p cs hpm hcs hroots =>
    simp only [f10G, List.mem_cons, List.mem_nil_iff, or_false] at hpm
    rcases hpm with rfl | rfl | rfl
    · obtain ⟨c1, c2, rfl, _, h2⟩ := map_root_pair hroots
      exact f10_no_tree_for_B (hcs c2 (by simp)) h2
    · obtain ⟨c1, c2, rfl, h1, h2⟩ := map_root_pair hroots
      obtain ⟨t1, rfl⟩ := leaf_of_terminal_root (hcs c1 (by simp)) (by rw [h1]; decide)
      obtain ⟨t2, rfl⟩ := leaf_of_terminal_root (hcs c2 (by simp)) (by rw [h2]; decide)
      simp only [Tree.yield, Tree.yieldL, List.take, List.cons_append, List.nil_append,
        List.append_nil, List.cons.injEq] at hy
      have h2' : t2.sym = 5 := h2
      rw [hy.2.1] at h2'
      cases h2'
    · cases hroot

end Emboss.Lr1
