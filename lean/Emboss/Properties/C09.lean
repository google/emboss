/-
C09 — the shipped parser tables are the parser of the documented grammar.

`Bisim A B π` is decided by the executable checker on the dumped tables of
`cached_parser.module_parser()/expression_parser()` (A, plain dicts) and of a parser freshly
generated by `make_parser` (B); `Valid G B C` by the C08 validator; production-set equality
with doc/grammar.md by `SameRules`.  (`Lemmas/Lr1EmbossRuns`: the `run` equations on
the shipped tables, imported for the audit.)
-/
import Emboss.Lemmas.Lr1Bisim
import Emboss.Lemmas.Lr1Complete
import Emboss.Lemmas.Lr1Examples
import Emboss.Lemmas.Merr
import Emboss.Lemmas.MerrPerm
import Emboss.Lemmas.Lr1EmbossRuns
namespace Emboss.Lr1

/-- **Bisimulation is sound.**  If the checker accepts the pairing, then on every token list
and for every step budget the two parsers give the same outcome up to the state renaming:
same accept/reject decision, same parse tree, same error index and code, paired error states,
expected-token sets with the same members, same Python exception. -/
theorem C09_bisim_sound {A B : Automaton} {π : Array (Option Nat)} (hb : Bisim A B π)
    (w : List Token) (fuel : Nat) : ResultRel π (run A fuel w) (run B fuel w) :=
  runFrom_bisim hb w fuel ⟨by simp [init, StackRel], rfl⟩

/-- **Identical numbering.**  If moreover the pairing is the identity, error states coincide
too: the tables are behaviourally equal as they stand. -/
theorem C09_equal_tables {A B : Automaton} {π : Array (Option Nat)} (hb : Bisim A B π)
    (hid : ∀ s t, pairOf π s = some t → t = s) (w : List Token) (fuel : Nat) :
    match run A fuel w, run B fuel w with
    | .accept t, .accept t' => t = t'
    | .error c i s e, .error c' i' s' e' => c = c' ∧ i = i' ∧ s = s' ∧ ∀ x, x ∈ e ↔ x ∈ e'
    | .internal m, .internal m' => m = m'
    | .outOfFuel, .outOfFuel => True
    | _, _ => False := by
  have h := C09_bisim_sound hb w fuel
  generalize run A fuel w = r₁ at h
  generalize run B fuel w = r₂ at h
  cases r₁ <;> cases r₂ <;> first | exact h | skip
  exact ⟨h.1, h.2.1, (hid _ _ h.2.2.1).symm, h.2.2.2⟩

/-- **The cached parser is the parser of the documented grammar.**  If the shipped tables are
bisimilar to freshly generated ones, those validate against the source grammar `G`, and `G`'s
production set equals the one published in doc/grammar.md, then the shipped parser accepts
exactly the sentences of the documented grammar and returns their (unique) parse tree. -/
theorem C09_cached_is_documented {G : Grammar} {cached fresh : Automaton} {C : Cert}
    {π : Array (Option Nat)} {doc : List Rule}
    (hb : Bisim cached fresh π) (hv : Valid G fresh C) (hd : SameRules G.prods doc)
    {w : List Token} (t : Tree) :
    (∃ fuel, run cached fuel w = .accept t) ↔ Derives { G with prods := doc } t w := by
  rw [exists_congr fun fuel => (C09_bisim_sound hb w fuel).accept_iff t, run_accepts_iff hv]
  have hto := ParseTree.congr (G := G) (G' := { G with prods := doc }) rfl rfl hd (t := t)
  have hfrom := ParseTree.congr (G := { G with prods := doc }) (G' := G) rfl rfl ⟨hd.2, hd.1⟩ (t := t)
  exact ⟨fun ⟨hp, h⟩ => ⟨hto hp, h⟩, fun ⟨hp, h⟩ => ⟨hfrom hp, h⟩⟩

/-! ### `Parser.mark_error` (Model/Merr.lean) -/

/-- **Marking never changes the parse.**  The parser obtained by marking any list of error
examples accepts and rejects exactly like the unmarked one: same parse tree, same error index
and state, expected sets with the same members; only the reported error code differs. -/
theorem C09_mark_error_preserves_parse {A B : Automaton} {fuel : Nat} {es : List ErrExample}
    (h : markAll A fuel es = some B) (w : List Token) (f : Nat) : RunSame (run A f w) (run B f w) :=
  ext_runFrom (markAll_ext h) w f init

/-- **`mark_error` is deterministic in (tables, example list).**  The place where an example's
code is recorded (`slotOf`: default error of a state, or entry (state, symbol)) is the one
computed on the *unmarked* table — it does not depend on which examples were marked before —
so the loop over the examples is a sequence of plain table writes of (slot, code) pairs fixed
by the grammar's tables and the examples; the order of the examples matters only through the
overwrite check of `put` (two examples for the same slot must carry the same code). -/
theorem C09_mark_error_deterministic (A : Automaton) (fuel : Nat) (es : List ErrExample) :
    markAll A fuel es = (slotsOf A fuel es).bind (putAll A) :=
  markAll_eq_putAll fuel es A (ErrExt.refl A)

/-- **The marked table does not depend on the order of the examples.**  If marking the examples in
one order succeeds, marking any permutation of them succeeds too, and the two marked tables are
observationally equal (`TableEqv`: same productions, gotos and flags, the same entry for every
(state, symbol), the same default error for every state, the same rows present) — hence the two
parsers give the same result on every input (`RunSame`: same tree, same error index and state,
expected lists with the same members; the error codes agree too, by `TableEqv.val`). -/
theorem C09_mark_error_order_independent {A B : Automaton} {fuel : Nat} {es es' : List ErrExample}
    (hperm : es.Perm es') (h : markAll A fuel es = some B) :
    ∃ B', markAll A fuel es' = some B' ∧ TableEqv B B' ∧ ∀ w f, RunSame (run B f w) (run B' f w) := by
  obtain ⟨B', hB', he⟩ := markAll_perm hperm h
  exact ⟨B', hB', he, fun w f => ext_runFrom he.errExt w f init⟩

/-! ### non-vacuity (tables regenerated from the real code: `exB` is `exM` after the real
cached-parser serialisation, with productions renumbered and plain-dict tables) -/
open Examples

example : Bisim exB exM exPi := exBisim
example : Valid exG exM exC := exMValid
example : SameRules exG.prods [⟨3, []⟩, ⟨2, [3, 4]⟩, ⟨3, [5, 3]⟩] := by decide +kernel
-- test: marked error code and default error code come out of both tables
example : run exB 20 [⟨5, 0⟩, ⟨5, 1⟩] = .error (some 0) 2 3 [4, 5] := by decide +kernel
example : run exM 20 [⟨5, 0⟩, ⟨5, 1⟩] = .error (some 0) 2 3 [4, 5] := by decide +kernel
example : run exB 20 [⟨4, 0⟩, ⟨4, 1⟩] = .error (some 1) 1 4 [0] := by decide +kernel
-- test / tie: the model of mark_error applied to the example parser with the two examples the
-- translator feeds to the *real* `Parser.mark_error` yields the real marked table `exM`
example : (markAll exA 60 exMarks).map tableOf = some (tableOf exM) := exMarked
example : slotsOf exA 60 exMarks = some [(.entry 3 0, 0), (.dflt 4, 1)] := by decide +kernel
-- test: the two examples in the other order give the same table
example : (markAll exA 60 exMarks.reverse).map tableOf = some (tableOf exM) := by decide +kernel
-- test: a second example for the same slot with another code is refused, in either order
example : markAll exA 60 (exMarks ++ [⟨[⟨5, 0⟩, ⟨5, 1⟩], .eoi, 7⟩]) = none := by decide +kernel
example : (markAll exA 60 (⟨[⟨5, 0⟩, ⟨5, 1⟩], .eoi, 7⟩ :: exMarks)) = none := by decide +kernel
-- test: without the default error codes the unmarked side no longer matches the marked table
example : ¬ Bisim { exB with defaultErrors := [] } exM exPi := by decide +kernel

end Emboss.Lr1
