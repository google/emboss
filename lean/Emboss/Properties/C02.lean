/-
C02 — Scalar fields decode with the documented byte order, bit numbering and format.

Property theorems (helper lemmas: Emboss/Lemmas/Bits, ScalarMem, ScalarBuf, ScalarBcd,
ScalarRead).  Model: Emboss/Model/{Bits,Scalar}.lean (mirrors
runtime/cpp/emboss_{bit_util,memory_util,prelude,enum_view}.h).  Spec: Emboss/Spec/Scalar.lean.

Every theorem is for an arbitrary placement `Placed bb o w`: any container size
c ∈ {8,…,64} (multiple of 8), any field width 1 ≤ w, any offset with o + w ≤ c, any byte
order (Null only for c = 8), either runtime code path, any contents — and for both kinds of
view buffers: `direct = true` (field of a struct: view over the BitBlock, o = 0, w = c) and
`direct = false` (field of a bits: view over OffsetBitBlock).
-/
import Emboss.Lemmas.ScalarRead
namespace Emboss.Scalar
open Emboss.Bits Emboss.Scalar.Spec

variable {bb : BitBlock} {o w : Nat}

/-- A concrete non-trivial placement used by the non-vacuity examples: 5-bit field at bit 9
of a 24-bit big-endian container `12 34 56`, portable code path. -/
def exBB : BitBlock := { order := .big, path := .noopt, c := 24, bytes := [0x12, 0x34, 0x56] }
theorem exPlaced : Placed exBB 9 5 :=
  { c_mult := by decide, c_lo := by decide, c_hi := by decide, w_pos := by decide,
    fits := by decide, len := by decide, bytes_ok := by decide, null_ok := by decide }

/-- **UInt**: `Read()` succeeds and returns exactly bits `[o, o+w)` of the container taken in
the field's byte order. -/
theorem C02_uint_read (h : Placed bb o w) (direct : Bool)
    (hd : direct = true → o = 0 ∧ w = bb.c) :
    (fieldView .uint direct bb o w).ok = true ∧
    (fieldView .uint direct bb o w).read = some (fieldBits bb o w : Int) :=
  fieldView_read_spec h direct hd trivial

-- non-vacuity (test): 0x123456 = …0011 0100 0101 0110; bits 9..13 = 0b11010 = 26
example : (fieldView .uint false exBB 9 5).read = some 26 ∧ fieldBits exBB 9 5 = 26 := by decide

/-- **Int**: `Read()` is the two's-complement value of the covered bits *at the field width*,
on both code paths (shift/cast/arithmetic-shift and the portable mask-and-subtract). -/
theorem C02_int_read_twos_complement (h : Placed bb o w) (direct : Bool)
    (hd : direct = true → o = 0 ∧ w = bb.c) :
    (fieldView .int direct bb o w).ok = true ∧
    (fieldView .int direct bb o w).read = some (twos w (fieldBits bb o w)) :=
  fieldView_read_spec h direct hd trivial

example : (fieldView .int false exBB 9 5).read = some (-6) ∧ twos 5 26 = -6 := by decide

/-- **The SWAR test of `IsBcd` is exact** (nibble induction from the low end:
`~x - 0x66…6` does not borrow while the nibbles are decimal digits): for a `w`-bit value it
holds iff each of the `⌈w/4⌉` nibbles is at most 9.  `W` is the buffer's value type; the
expression is evaluated at `unsigned` when `W < 32`, as in the code. -/
theorem C02_isbcd_iff_nibbles_le_9 {W x : Nat} (hW : W = 8 ∨ W = 16 ∨ W = 32 ∨ W = 64)
    (hw : w ≤ W) (hx : x < 2 ^ w) : isBcd W x = true ↔ BcdOk (nibbles w) x :=
  isBcd_iff hW hw hx

example : isBcd 16 0x0999 = true ∧ isBcd 16 0x09a8 = false ∧ ¬ BcdOk (nibbles 12) 0x9a8 := by
  refine ⟨by decide, by decide, fun h => ?_⟩
  have := h 1 (by decide); revert this; decide

/-- **Bcd**: `Ok()` iff every nibble is a decimal digit; then `Read()` is `Σ nibbleᵢ·10ⁱ`
(high partial nibble zero-extended), computed without overflow of `ValueType`. -/
theorem C02_bcd_read (h : Placed bb o w) (direct : Bool)
    (hd : direct = true → o = 0 ∧ w = bb.c) :
    ((fieldView .bcd direct bb o w).ok = true ↔ BcdOk (nibbles w) (fieldBits bb o w)) ∧
    (BcdOk (nibbles w) (fieldBits bb o w) →
      (fieldView .bcd direct bb o w).read =
        some (bcdValue (nibbles w) (fieldBits bb o w) : Int)) ∧
    (¬ BcdOk (nibbles w) (fieldBits bb o w) → (fieldView .bcd direct bb o w).read = none) := by
  obtain ⟨hok, hrd⟩ := fieldView_read_spec h direct hd (ty := .bcd) trivial
  rw [hok, hrd]
  simp only [decodeSpec]
  refine ⟨?_, fun hb => if_pos hb, fun hb => if_neg hb⟩
  split <;> simp [*]

example : (fieldView .bcd false { exBB with bytes := [0x00, 0x32, 0x00] } 9 5).read = some 19 := by
  decide

/-- **Flag**: `Read()` is the covered bit. -/
theorem C02_flag_read (h : Placed bb o 1) (direct : Bool)
    (hd : direct = true → o = 0 ∧ 1 = bb.c) :
    (fieldView .flag direct bb o 1).ok = true ∧
    (fieldView .flag direct bb o 1).read = some (fieldBits bb o 1 : Int) :=
  fieldView_read_spec h direct hd rfl

example : (fieldView .flag false exBB 10 1).read = some 1 := by decide

/-- **Float**: `Read()` delivers exactly the covered bit pattern to the IEEE-754 type
(`ConvertToFloat` is a `memcpy` of the `w`-bit unsigned value: bit-exactness is the claim). -/
theorem C02_float_bits (h : Placed bb o w) (_hw : w = 32 ∨ w = 64) (direct : Bool)
    (hd : direct = true → o = 0 ∧ w = bb.c) :
    (fieldView .float direct bb o w).ok = true ∧
    (fieldView .float direct bb o w).read = some (fieldBits bb o w : Int) :=
  fieldView_read_spec h direct hd _hw

def exBB64 : BitBlock :=
  { order := .little, path := .opt, c := 64, bytes := [0, 0, 0x80, 0x7f, 1, 2, 3, 4] }
example : (fieldView .float false exBB64 0 32).read = some 0x7f800000 := by decide

/-- **The value type is wide enough**: the documented value of every `w`-bit field fits
`LeastWidthInteger<w>` (unsigned, signed, and the decimal value of a Bcd), so the casts to
`ValueType` in the views never truncate. -/
theorem C02_value_type_wide_enough (hw : 1 ≤ w) (hw64 : w ≤ 64) (d : Nat) (hd : d < 2 ^ w) :
    d < 2 ^ leastWidth w ∧
    (-((2 ^ (leastWidth w - 1) : Nat) : Int) ≤ twos w d ∧
      twos w d < ((2 ^ (leastWidth w - 1) : Nat) : Int)) ∧
    bcdValue (nibbles w) d < 2 ^ leastWidth w := by
  have hle := le_leastWidth hw64
  refine ⟨lt_pow_of_lt_of_le hd hle, ?_, ?_⟩
  · have h1 : 2 ^ (w - 1) ≤ 2 ^ (leastWidth w - 1) := Nat.pow_le_pow_right Nat.two_pos (by omega)
    have := twos_range hw hd
    omega
  · have hb := bcdValue_bound (nibbles w) d
    have := pow10_nibbles_le hw64
    omega

example : bcdValue (nibbles 64) 0x9999999999999999 = 9999999999999999 := by decide

/-- **The two runtime code paths agree** (default memcpy + `ByteSwap`, including the
"copy into the last bytes, then swap" trick for 24/40/48/56-bit big-endian blocks, versus the
portable byte loops of `EMBOSS_NO_OPTIMIZATIONS`): both return the documented container
value, for loads; and both stores produce the same bytes. -/
theorem C02_le_be_paths_agree (h : Placed bb o w) (p q : Path) :
    loadLE p bb.c bb.bytes = loadLE q bb.c bb.bytes ∧
    loadBE p bb.c bb.bytes = loadBE q bb.c bb.bytes ∧
    loadLE p bb.c bb.bytes = containerValue .little bb.bytes ∧
    loadBE p bb.c bb.bytes = containerValue .big bb.bytes ∧
    (∀ v, v < 2 ^ bb.c → storeLE p bb.c v = storeLE q bb.c v ∧ storeBE p bb.c v = storeBE q bb.c v) := by
  have hb : Bytes bb.bytes := h.bytes_ok
  refine ⟨?_, ?_, ?_, ?_, fun v hv => ⟨?_, ?_⟩⟩
  · rw [loadLE_eq p hb h.len h.c_hi, loadLE_eq q hb h.len h.c_hi]
  · rw [loadBE_eq p hb h.len h.c_hi, loadBE_eq q hb h.len h.c_hi]
  · exact loadLE_eq p hb h.len h.c_hi
  · exact loadBE_eq p hb h.len h.c_hi
  · rw [storeLE_eq p h.c_hi, storeLE_eq q h.c_hi]
  · rw [storeBE_eq p h.c_hi hv, storeBE_eq q h.c_hi hv]

example : loadBE .opt 24 [0x12, 0x34, 0x56] = 0x123456 ∧ loadBE .noopt 24 [0x12, 0x34, 0x56] = 0x123456 := by
  decide

/-- **Unsigned enum**: `Read()` is the covered bits (for any underlying type at least as wide
as the field). -/
theorem C02_enum_read_unsigned (h : Placed bb o w) (uw : Nat) (huw : w ≤ uw) (direct : Bool)
    (hd : direct = true → o = 0 ∧ w = bb.c) :
    (fieldView (.enum uw false) direct bb o w).ok = true ∧
    (fieldView (.enum uw false) direct bb o w).read = some (fieldBits bb o w : Int) :=
  fieldView_read_spec h direct hd huw

example : (fieldView (.enum 64 false) false exBB 9 5).read = some 26 := by decide

/-
Full statement (false on the real code, see the counterexample below):
  ∀ uw ≥ w, (fieldView (.enum uw true) direct bb o w).read = some (twos w (fieldBits bb o w))
-/
/-- **Signed enum**, partial: `Read()` is the two's-complement value at the field width
**provided the field is as wide as the enum's underlying type** (`w = uw`).  Missing: fields
narrower than the underlying type — there the code zero-extends (open finding
`signed-enum-in-field-narrower-than-underlying-type`; the proposed sign extension was
rejected upstream-side because `emboss_enum_view_test.cc` pins the zero-extending
behaviour, see `C02_enum_read_signed_actual` for what the code does there). -/
theorem C02_enum_read_signed_partial (h : Placed bb o w) (direct : Bool)
    (hd : direct = true → o = 0 ∧ w = bb.c) :
    (fieldView (.enum w true) direct bb o w).ok = true ∧
    (fieldView (.enum w true) direct bb o w).read = some (twos w (fieldBits bb o w)) :=
  fieldView_read_spec h direct hd rfl

/-- **Signed enum, the behaviour of the code for every `(w, uw, W)`** (`w ≤ uw` is the
`static_assert` of `EnumView`; the buffer's value type width `W ≥ w` is arbitrary):
`Read()` is `static_cast<Enum>(covered bits)`, i.e. the covered bits reinterpreted at the
width of the *underlying type* — two's complement at the field width when `w = uw`, and the
plain unsigned value of the bits (zero extension, never negative) when `w < uw`.  The gap
between the second case and the documented two's-complement value at the field width is
exactly the open finding `signed-enum-in-field-narrower-than-underlying-type`: the two
agree iff the top bit of the field is clear. -/
theorem C02_enum_read_signed_actual (h : Placed bb o w) (uw : Nat) (huw : w ≤ uw)
    (direct : Bool) (hd : direct = true → o = 0 ∧ w = bb.c) :
    (fieldView (.enum uw true) direct bb o w).ok = true ∧
    (fieldView (.enum uw true) direct bb o w).read = some (toSigned uw (fieldBits bb o w)) ∧
    (w = uw → toSigned uw (fieldBits bb o w) = twos w (fieldBits bb o w)) ∧
    (w < uw → toSigned uw (fieldBits bb o w) = (fieldBits bb o w : Int)) ∧
    (w < uw → (toSigned uw (fieldBits bb o w) = twos w (fieldBits bb o w) ↔
      fieldBits bb o w < 2 ^ (w - 1))) := by
  have hlt := fieldBits_lt bb o w
  have hzero : w < uw → toSigned uw (fieldBits bb o w) = (fieldBits bb o w : Int) := fun hw =>
    toSigned_of_lt (lt_pow_of_lt_of_le hlt (by omega))
  obtain ⟨hok, hrd⟩ := fieldView_ok_read h direct hd (.enum uw true)
  refine ⟨hok, hrd.trans (if_pos hok), ?_, hzero, ?_⟩
  · intro he; subst he; exact toSigned_eq_twos hlt
  · intro hw
    rw [hzero hw]
    unfold twos
    have hp := Nat.two_pow_pos w
    constructor
    · intro he; split at he <;> omega
    · intro hs; rw [if_pos hs]

-- non-vacuity (test): `int16_t` enum in 5 bits of a 24-bit big-endian container: bits 26
-- read 26 (documented: 26 - 32 = -6)
example : (fieldView (.enum 16 true) false exBB 9 5).read = some 26 ∧
    twos 5 (fieldBits exBB 9 5) = -6 := by decide

/-- **Summary**: for every view type meeting its static side conditions, `Read()` is the
documented decoding of the covered bits (`none` = not `Ok()`, only possible for `Bcd`). -/
theorem C02_read_eq_spec (h : Placed bb o w) (direct : Bool)
    (hd : direct = true → o = 0 ∧ w = bb.c) (ty : Ty) (hty : TypeFits ty w) :
    (fieldView ty direct bb o w).read = decodeSpec ty w (fieldBits bb o w) :=
  (fieldView_read_spec h direct hd hty).2

example : TypeFits (.enum 8 true) 8 ∧ decodeSpec (.enum 8 true) 8 0x8f = some (-113) :=
  ⟨rfl, by decide⟩

def exBB8 : BitBlock := { order := .little, path := .opt, c := 8, bytes := [0x8f] }
-- non-vacuity (test): an `int8_t` enum in a full byte reads two's complement
example : (fieldView (.enum 8 true) true exBB8 0 8).read = some (-113) := by decide

/-- **Counterexample** (the real runtime agrees with the model here; replayed on every run):
an `int8_t` enum in a 4-bit field holding `0xF` reads `15`; the documented two's-complement
value at the field width is `-1`. -/
theorem C02_enum_signed_narrow_counterexample :
    (fieldView (.enum 8 true) false exBB8 0 4).read = some 15 ∧
    twos 4 (fieldBits exBB8 0 4) = -1 := by decide

end Emboss.Scalar
