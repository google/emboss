/-
C11 — The formatter preserves meaning, is idempotent, and never fails on valid input.

Property theorems and their non-vacuity examples.  Model: Emboss/Model/Fmt.lean (format_emb.py + the fold of
parser_util.transform_parse_tree); table: Emboss/Generated/FmtTable.lean (regenerated
from module_ir.PRODUCTIONS and format_emb._formatters on every run); spec:
Emboss/Spec/Fmt*.lean; lemmas: Emboss/Lemmas/Fmt*.lean.  Some notions the statements below use are
defined beside their lemmas: `StreamsAgree`, `FirstDiff` (Lemmas/FmtSanity.lean), `LineToks`
(FmtRetok.lean), `cellsText`, `cellsLeaves`, `CellOK`, `OpenLast` (FmtRetokCells.lean), `colCells`
(FmtRetokCols.lean).

The kernel evaluations over the regenerated tables are in Lemmas/FmtTableOK.lean and
FmtSeparableOK.lean.

Besides totality, token preservation and separability: the normal forms the formatter
factors through (`C11_format_factors_partial`, `C11_format_fixed_point_partial`: Spec/FmtEquivC.lean,
Lemmas/FmtRelC*.lean; `C11_format_factors_blank`, `C11_idempotent_partial`: Spec/FmtEquivB.lean,
Lemmas/FmtBlank.lean), the layout passes (`C11_layout_passes_idempotent`: Lemmas/FmtBasic.lean), the
self-check (`C11_sanity_*`: Lemmas/FmtSanity.lean) and the composition of
the formatter model with the tokenizer model of C10 (`C11_retokenize_partial`,
`C11_retokenize_checked`, `C11_retokenize_module_partial`, `C11_columnize_retokenizes_partial`,
`C11_row_retokenizes_partial`; Spec/FmtRetok.lean, Lemmas/FmtRetok*.lean).

What is *not* a theorem here (decided by the correspondence + oracle on the real code,
and labelled so in the manifest): fmt(fmt t) = fmt t in full (`C11_idempotent_partial`
needs the parse tree of the output to be the input tree up to layout texts, trailing
blanks and blank lines at the ends of comment blocks: evaluated per case by the harness),
and that the leaves the formatted text tokenizes to (`C11_retokenize_checked`: a theorem
instance per case) are the content leaves of the tree (`C11_tokens_preserved` +
`C11_render_separable` are its character-level and token-class-level parts).
-/
import Emboss.Lemmas.FmtSanity
import Emboss.Lemmas.FmtTableOK
import Emboss.Lemmas.FmtSeparableOK
import Emboss.Lemmas.FmtNormal
import Emboss.Lemmas.FmtRelCFold
import Emboss.Lemmas.FmtBlank
import Emboss.Lemmas.FmtRetokEx
namespace Emboss.Fmt
open Emboss.Generated.FmtTable

/-! ## The regenerated table -/

/-- Tie T, decided in the kernel over the *whole* regenerated registry:
(1) every handler name is one the model knows and is registered through the decorator
that passes the arguments it declares (`_formats` vs `_formats_with_config`);
(2) at the kinds of its production's right-hand side every handler is typed by
`Handler.sig` and yields the kind of the left-hand side;
(3) every argument position a handler ignores holds a layout terminal in that production,
and no production rewrites a layout terminal;
(4) the registered productions are exactly `module_ir.PRODUCTIONS`, in the same order
(`_check_productions`; the translator emits the registry in grammar order);
(5) the start symbol yields a string.
Adding or changing a production or a handler re-opens this.

(Evaluated on the interned copy `formattersN` of the table — kinds and layout flags of the
symbols are computed once, the rest is arithmetic — and transported to the table of
strings by `tableTypedN_sound`; the interned copy is checked to decode to `formatters`.) -/
theorem C11_table_ok :
    tableTyped formatters = true ∧ formatters.map prodOf = grammar ∧ kindOf startSymbol = .str :=
  ⟨tableTypedN_sound symbols formattersN formatters table_eval.1 table_eval.2.1,
   table_eval.2.2.1, table_eval.2.2.2.1⟩

/-! ## Totality -/

/-- For every parse tree over the grammar (`wf`: children match the production, tokens
are terminals, no comment after documentation on a doc line — which the tokenizer
guarantees — ) the fold is defined at every node: the handler of every production
exists, takes the number and kinds of arguments it is given, and none of the modelled
`assert`s (`not comment`, `len(row_types) < 3`, `len(row.columns) < 2`, non-empty `if`
body) fails; the module handler returns a text.  No assumption on token texts. -/
theorem C11_total (iw : Nat) (t : Tree)
    (hw : wf formatters t = true) (hroot : rootSym formatters t = startSymbol) :
    ∃ out, formatTree iw t = some (.str out) := by
  obtain ⟨v, hv, hk, _⟩ := fold_ok formatters iw C11_table_ok.1 t hw
  rw [hroot, C11_table_ok.2.2] at hk
  obtain ⟨s, rfl⟩ := hk
  exact ⟨s, hv⟩

/-- The same for every subtree, with the kind of value it yields. -/
theorem C11_total_subtree (iw : Nat) (t : Tree)
    (hw : wf formatters t = true) :
    ∃ v, fold formatters iw t = some v ∧ HasKind v (kindOf (rootSym formatters t)) := by
  obtain ⟨v, hv, hk, _⟩ := fold_ok formatters iw C11_table_ok.1 t hw
  exact ⟨v, hv, hk⟩

/-! ## Token preservation -/

/-- The formatted text, with every blank character (blank, tab, newline, …) erased,
is the concatenation of the blank-erased texts of the tree's non-layout leaves, in
order: no token is dropped, duplicated, reordered or altered, in any production, at
any indent width; trailing blanks of comments/documentation may go (they are blanks).

Hypothesis `layoutBlank`: Indent/Dedent/newline tokens carry only blanks (Indent = the
leading white space, Dedent = "", newline = "\n"), as in every tokenizer output; the
handlers drop exactly these tokens (`dropOK`, part of `tableTyped`).

(Stated on characters, not on token boundaries: that two adjacent tokens stay two
tokens is the `gluedOK` obligation of Spec/Fmt.lean + the correspondence.) -/
theorem C11_tokens_preserved (iw : Nat) (t : Tree)
    (hw : wf formatters t = true)
    (hl : layoutBlank t = true) (hroot : rootSym formatters t = startSymbol) :
    ∃ out, formatTree iw t = some (.str out) ∧
      despace out = despace (contentLeaves t).flatten := by
  obtain ⟨v, hv, hk, hc⟩ := fold_ok formatters iw C11_table_ok.1 t hw
  rw [hroot, C11_table_ok.2.2] at hk
  obtain ⟨s, rfl⟩ := hk
  exact ⟨s, hv, by rw [← leaves_content_eq t hl]; exact hc hl⟩

/-! Non-vacuity: the parse tree of "-- hi  \n# c \t\n" (a documentation line with trailing
blanks followed by a comment line with trailing blanks), built by looking the productions up in the live
table; it is well-formed, and the model formats it to "-- hi\n# c\n" (the comment line
belongs to the doc line's `eol`, so no blank line separates the two). -/

def ix (lhs : String) (rhs : List String) : Nat :=
  formatters.findIdx (fun e => e.1 == lhs && e.2.1 == rhs)

def exTree : Tree :=
  .node (ix "module" ["comment-line*", "doc-line*", "import-line*", "attribute-line*", "type-definition*"]) [
    .node (ix "comment-line*" []) [],
    .node (ix "doc-line*" ["doc-line", "doc-line*"]) [
      .node (ix "doc-line" ["doc", "Comment?", "eol"]) [
        .node (ix "doc" ["Documentation"]) [.tok "Documentation" "-- hi  ".toList],
        .node (ix "Comment?" []) [],
        .node (ix "eol" ["\"\\n\"", "comment-line*"]) [
          .tok "\"\\n\"" "\n".toList,
          .node (ix "comment-line*" ["comment-line", "comment-line*"]) [
            .node (ix "comment-line" ["Comment?", "\"\\n\""]) [
              .node (ix "Comment?" ["Comment"]) [.tok "Comment" "# c \t".toList],
              .tok "\"\\n\"" "\n".toList],
            .node (ix "comment-line*" []) []]]],
      .node (ix "doc-line*" []) []],
    .node (ix "import-line*" []) [],
    .node (ix "attribute-line*" []) [],
    .node (ix "type-definition*" []) []]

def exTree2 : Tree :=
  .node (ix "module" ["comment-line*", "doc-line*", "import-line*", "attribute-line*", "type-definition*"]) [
    .node (ix "comment-line*" []) [],
    .node (ix "doc-line*" ["doc-line", "doc-line*"]) [
      .node (ix "doc-line" ["doc", "Comment?", "eol"]) [
        .node (ix "doc" ["Documentation"]) [.tok "Documentation" "-- hi".toList],
        .node (ix "Comment?" []) [],
        .node (ix "eol" ["\"\\n\"", "comment-line*"]) [
          .tok "\"\\n\"" "\r\n".toList,
          .node (ix "comment-line*" ["comment-line", "comment-line*"]) [
            .node (ix "comment-line" ["Comment?", "\"\\n\""]) [
              .node (ix "Comment?" ["Comment"]) [.tok "Comment" "# c".toList],
              .tok "\"\\n\"" "\n".toList],
            .node (ix "comment-line*" []) []]]],
      .node (ix "doc-line*" []) []],
    .node (ix "import-line*" []) [],
    .node (ix "attribute-line*" []) [],
    .node (ix "type-definition*" []) []]

def exTree3 : Tree :=
  .node (ix "module" ["comment-line*", "doc-line*", "import-line*", "attribute-line*", "type-definition*"]) [
    .node (ix "comment-line*" ["comment-line", "comment-line*"]) [
      .node (ix "comment-line" ["Comment?", "\"\\n\""]) [
        .node (ix "Comment?" []) [], .tok "\"\\n\"" "\n".toList],
      .node (ix "comment-line*" []) []],
    .node (ix "doc-line*" ["doc-line", "doc-line*"]) [
      .node (ix "doc-line" ["doc", "Comment?", "eol"]) [
        .node (ix "doc" ["Documentation"]) [.tok "Documentation" "-- hi".toList],
        .node (ix "Comment?" []) [],
        .node (ix "eol" ["\"\\n\"", "comment-line*"]) [
          .tok "\"\\n\"" "\r\n".toList,
          .node (ix "comment-line*" ["comment-line", "comment-line*"]) [
            .node (ix "comment-line" ["Comment?", "\"\\n\""]) [
              .node (ix "Comment?" ["Comment"]) [.tok "Comment" "# c".toList],
              .tok "\"\\n\"" "\n".toList],
            .node (ix "comment-line*" []) []]]],
      .node (ix "doc-line*" []) []],
    .node (ix "import-line*" []) [],
    .node (ix "attribute-line*" []) [],
    .node (ix "type-definition*" []) []]

/-- Everything that is evaluated about the three trees, in one kernel evaluation, so that
each search `ix …` through the table is made once. -/
theorem exTree_eval :
    (wf formatters exTree = true ∧ layoutBlank exTree = true ∧
      rootSym formatters exTree = startSymbol ∧
      formatTree 3 exTree = some (.str "-- hi\n# c\n".toList) ∧
      contentLeaves exTree = ["-- hi  ".toList, "# c \t".toList]) ∧
    FmtTok.retokTree 3 exTree = some [("Documentation", "-- hi".toList), FmtTok.nlLeaf,
      ("Comment", "# c".toList), FmtTok.nlLeaf] ∧
    equivC exTree exTree2 = true ∧ equivC exTree2 exTree3 = false ∧
    handlerAt formatters (ix "comment-line*" []) = some .emptyList ∧
    handlerAt formatters (ix "comment-line*" ["comment-line", "comment-line*"]) =
      some .concatenateLists ∧
    handlerAt formatters (ix "module" ["comment-line*", "doc-line*", "import-line*",
      "attribute-line*", "type-definition*"]) = some .module ∧
    isBlankLineTree formatters (.node (ix "comment-line" ["Comment?", "\"\\n\""]) [
      .node (ix "Comment?" []) [], .tok "\"\\n\"" "\n".toList]) = true := by
  decide +kernel

example : wf formatters exTree = true ∧ layoutBlank exTree = true ∧
    rootSym formatters exTree = startSymbol ∧
    formatTree 3 exTree = some (.str "-- hi\n# c\n".toList) ∧
    contentLeaves exTree = ["-- hi  ".toList, "# c \t".toList] :=
  exTree_eval.1

/-! ## Token boundaries -/

open Emboss.Generated.FmtGlue in
/-- **Separability, as a certificate checked in the kernel** over the whole regenerated
registry (interned copy `formattersN`; that it decodes to `formatters` is the first fact of
`table_eval`, Lemmas/FmtTableOK.lean) and the regenerated tables of Generated/FmtGlue.lean:

* `nsN` is closed under the nullable rule, `fsN`/`lsN` under the FIRST/LAST rules, and every
  symbol of `leadN` is a nonterminal all of whose productions render with a leading blank
  relative to `leadN` — so the tables contain every nullable symbol, FIRST and LAST of
  every nonterminal, and only symbols whose rendering (when non-empty) starts with a
  blank (see Spec/FmtGlueCert.lean for the argument; it is not formalised);
* **every pair of terminals** (LAST of one argument, FIRST of a later one, everything
  between nullable) that some handler prints with nothing in between (`glue`: per handler,
  between which arguments no blank is inserted; a symbol of `leadN` is never glued to its
  left neighbour; `-` `-` is kept apart by `_additive_expression_right`) **is in the audited
  list `allowedGlued`** — 239 pairs, no word–word pair, none that the tokenizer reads as one
  token or splits elsewhere (each sampled on the real tokenizer on every run): no unsplit
  pair.  Without `_additive_expression_right` (commit 81a07e9 of /repo) the pair `-` `-` is derived as
  well (`a - -b` → `a--b`).

The compiled checker evaluates the fixpoint formulation (`gluedOK`, op `GLUECHECK`) on the
table of strings on every run as well.  There is no theorem connecting `glue` to the
handlers' code (that link is the byte-identical correspondence), and for pairs printed
with nothing in between the tokenizer model is not used (they are sampled). -/
theorem C11_render_separable :
    symbols[minusN]? = some minusSym ∧
    nullableClosed ((resolvedN formattersN).map (fun e => (e.1, e.2.1))) nsN = true ∧
    edgeClosed ((resolvedN formattersN).map (fun e => (e.1, e.2.1))) nsN false fsN = true ∧
    edgeClosed ((resolvedN formattersN).map (fun e => (e.1, e.2.1))) nsN true lsN = true ∧
    leadSound (resolvedN formattersN) nsN leadN = true ∧
    ∀ p ∈ pairsFrom minusN (resolvedN formattersN) nsN fsN lsN leadN,
      ∃ a b, symbols[p.1]? = some a ∧ symbols[p.2]? = some b ∧ (a, b) ∈ allowedGlued := by
  obtain ⟨hminus, -, -, haligned, hsmall, -⟩ := glue_eval
  have h := glue_cert_ok
  simp only [glueCertOK, Bool.and_eq_true, List.all_eq_true, decide_eq_true_eq] at h
  obtain ⟨⟨⟨⟨h1, h2⟩, h3⟩, h4⟩, h5⟩ := h
  refine ⟨hminus, h1, h2, h3, h4, fun p hp => ?_⟩
  obtain ⟨hlt, hc⟩ := h5 p hp
  have hm : p ∈ allowedN := pairCode_mem allowedN hsmall p hlt hc
  obtain ⟨x, hx, rfl⟩ := List.mem_filterMap.1 hm
  exact alignedOK_sound symbols allowedGlued _ haligned p hx

open Emboss.Generated.FmtGlue in
theorem render_separable_nonvacuous :
    (minusN, symbols.idxOf "Number") ∈ pairsFrom minusN (resolvedN formattersN) nsN fsN lsN leadN ∧
    (minusN, minusN) ∉ pairsFrom minusN (resolvedN formattersN) nsN fsN lsN leadN := by
  obtain ⟨hminus, hmem, hnot, -⟩ := glue_eval
  refine ⟨hmem, fun h => ?_⟩
  obtain ⟨a, b, ha, hb, hab⟩ := C11_render_separable.2.2.2.2.2 _ h
  rw [hminus, Option.some.injEq] at ha hb
  subst ha hb
  exact hnot hab

open Emboss.Generated.FmtGlue in
/-- Non-vacuity (tests on literals, evaluated in Lemmas/FmtSeparableOK.lean): pairs are
derived — e.g. `-` `Number` — and `-` `-` is not among them. -/
example : (minusN, symbols.idxOf "Number") ∈ pairsFrom minusN (resolvedN formattersN) nsN fsN lsN leadN ∧
    (minusN, minusN) ∉ pairsFrom minusN (resolvedN formattersN) nsN fsN lsN leadN :=
  render_separable_nonvacuous

/-! ## Normal form and fixed point -/

/-- Second table obligation, decided in the kernel over the whole regenerated registry: in
every registered production each right-hand-side position that holds a layout terminal
(Indent, Dedent, newline) is one the handler ignores, and a `Documentation` terminal is
only ever handed to `_doc` (which strips its trailing blanks before anything can measure
them — the repair of finding `inline-doc-trailing-blanks-widen-column`).  It is the
hypothesis under which the fold does not look at layout texts and trailing blanks of
documentation: of `fold_equivC` (Lemmas/FmtRelCFold.lean), on which
`C11_format_factors_partial` rests, and of `fold_equiv` (Lemmas/FmtNormal.lean: the finer
relation `equivT`, equal values at every node), which no property theorem uses. -/
theorem C11_table_normal : tableNormal formatters = true := table_eval.2.2.2.2.1

/-- Third table obligation, decided in the kernel over the whole regenerated registry: in
every registered production the symbols `Comment` / `Comment?` stand exactly at the
handler's comment position (`Handler.commentPos`: where the text ends a row, so its
trailing blanks are stripped by the rendering and reach no column width that is used), and
`Comment?` itself is produced by `_identity` from a comment or by `_empty_string`. -/
theorem C11_table_comment : tableComment formatters = true := table_eval.2.2.2.2.2

/-- **Formatting factors through a normal form of the parse tree**: two trees with the same
productions and the same tokens, except for the *texts of layout tokens* (the source's
indentation, line ends) and *trailing blanks of Documentation and Comment tokens*
(`equivC`) — exactly what the property statement lets the formatter change, apart from
blank lines, which are tree structure — are formatted to the same text, for every
production and every indent width.  In particular the output never depends on how the
source was indented or spaced.

(`fold_equivC`: at every node the two folds give *related* values — rows and block headers
whose last column may differ in trailing blanks; `_columnize` never uses the width of a
last column, every other pass and `_render_row_to_text` strip or ignore it; uses
`C11_table_ok`, `C11_table_normal`, `C11_table_comment`.)

`_partial` with respect to idempotence: see the next theorem. -/
theorem C11_format_factors_partial (iw : Nat) (t t' : Tree)
    (hw : wf formatters t = true) (hroot : rootSym formatters t = startSymbol)
    (he : equivC t t' = true) :
    formatTree iw t' = formatTree iw t := by
  -- the start symbol yields a string and is neither layout, `Documentation` nor a comment
  exact fold_equivC_str formatters iw C11_table_ok.1 C11_table_normal C11_table_comment hw he
    (by rw [hroot]; exact C11_table_ok.2.2) (by rw [hroot]; decide) (by rw [hroot]; decide)
    (by rw [hroot]; decide)

/-- **Fixed point, partial**: if `t` is formatted to `out`, then every tree `t2` equivalent to
`t` is formatted to `out` as well.  With `t2` := the parse tree of `out` this is
`fmt (fmt t) = fmt t`.

Full statement wanted: `∀ t, fmt (parse (fmt t)) = fmt t`.  Missing, decided by the
oracle on the real code for every generated case: that the parse tree of the formatted
text *is* equivalent to `t` — same token sequence (`C11_tokens_preserved` +
`C11_render_separable` give it on the character level and per terminal-class pair) **and**
the same comment-line / blank-line structure (the formatter's own normalisation of blank
lines must be stable under re-parsing; needs tokenizer ∘ parser as one object).  The
harness counts on how many of its cases the hypothesis holds
(`fixed_point_theorem_applies`: there idempotence is a consequence of this theorem and the
byte-identical correspondence); for the others it is the oracle's verdict alone. -/
theorem C11_format_fixed_point_partial (iw : Nat) (t t2 : Tree) (out : Str)
    (hw : wf formatters t = true) (hroot : rootSym formatters t = startSymbol)
    (hfmt : formatTree iw t = some (.str out)) (he : equivC t t2 = true) :
    formatTree iw t2 = some (.str out) := by
  rw [C11_format_factors_partial iw t t2 hw hroot he]; exact hfmt

/-! Non-vacuity: `exTree` is the parse tree of "-- hi  \n# c \t\n" and is formatted to
"-- hi\n# c\n", whose parse tree is `exTree2` (documentation and comment without the
trailing blanks, other line-end texts); the two are equivalent, so `exTree2` is a fixed
point. -/

example : exTree ≠ exTree2 := by
  intro h; simp [exTree, exTree2] at h

theorem exTree_wf : wf formatters exTree = true := exTree_eval.1.1
theorem exTree_root : rootSym formatters exTree = startSymbol := exTree_eval.1.2.2.1
theorem exTree_fmt : formatTree 3 exTree = some (.str "-- hi\n# c\n".toList) := exTree_eval.1.2.2.2.1
theorem exTree_equivC : equivC exTree exTree2 = true := exTree_eval.2.2.1

example : formatTree 3 exTree2 = some (.str "-- hi\n# c\n".toList) :=
  C11_format_fixed_point_partial 3 exTree exTree2 _ exTree_wf exTree_root exTree_fmt exTree_equivC

/-! ## Blank lines -/

/-- **Formatting factors through the blank-line normal form**: two parse trees that differ
only in the *blank lines at the two ends of a block of comment lines* — under an `eol` node
(`_eol`) or at the head of the module (`_module`); `EquivB`, Spec/FmtEquivB.lean — are
formatted to the same text (indeed every subtree folds to the same value), for every
production and indent width; no well-formedness is needed.  So the blank-line structure of
the output is a function of the remaining structure only: source blank lines other than
those between two comment lines of one block never reach the output, and every blank line
the formatter emits (section breaks, separators between types / fields / values, the blank
line at a dedent) is computed from the rows.  Blank lines *between* two comment lines of a
block are kept as they are (they are not blank-line policy; `equivC`/`EquivB` keep them). -/
theorem C11_format_factors_blank (iw : Nat) (t t' : Tree) (h : EquivB formatters t t') :
    formatTree iw t' = formatTree iw t :=
  fold_equivB formatters iw h

/-- **Idempotence, partial**: if `t` is formatted to `out`, then every tree `t2` that differs
from `t` only by (`equivC`) the texts of layout tokens and trailing blanks of
documentation / comments and (`EquivB`) blank lines at the ends of comment blocks is
formatted to `out` as well.  With `t2` := the parse tree of `out` this is
`fmt (fmt t) = fmt t`.

Full statement wanted: `∀ t, fmt (parse (fmt t)) = fmt t`.  The remaining hypothesis —
"the parse tree of `out` is `t` up to `equivC` and `EquivB`" — says: (a) `out` tokenizes to
the content tokens of `t`, line by line (`C11_retokenize_partial` below gives the
tokenizer-side half of this for rendered rows); (b) every blank line of `out` that is not
between two comment lines of a block stands directly after an end of line that the grammar
attaches to an `eol` (or at the head of the module), which is where the unique parse of
the token sequence (C08: the grammar is LR(1), hence unambiguous) must put it.  The harness
evaluates the hypothesis on every case (`idempotent_theorem_applies`: the parse trees of
source and output compared node by node, blank lines at the ends of comment blocks
ignored); where it holds idempotence is a consequence of this theorem and the
byte-identical correspondence. -/
theorem C11_idempotent_partial (iw : Nat) (t t1 t2 : Tree) (out : Str)
    (hw : wf formatters t = true) (hroot : rootSym formatters t = startSymbol)
    (hfmt : formatTree iw t = some (.str out))
    (hc : equivC t t1 = true) (hb : EquivB formatters t1 t2) :
    formatTree iw t2 = some (.str out) := by
  rw [C11_format_factors_blank iw t1 t2 hb]
  exact C11_format_fixed_point_partial iw t t1 out hw hroot hfmt hc

/-! Non-vacuity: `exTree3` is `exTree2` with a blank line in front (what a source with a
leading blank line parses to); it is `EquivB` to `exTree2`, not `equivC` to it, and the
theorem gives its formatted text from that of `exTree`. -/

theorem exTree23 : EquivB formatters exTree2 exTree3 := by
  obtain ⟨_, _, _, _, hnil, hcons, hmod, hblank⟩ := exTree_eval
  refine .module _ _ _ _ _ hmod ⟨_, .trail (.atNil hnil (.nil hnil)), ?_⟩ rfl
    (fun i _ _ => .refl _)
  exact .lead hcons hblank (.trail (.atNil hnil (.nil hnil)))

example : equivC exTree2 exTree3 = false := exTree_eval.2.2.2.1

example : formatTree 3 exTree3 = some (.str "-- hi\n# c\n".toList) :=
  C11_idempotent_partial 3 exTree exTree2 exTree3 _ exTree_wf exTree_root exTree_fmt exTree_equivC exTree23

/-! ## The layout passes -/

/-- **The global row passes are projections** (a necessary ingredient of idempotence that
needs no tokenizer): stripping leading/trailing empty comment rows, re-indenting blank and
comment rows to the following row, and inserting a blank row at a dedent each change
nothing when applied to their own result — for every list of rows; and every rendered
line is free of trailing blanks.  It does not follow that the whole pipeline is idempotent
(the rows of the second run come from re-parsing the text). -/
theorem C11_layout_passes_idempotent (iw : Nat) (rows : List Row) :
    stripEmptyRows (stripEmptyRows rows) = stripEmptyRows rows ∧
    indentBlanksAndComments (indentBlanksAndComments rows) = indentBlanksAndComments rows ∧
    addBlankRowsOnDedent (addBlankRowsOnDedent rows) = addBlankRowsOnDedent rows ∧
    ∀ r ∈ rows, ∀ t, renderRow iw r = some t → rstrip t = t :=
  ⟨stripEmptyRows_idem rows, indentBlanksAndComments_idem rows, addBlankRowsOnDedent_idem rows,
   fun r _ t h => renderRow_trimmed iw r t h⟩

/-- Non-vacuity (test on literals): on these rows every pass does change something. -/
example :
    let rows : List Row := [{ name := .comment }, { name := .comment, columns := ["# c  ".toList] },
      { name := .field, columns := ["x".toList], indent := 1 }, { name := .field, columns := ["y".toList] },
      { name := .comment }]
    stripEmptyRows rows ≠ rows ∧ indentBlanksAndComments rows ≠ rows ∧ addBlankRowsOnDedent rows ≠ rows ∧
    renderRow 2 { name := .comment, columns := ["# c  ".toList] } = some "# c".toList := by
  decide +kernel

/-! ## Re-tokenization of the output -/

section Retokenize
open Emboss.FmtTok Emboss.Tok Emboss.Generated

/-- **The formatter's renderer composed with the tokenizer (C10's model), partial.**
`_module` renders the rows `moduleRows c d i a ty` (comment, documentation, import,
attribute rows and the rows of the type definitions, interspersed with the section breaks,
re-indented comments and dedent blanks of the global passes).  If every one of these rows
has fewer than two columns (what `_columnize` leaves) and its content — the columns
without trailing blanks — is tokenized by `_tokenize_line` to the leaves (symbol, text)
`x.2` (`LineToks`), then for every indent width ≥ 1 **`tokenize` accepts the text that
`_module` returns and yields exactly `E`**: per row its leaves and one end-of-line token;
rows without tokens or with comments only take no part in indentation; a row deeper than
the innermost open level opens one (`Indent` carrying `indent_width × difference`
blanks), a shallower one closes levels down to the one it sits on (`Dedent`s), and the end
of the text closes every open level — Indent / Dedent / end-of-line tokens are a function
of the block structure (`expectLeaves`) alone.  `expectLeaves = some E` excludes a dedent
to a level that was never opened (the tokenizer's "Bad indentation").

Full statement wanted: `tokenize (fmt t)` = the non-layout leaves of `t`, line by line.
Missing (decided by the oracle on the real code, which re-tokenizes every output): that the
rows the fold produces for a tree satisfy the hypothesis with the tree's leaves — the
cells' texts tokenize to the tokens they were built from.  `C11_row_retokenizes_partial`
below is the blank-separated half of that; the half for texts printed with nothing in
between is `C11_render_separable` (per pair of terminal classes, audited list, sampled on
the real tokenizer), where the tokenizer model is not used. -/
theorem C11_retokenize_partial (iw : Nat) (hiw : 0 < iw) (c d i a : List Row) (ty : List (List Row))
    (rows : List (Row × List Leaf)) (hrows : rows.map Prod.fst = moduleRows c d i a ty)
    (hr : ∀ x ∈ rows, x.1.columns.length < 2 ∧ LineToks (rowText x.1) x.2) (E : List Leaf)
    (hE : expectLeaves iw 0 [] (rows.map (fun x => (x.1.indent, x.2))) = some E) :
    ∃ text toks, Handler.run iw .module [.rows c, .rows d, .rows i, .rows a, .sections ty] =
        some (.str text) ∧
      tokenize tokTable.pats text = .ok toks ∧ toks.map leafOf = E := by
  obtain ⟨text, toks, h1, h2, h3⟩ := tokenize_renderRows iw hiw rows hr E hE
  refine ⟨text, toks, ?_, h2, h3⟩
  rw [hModule_eq iw rfl rfl rfl rfl rfl, ← hrows, h1]; rfl

/-! Non-vacuity (tests on literals, kernel-evaluated in Lemmas/FmtRetokEx.lean): the rows of
`struct Foo:` / `  0  [+1]  UInt  x` (a type header and a columnized field at level 1). -/

example : ∃ toks, tokenize tokTable.pats "struct Foo:\n   0  [+1]  UInt  x\n".toList = .ok toks ∧
    toks.map leafOf = exLeaves := by
  obtain ⟨text, toks, h1, h2, h3⟩ := C11_retokenize_partial 3 (by decide) [] [] [] []
    [exRows.map Prod.fst] exRows exRows_module exRows_ok exLeaves exRows_expect
  rw [exRows_text, Option.some.injEq, Fmt.str.injEq] at h1
  exact ⟨toks, h1 ▸ h2, h3⟩

/-- **Re-tokenization, as a certificate evaluated per parse tree.**  `retokTree iw t`
(Spec/FmtRetok.lean; evaluated by the compiled driver, op `RETOK`, on every case of the
check) folds the children of the module node, builds the rows `_module` renders, and
*evaluates* the hypotheses of `C11_retokenize_partial` row by row with the tokenizer model
(fewer than two columns; content without leading / trailing blank and line terminator;
`_tokenize_line` accepts it), then computes `expectLeaves`.  **Whenever it answers
`some E`, the model formats `t` to a text that the tokenizer model accepts with exactly
the leaves `E`** — the leaves of the rendered rows in order, one end-of-line token per row,
Indent / Dedent by the rows' levels.  The harness compares `E` with what the real tokenizer
makes of the real formatter's output (`retokenize_theorem_applies`).  What remains with the
oracle alone: that these leaves are the content leaves of `t`. -/
theorem C11_retokenize_checked (iw : Nat) (hiw : 0 < iw) (t : Tree) (E : List Leaf)
    (h : retokTree iw t = some E) :
    ∃ text toks, formatTree iw t = some (.str text) ∧
      tokenize tokTable.pats text = .ok toks ∧ toks.map leafOf = E :=
  retokTree_sound iw hiw t E h

/-! Non-vacuity (kernel-evaluated): `exTree` ("-- hi  " / "# c \t") is accepted, with the
leaves of `-- hi` / `# c`. -/
theorem exTree_retok : retokTree 3 exTree =
    some [("Documentation", "-- hi".toList), nlLeaf, ("Comment", "# c".toList), nlLeaf] :=
  exTree_eval.2.1

example : ∃ text toks, formatTree 3 exTree = some (.str text) ∧
    tokenize tokTable.pats text = .ok toks ∧
    toks.map leafOf = [("Documentation", "-- hi".toList), nlLeaf, ("Comment", "# c".toList), nlLeaf] :=
  C11_retokenize_checked 3 (by decide) exTree _ exTree_retok

/-- **…with the hypothesis moved in front of the global passes**: `_intersperse`,
`_indent_blanks_and_comments`, `_add_blank_rows_on_dedent` and
`_strip_empty_leading_trailing_comment_lines` only add rows without columns and change
indentation (`moduleRows_columns`), so it is enough that the rows *the module's parts
deliver* (comment, documentation, import, attribute rows, rows of the type definitions)
have fewer than two columns and tokenize to the leaves `lv` assigns to their columns. -/
theorem C11_retokenize_module_partial (iw : Nat) (hiw : 0 < iw) (c d i a : List Row) (ty : List (List Row))
    (lv : List Str → List Leaf) (hnil : lv [] = [])
    (hin : ∀ r ∈ c ++ d ++ i ++ a ++ ty.flatten, r.columns.length < 2 ∧ LineToks (rowText r) (lv r.columns))
    (E : List Leaf)
    (hE : expectLeaves iw 0 [] ((moduleRows c d i a ty).map (fun r => (r.indent, lv r.columns))) = some E) :
    ∃ text toks, Handler.run iw .module [.rows c, .rows d, .rows i, .rows a, .sections ty] =
        some (.str text) ∧
      tokenize tokTable.pats text = .ok toks ∧ toks.map leafOf = E :=
  tokenize_moduleRows iw hiw c d i a ty lv hnil hin E hE

/-- **The header row `_columnize` builds re-tokenizes to its cells' tokens, partial.**  `b`
one of the blocks handed to `_columnize(blocks, indent_width, indent_columns)`; every cell
of its header is empty (without leaves) or tokenizes to its leaves; a comment /
documentation token only in the last non-empty cell; the first cell not empty.  Then the
block is rendered as `prefix ++ [hdr] ++ body` where `hdr` has a single column, the header's
name and indentation, and its content tokenizes to the concatenation of the cells' leaves:
the column widths (`colWidth_ge`: a column is at least as wide as each of its cells, in
both `indent_columns` modes) leave at least one blank after every non-empty cell, and the
`ljust` loop is `cellsText`.  Missing for the full clause: the cells' own
tokenizability from the handlers that build them (parts printed with nothing in between). -/
theorem C11_columnize_retokenizes_partial (blocks : List Block) (iw ic : Nat) (b : Block)
    (hb : b ∈ blocks) (Ls : List (List Leaf))
    (hcell : ∀ x ∈ colCells blocks iw ic b.header 0 b.header.columns Ls,
      (x.1 = [] ∧ x.2.2 = []) ∨ (x.1 ≠ [] ∧ LineToks x.1 x.2.2))
    (hopen : OpenLast (colCells blocks iw ic b.header 0 b.header.columns Ls))
    (hfirst : ∃ c rest, b.header.columns = c :: rest ∧ c ≠ []) :
    ∃ hdr : Row, columnizeBlock blocks iw ic b = b.pre ++ [hdr] ++ b.body ∧
      hdr.columns.length < 2 ∧ hdr.indent = b.header.indent ∧ hdr.name = b.header.name ∧
      LineToks (rowText hdr) (cellsLeaves (colCells blocks iw ic b.header 0 b.header.columns Ls)) :=
  columnize_header_lineToks blocks iw ic b hb Ls hcell hopen hfirst

/-! Non-vacuity (test on literals): a field header `0` / `[+1]` / `UInt` / `x` in a block
list of one; the cells tokenize (kernel-evaluated tokenizer model), so the columnized row
`0  [+1]  UInt  x` does. -/
example : ∃ hdr : Row, columnizeBlock [exBlock] 2 2 exBlock = [] ++ [hdr] ++ [] ∧
    hdr.columns.length < 2 ∧ hdr.indent = 0 ∧ hdr.name = .field ∧
    LineToks (rowText hdr) (cellsLeaves (colCells [exBlock] 2 2 exBlock.header 0 exBlock.header.columns exCellLeaves)) :=
  C11_columnize_retokenizes_partial [exBlock] 2 2 exBlock (by simp) exCellLeaves exBlock_cells
    exBlock_open ⟨_, _, rfl, by decide⟩

/-- **One rendered row re-tokenizes to its cells' tokens, partial.**
(1) Two texts that tokenize to `La` and `Lb`, the first without a comment / documentation
token, put side by side with `n + 1` blanks between them (`_concatenate_with_spaces`,
`"  " + comment`, a padded column followed by the next) tokenize to `La ++ Lb`.
(2) Cells laid out as `_columnize` does — every cell followed by blanks (`ljust`), at least
one after a non-empty cell, the whole right-stripped; a comment / documentation token only
in the last non-empty cell — tokenize to the concatenation of the cells' leaves, after `k`
leading blanks that only occur when the first cell is empty.
(C10: `C10_concat_with_blank`, `C10_leading_blanks`.)  That `_columnize`'s `ljust` widths
leave a blank after every non-empty cell is `C11_columnize_retokenizes_partial` above; missing
for the full statement: cells whose parts are printed with nothing in between. -/
theorem C11_row_retokenizes_partial :
    (∀ (a b : Str) (La Lb : List Leaf) (n : Nat), LineToks a La → LineToks b Lb → a ≠ [] → b ≠ [] →
      (∀ l ∈ La, ¬ OpenEnded l.1) → LineToks (a ++ spaces (n + 1) ++ b) (La ++ Lb)) ∧
    (∀ cells : List (Str × Nat × List Leaf), (∀ x ∈ cells, CellOK x) → OpenLast cells →
      (rstrip (cellsText cells) = [] ∧ cellsLeaves cells = []) ∨
      ∃ k s, rstrip (cellsText cells) = spaces k ++ s ∧ s ≠ [] ∧ LineToks s (cellsLeaves cells) ∧
        (∀ x rest, cells = x :: rest → x.1 ≠ [] → k = 0)) :=
  ⟨fun _ _ _ _ n ha hb hane hbne ho => LineToks.join n ha hb hane hbne ho,
    fun cells hok hopen => (cells_lineToks cells hok hopen).imp And.right id⟩

end Retokenize

/-! ## The self-check -/

/-- `sanity_check_format_result` (its comparison of the collapsed token streams) returns
`[]` **iff** the collapsed streams agree: same length, and at every position the same
symbol and the same text up to surrounding blanks.  (The loop alone only shows that the original
agrees with a *prefix* of the formatted stream; the comparison of the lengths after it, commit
f3f855c of /repo, makes it an equivalence.) -/
theorem C11_sanity_agrees (o f : List Tok) :
    sanityLoop 0 o f = .ok ↔ StreamsAgree o f :=
  sanityLoop_ok_iff o f 0

/-- … and when it reports "Symbol k differs", `k` is the first position at which the
streams differ (both have a token there and the streams agree before it): the length
comparison does not mask a differing symbol. -/
theorem C11_sanity_reports_first_difference (o f : List Tok) (k : Nat) :
    sanityLoop 0 o f = .differs k ↔ FirstDiff o f k := by
  rw [sanityLoop_differs_iff]
  constructor
  · rintro ⟨j, rfl, h⟩; simpa using h
  · intro h; exact ⟨k, by simp, h⟩

/-- Hence "Token count differs" is reported exactly when one collapsed stream agrees with
a proper prefix of the other. -/
theorem C11_sanity_count_differs (o f : List Tok) :
    sanityLoop 0 o f = .countDiffers ↔ ¬ StreamsAgree o f ∧ ∀ k, ¬ FirstDiff o f k := by
  rw [← C11_sanity_agrees]
  constructor
  · intro h
    refine ⟨?_, fun k hk => ?_⟩
    · rw [h]; intro h'; cases h'
    · rw [← C11_sanity_reports_first_difference, h] at hk; cases hk
  · rintro ⟨h1, h2⟩
    cases hr : sanityLoop 0 o f with
    | ok => exact absurd hr h1
    | differs k => exact absurd ((C11_sanity_reports_first_difference o f k).1 hr) (h2 k)
    | countDiffers => rfl

def tDoc : Tok := ⟨"Documentation", "-- doc".toList⟩
def tNl : Tok := ⟨nlSym, "\n".toList⟩
def tExtra : Tok := ⟨"Documentation", "-- extra".toList⟩

/-- Non-vacuity / tests on literals: extra newlines and trailing blanks are accepted; the
pinned probes of the repaired finding `sanity-check-ignores-length` (formatted
"-- doc\n-- extra\n" against original "-- doc\n", and the swapped pair) are reported as
a token-count difference; a differing symbol in front of a length difference is reported
as a differing symbol. -/
example : sanityCheck [tNl, ⟨"Documentation", "-- doc  ".toList⟩, tNl, tNl] [tDoc, tNl] = .ok := by decide +kernel
example : sanityCheck [tDoc, tNl, tExtra, tNl] [tDoc, tNl] = .countDiffers ∧
    sanityCheck [tDoc, tNl] [tDoc, tNl, tExtra, tNl] = .countDiffers ∧
    sanityCheck [] [tDoc, tNl] = .countDiffers ∧
    sanityCheck [tExtra, tNl, tDoc, tNl] [tDoc, tNl] = .differs 0 := by decide +kernel
example : StreamsAgree (collapseNewlines [tDoc, tNl])
    (collapseNewlines [tNl, ⟨"Documentation", "-- doc  ".toList⟩, tNl, tNl]) :=
  (C11_sanity_agrees _ _).1 (by decide +kernel)

end Emboss.Fmt
