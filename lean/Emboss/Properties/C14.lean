/-
C14 — Physical layout and attribute rules are enforced exactly as documented.

Property theorems and the example programs they are tested on.  Model: Emboss/Model/Constraints.lean (by pass, mirrors
constraints.py / attribute_checker.py / attribute_util.py); spec: Emboss/Spec/Constraints.lean
(`Realisable`, by documented rule); regenerated tables: Emboss/Generated/{Prelude,Reserved,
AttrTable}.lean.
-/
import Emboss.Lemmas.ConstraintsTypes
import Emboss.Lemmas.ConstraintsDefaults
import Emboss.Lemmas.ConstraintsReq
import Emboss.Lemmas.ConstraintsLoc
import Emboss.Generated.Prelude
namespace Emboss.Constraints
open Emboss.Generated Emboss.Generated.Prelude

/-! ### Example programs: non-vacuity witnesses and test vectors -/

def exUInt : TypeInfo :=
  { id := 0, name := "UInt", anonymous := false, unit := .none, kind := .external,
    attrs := [⟨"static_requirements", "", false, .req reqUInt⟩,
              ⟨"is_integer", "", false, .bool (some true) true⟩,
              ⟨"addressable_unit_size", "", false, .int (some 1)⟩],
    params := [], isFlag := false }

def exPrelude : Module :=
  { attrs := [⟨"namespace", "cpp", false, .str "emboss::prelude"⟩],
    types := .node exUInt .nil .nil, staticRefs := [] }

/-- `x` is a `size`-byte `UInt` with the given attributes. -/
def exField (size : Int) (attrs : List Attr) : Field :=
  { name := "x", isVirtual := false, ty := .atomic 0 none, start := some 0, sizeConst := some size,
    sizeMin := .fin size, sizeMax := .fin size, attrs := attrs, vkind := .other }

def exStruct (fields : List Field) (attrs : List Attr) : TypeInfo :=
  { id := 1, name := "Foo", anonymous := false, unit := .byte, kind := .structure fields,
    attrs := attrs, params := [], isFlag := false }

/-- `[$default byte_order: "LittleEndian"]  struct Foo:  0 [+2]  UInt  x` -/
def exGoodMain : Module :=
  { attrs := [⟨"byte_order", "", true, .str "LittleEndian"⟩],
    types := .node (exStruct [exField 2 []] []) .nil .nil, staticRefs := [] }

def exGood : Program := [exGoodMain, exPrelude]

/-- `struct Foo:  0 [+2]  UInt  x` — no byte order anywhere. -/
def exNoByteOrder : Program :=
  [{ attrs := [], types := .node (exStruct [exField 2 []] []) .nil .nil, staticRefs := [] },
   exPrelude]

/-- `[expected_back_ends: "cpp, xx"]  struct Foo:  0 [+2]  UInt  x  [(xx) byte_order: "BigEndian"]` -/
def exQualified : Program :=
  [{ attrs := [⟨"expected_back_ends", "", false, .str "cpp, xx"⟩],
     types := .node (exStruct [exField 2 [⟨"byte_order", "xx", false, .str "BigEndian"⟩]] [])
       .nil .nil, staticRefs := [] }, exPrelude]

/-- `enum Ee:  [is_signed: 1 == 1]  AA = 1` -/
def exSignedNonLiteral : Program :=
  [{ attrs := [],
     types := .node { id := 1, name := "Ee", anonymous := false, unit := .bit,
                      kind := .enum [⟨"AA", 1, []⟩],
                      attrs := [⟨"is_signed", "", false, .bool (some true) false⟩],
                      params := [], isFlag := false } .nil .nil,
     staticRefs := [] }, exPrelude]

/-- `0 [+x] UInt y` where the bounds of `x` are unbounded (value of a dynamically sized `UInt`). -/
def exUnbounded : Program :=
  [{ attrs := [⟨"byte_order", "", true, .str "LittleEndian"⟩],
     types := .node (exStruct [{ exField 2 [] with sizeConst := none, sizeMin := .negInf,
                                                   sizeMax := .posInf }] []) .nil .nil,
     staticRefs := [] }, exPrelude]

/-- `struct Aa: 0 [+2] UInt int` (reserved name) followed by `struct Bb: 0 [+9] UInt x`
(72-bit `UInt`). -/
def exOrder : Program :=
  [{ attrs := [⟨"byte_order", "", true, .str "LittleEndian"⟩],
     types := .node { exStruct [{ exField 2 [] with name := "int" }] [] with id := 1, name := "Aa" } .nil
       (.node { exStruct [exField 9 []] [] with id := 2, name := "Bb" } .nil .nil),
     staticRefs := [] }, exPrelude]

/-- A module with one gated expression whose range is 0 .. 2^64 (`x + 1`, `x` a 64-bit `UInt`):
user-visible → reported by `check_constraints`; synthetic → deferred, still rejected. -/
def exGate (syn : Bool) : Program :=
  [{ exGoodMain with
     gated := [(syn, .node true (.int ⟨.fin 1, .fin 18446744073709551616, .fin 1, .fin 0⟩)
                 [.node false (.int ⟨.fin 0, .fin 18446744073709551615, .fin 1, .fin 0⟩) [],
                  .node false (.int ⟨.fin 1, .fin 1, .inf, .fin 1⟩) []])] }, exPrelude]

/-- One statement, so that the kernel walks the regenerated reserved-word table once per name
and not once per `example`; the `example`s below quote its components. -/
theorem exChecks :
    check exGood = [] ∧
    check exNoByteOrder = [.boRequired] ∧
    check exQualified = [.boRequired] ∧
    check exOrder = [.reqNotMet "UInt", .reservedField] ∧
    (check (exGate false) = [.gate .rangeTooBig] ∧ check (exGate true) = [.gate .rangeTooBig] ∧
      passConstraints (exGate true) = []) ∧
    (isReserved "int" = true ∧ isReserved "class" = true ∧ isReserved "lambda" = true ∧
      isReserved "length" = false ∧ isReserved "Int" = false) ∧
    (check exSignedNonLiteral = [] ∧ check exUnbounded = [.reqNotMet "UInt"]) := by
  decide +kernel

/-! ### Accepted iff realisable -/

/-
FULL STATEMENT (kept visible):   `check p = [] ↔ Realisable p`   for every resolved,
type-correct module list `p`, where `Realisable` reads attributes with the DOCUMENTED lookup
(`declared`: the unqualified attribute of that name).

PROVED: the statement below.  `Realisable` reads attributes with `getAttr`, which IS the
documented lookup `declared` (`C14_lookup_documented`: `ir_util.get_attribute` honours the
back-end qualifier).  "Resolved, type-correct" is the hypothesis `TypeWF` on every type
definition.  The proof (`check_iff_realisable`) uses two of its fields: `unit`, structures are bit-
or byte-addressed (how `module_ir` builds them), and `bounds`, scalar field sizes have finite
bounds (otherwise the 64-bit gate rejects the module in the same pass).  `bounds` is what
separates `check` from `Realisable` as they are written: `PhysFieldOK.fits` speaks of a field
with two finite size bounds only, while the front end also holds a fixed-size type against a
finite maximum whose minimum is infinite, and against a `-infinity` maximum
(`typeReqUnbounded`); without `bounds`, `fits` would have to say more.  The third field,
`signedLit` (`is_signed`, if present, is a constant boolean), is what the attribute pass
establishes: it follows from `AttrListOK` on either side of the iff (`signed_unique`).
All rule families are inside: parameter rules, attribute table (scope / `$default` / duplicate /
value), expected back ends, `fixed_size_in_bits`, `maximum_bits`, `is_signed` and enum value
ranges, `addressable_unit_size`, byte order (needed / not allowed / `Null`, `$default`
propagation), `[requires]` placement, bits (fixed, ≤ 64, no byte-oriented members), arrays,
explicit sizes, width requirements (`static_requirements` evaluated), reserved words, static
references, and the 64-bit expression-range gate (C05's `Emboss.Bounds.gate` on the annotated
top-level expressions of each module, user-visible and deferred/synthetic ones).
`check` reports the errors in the front end's own order (pass by pass, traversal by traversal:
`Forest.walk`); the iff goes through the per-entity regrouping (`passConstraints_nil` & co. in
Lemmas/ConstraintsOrder.lean); the order itself is tied by the correspondence run.
-/
theorem C14_accept_iff_realisable_partial (p : Program)
    (wf : ∀ c ∈ allTypes p, TypeWF c.2) : check p = [] ↔ Realisable p :=
  check_iff_realisable p (fun c hc => (wf c hc).unit) fun c hc => (wf c hc).bounds

/-- Non-vacuity: `exGood` satisfies the side conditions. -/
theorem exGood_wf : ∀ c ∈ allTypes exGood, TypeWF c.2 := by
  intro c hc
  simp [allTypes, exGood, exGoodMain, exPrelude, Module.ctxs, Forest.ctxs] at hc
  rcases hc with rfl | rfl
  · refine ⟨fun fs h => Or.inr rfl, ?_, ?_⟩
    · intro f hf _ _
      simp [TypeInfo.fields, exStruct] at hf
      subst hf
      exact ⟨2, 2, rfl, rfl⟩
    · intro v hv; simp [getAttr, Attr.named, exStruct] at hv
  · refine ⟨fun fs h => by simp [exUInt] at h, ?_, ?_⟩
    · intro f hf; simp [TypeInfo.fields, exUInt] at hf
    · intro v hv; simp [getAttr, Attr.named, exUInt] at hv

/- … and is accepted, hence realisable; `exNoByteOrder` is rejected with exactly
"byte_order required". -/
example : check exGood = [] := exChecks.1
example : Realisable exGood :=
  (C14_accept_iff_realisable_partial exGood exGood_wf).1 exChecks.1
example : check exNoByteOrder = [.boRequired] := have ⟨_, h, _⟩ := exChecks; h

/-- With a non-literal `is_signed`, and outside `bounds`: `[is_signed: 1 == 1]` is read as
`true` (the value 1 of `AA` fits); a scalar field whose size has unbounded range gives an
ordinary error, not an exception (`reqNotMet`: the requirement of `UInt` evaluated without a
static size); the unbounded size itself is for the 64-bit gate on the size expression, which is
outside this abstract program: `gated = []`. -/
example : check exSignedNonLiteral = [] ∧ check exUnbounded = [.reqNotMet "UInt"] :=
  have ⟨_, _, _, _, _, _, h⟩ := exChecks; h

/-! ### Reporting order and the 64-bit gate (tests on the model; tied by the correspondence) -/

/-- The errors come traversal by traversal, not type by type: the width error of the LATER
struct (traversal `[Structure, Type]`) precedes the reserved name of the earlier one
(traversal `[Field]`). -/
example : check exOrder = [.reqNotMet "UInt", .reservedField] :=
  have ⟨_, _, _, h, _⟩ := exChecks; h

example : check (exGate false) = [.gate .rangeTooBig] ∧ check (exGate true) = [.gate .rangeTooBig] ∧
    passConstraints (exGate true) = [] := have ⟨_, _, _, _, h, _⟩ := exChecks; h

/-! ### The requirements of the prelude types -/

/-- Evaluating the `static_requirements` of the regenerated prelude with
`$is_statically_sized` / `$static_size_in_bits` bound as `_check_physical_type_requirements`
binds them yields exactly the ranges of the language reference: `UInt`, `Int`, `Bcd`
1..64 bits; `Flag` 1 bit; `Float` 32 or 64 bits; never a dynamically sized field. -/
theorem C14_prelude_requirements :
    (∀ size, reqMet reqUInt size = true ↔ ∃ n, size = some n ∧ 1 ≤ n ∧ n ≤ 64) ∧
    (∀ size, reqMet reqInt size = true ↔ ∃ n, size = some n ∧ 1 ≤ n ∧ n ≤ 64) ∧
    (∀ size, reqMet reqBcd size = true ↔ ∃ n, size = some n ∧ 1 ≤ n ∧ n ≤ 64) ∧
    (∀ size, reqMet reqFlag size = true ↔ size = some 1) ∧
    (∀ size, reqMet reqFloat size = true ↔ (size = some 32 ∨ size = some 64)) := by
  have h64 : ∀ size, reqMet reqUInt size = true ↔ ∃ n, size = some n ∧ 1 ≤ n ∧ n ≤ 64 := ?_
  -- `reqInt` and `reqBcd` unfold to the very term `reqUInt` unfolds to
  refine ⟨h64, h64, h64, ?_, ?_⟩
  all_goals
    intro size
    cases size with
    | none => simp [reqUInt, reqFlag, reqFloat, reqMet_none_isStatic_and]
    | some n =>
      simp only [reqUInt, reqFlag, reqFloat, reqMet, evalS_and, evalS_or, evalS_isStatic_some,
        evalS_le_num_size, evalS_le_size_num, evalS_eq_size_num, and3_bools, or3_bools, Val.truthy]
      simp

/-- The regenerated prelude declares exactly the five documented scalar types, each with a
requirement (table obligation, re-checked when prelude.emb changes). -/
theorem C14_prelude_types :
    Prelude.externals.map (·.1) = ["UInt", "Int", "Bcd", "Flag", "Float"] ∧
    Prelude.externals.all (fun e => e.2.isSome) = true := by decide +kernel

example : reqMet reqUInt (some 64) = true ∧ reqMet reqUInt (some 65) = false ∧
    reqMet reqUInt (some 0) = false ∧ reqMet reqFloat (some 16) = false ∧
    reqMet reqFlag (some 2) = false ∧ reqMet reqBcd none = false := by decide +kernel

/-- The width rule for the regenerated prelude's `UInt`: `WidthOK rt size` for a type carrying
that requirement means a statically known size of 1..64 bits (`C14_prelude_requirements`).
Through `PhysFieldOK.width` this is what `Realisable` says of every `UInt` field. -/
theorem C14_uint_width (rt : TypeInfo) (size : Option Int)
    (hreq : getAttr rt.attrs "static_requirements" = some (.req reqUInt))
    (h : WidthOK rt size) : ∃ n, size = some n ∧ 1 ≤ n ∧ n ≤ 64 := by
  obtain ⟨e, he, hm⟩ := h.2 _ hreq
  cases he
  exact (C14_prelude_requirements.1 size).1 hm

/-! ### `$default byte_order` -/

/-- The traversal hands a type definition `t` the default `d` iff `t` sits at the end of a
chain of nested type definitions of the module and `d` is the NEAREST `$default byte_order`
among the module and the types of the chain (innermost wins; `none` if there is none) — so a
default reaches exactly the definitions below it that are not shadowed by a closer one. -/
theorem C14_defaults_propagate (m : Module) (d : Option AVal) (t : TypeInfo) :
    (d, t) ∈ m.ctxs ↔
      ∃ path, IsPath m.types path t ∧ d = nearestDefault (m.attrs :: path.map (·.attrs)) := by
  simp only [Module.ctxs, ctxs_iff_path, nearestDefault_cons, gatherDefault_eq, Option.or_none]

/-- … and within a type definition it reaches exactly the fields that need a byte order and
lack their own: the byte order a field ends up with is its own if it has one; nothing if it is
not byte-order dependent; else the default in effect; else (no default) `"Null"` when the
field is one unit long or made of one-unit elements. -/
theorem C14_defaults_reach_fields (p : Program) (d : Option AVal) (t : TypeInfo) (f : Field) :
    (∀ v, getAttr f.attrs "byte_order" = some v → effByteOrder p d t f = some v) ∧
    (getAttr f.attrs "byte_order" = none → needsByteOrder p t f ≠ some true →
      effByteOrder p d t f = none) ∧
    (∀ v, getAttr f.attrs "byte_order" = none → needsByteOrder p t f = some true → d = some v →
      effByteOrder p d t f = some v) ∧
    (getAttr f.attrs "byte_order" = none → needsByteOrder p t f = some true → d = none →
      effByteOrder p d t f = if mayNull p t f then some (.str "Null") else none) := by
  refine ⟨?_, ?_, ?_, ?_⟩
  · intro v h; simp [effByteOrder, h]
  · intro h hn; simp [effByteOrder, h, hn]
  · intro v h hn hd; simp [effByteOrder, h, hn, hd]
  · intro h hn hd; simp [effByteOrder, h, hn, hd]

/-- Non-vacuity: in `exGood` the module default reaches `Foo` through the path `[Foo]`. -/
example : exGoodMain.ctxs.map (fun c => (c.1, c.2.name)) =
    [(some (AVal.str "LittleEndian"), "Foo")] := by decide +kernel

/-! ### Reserved words -/

/-- A name is rejected (as a field, enum value or type name) iff it is in the regenerated
reserved-word list. -/
theorem C14_reserved_words (n : String) (e : EK) :
    (if isReserved n = true then [e] else []) ≠ [] ↔ n ∈ Reserved.reservedWords.map (·.1) := by
  rw [Ne, errIf_nil, Decidable.not_not, isReserved, List.lookup_isSome_iff, List.mem_map]
  simp only [beq_iff_eq, @eq_comm _ n]

/-- Tests on the regenerated list: C / C++ / Python words are in, ordinary names are not. -/
example : isReserved "int" = true ∧ isReserved "class" = true ∧ isReserved "lambda" = true ∧
    isReserved "length" = false ∧ isReserved "Int" = false :=
  have ⟨_, _, _, _, _, h, _⟩ := exChecks; h

/-! ### Error locations -/

/-- **Where the attribute-table errors point.**  For every attribute list (of a module, type
definition, field or enum value) and scope table: the located check (`checkAttrListL`, tied to
the real error locations by the correspondence) reports exactly the kinds of `checkAttrList` —
so everything above about acceptance applies to it — and every error points into the list it
was given: at one of ITS attributes (index in range), a duplicate's note at an EARLIER
attribute of the same list; never at another definition. -/
theorem C14_attr_errors_located (specs : List (String × Bool)) (attrs : List Attr) :
    (checkAttrListL specs [] 0 attrs).map (·.k) = checkAttrList specs [] attrs ∧
    ∀ e ∈ checkAttrListL specs [] 0 attrs,
      e.idx < attrs.length ∧ ∀ j, e.note = some j → j < e.idx := by
  refine ⟨checkAttrListL_kinds specs attrs [] 0, fun e he => ?_⟩
  have h := checkAttrListL_where specs attrs [] 0 (by intro s hs; cases hs) e he
  exact ⟨by omega, h.2.2⟩

/-- non-vacuity: on a field, `[byte_order: 3] [(cpp) x: 1] [foo: 1] [byte_order: "Null"]
[$default byte_order: "Null"]` gives: wrong value at the VALUE of #0, unknown attribute at the
NAME of #2 (the qualified #1 is skipped), duplicate at the WHOLE of #3 with the note at #0, "may
not be defaulted" at the NAME of #4. -/
example :
    checkAttrListL AttrTable.physicalFieldAttrs [] 0
      [⟨"byte_order", "", false, .int (some 3)⟩, ⟨"x", "cpp", false, .int (some 1)⟩,
       ⟨"foo", "", false, .int (some 1)⟩, ⟨"byte_order", "", false, .str "Null"⟩,
       ⟨"byte_order", "", true, .str "Null"⟩]
    = [⟨.attrChoice "byte_order", 0, .value, none⟩, ⟨.unknownAttr "foo", 2, .name, none⟩,
       ⟨.dupAttr "byte_order", 3, .whole, some 0⟩, ⟨.noDefault "byte_order", 4, .name, none⟩] := by
  decide +kernel

/-- **Where the field-attribute errors point** (`_verify_field_attributes`).  The located
check reports exactly the kinds of `verifyByteOrder ++ verifyRequires`; "byte_order required" is
reported at the field itself; a `[requires]` placement error at the value of the field's OWN
`[requires]` attribute (an index into its attribute list) — never at another field or scope.
("not allowed" / "may only be 'Null'" point at the field's own byte_order attribute, or, for a
`Null` inherited from a `$default`, at that `$default`: `FieldAt.inherited`.) -/
theorem C14_field_errors_located (p : Program) (d : Option AVal) (t : TypeInfo) (f : Field) :
    (verifyFieldL p d t f).map (·.1) = verifyByteOrder p d t f ++ verifyRequires p f ∧
    (∀ e ∈ verifyFieldL p d t f, e.1 = .boRequired → e.2 = .field) ∧
    (∀ k ∈ verifyRequires p f, k = .requiresArray ∨ k = .requiresType →
      ∃ i, fieldErrAt f k = .attrValue i ∧ i < f.attrs.length) := by
  refine ⟨verifyFieldL_kinds p d t f, ?_, fun k hk hr => requires_located p f k hk hr⟩
  intro e he hb
  simp only [verifyFieldL, List.mem_map] at he
  obtain ⟨k, _, rfl⟩ := he
  simp only at hb
  subst hb
  rfl

/-- non-vacuity: `0 [+2] UInt x` without byte order → at the field; `[requires: …]` (attribute
#1) on an array → at the value of attribute #1; `[byte_order: "Null"]` (attribute #0) on a 2-byte
field → at the value of attribute #0; the same `Null` inherited from the module's `$default` →
`inherited`. -/
example :
    verifyFieldL exNoByteOrder none (exStruct [exField 2 []] []) (exField 2 []) = [(.boRequired, .field)] ∧
    verifyFieldL exGood (some (.str "LittleEndian")) (exStruct [] [])
      { exField 2 [⟨"text_output", "", false, .str "Emit"⟩, ⟨"requires", "", false, .bool none false⟩]
        with ty := .array (.atomic 0 (some 8)) (.const 2) } = [(.requiresArray, .attrValue 1)] ∧
    verifyFieldL exGood none (exStruct [] []) (exField 2 [⟨"byte_order", "", false, .str "Null"⟩])
      = [(.boNull, .attrValue 0)] ∧
    verifyFieldL exGood (some (.str "Null")) (exStruct [] []) (exField 2 []) = [(.boNull, .inherited)] := by
  decide +kernel

/-! ### The attribute lookup -/

/-- On an attribute list without back-end-qualified attributes the front end's lookup is the
documented one. -/
theorem C14_lookup_unqualified (attrs : List Attr) (n : String) (h : UnqAttrs attrs) :
    getAttr attrs n = declared attrs n :=
  getAttr_eq_declared attrs n h

/-- The front end's lookup IS the documented one on every attribute list
(`ir_util.get_attribute` considers only unqualified attributes). -/
theorem C14_lookup_documented (attrs : List Attr) (n : String) :
    getAttr attrs n = declared attrs n := rfl

/-- A 2-byte `UInt` whose only byte order is the back-end-qualified
`[(xx) byte_order: "BigEndian"]` has no byte order and is rejected, exactly like the field
without any attribute. -/
example : check exQualified = [.boRequired] ∧ check exNoByteOrder = [.boRequired] :=
  have ⟨_, hn, hq, _⟩ := exChecks; ⟨hq, hn⟩

end Emboss.Constraints
