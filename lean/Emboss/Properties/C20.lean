/-
C20 — CopyFrom and Equals implement logical copy and logical equality.

Model: `viewEquals` / `typeEquals` / `tryCopy` / `arenaCopy` in Emboss/Model/ViewObs.lean
(mirrors the `equals_method_test` template, leaf/array `Equals` of the runtime, the
`TryToCopyFrom` template and `ContiguousBuffer::TryToCopyFrom` = `memmove` on one address space).
-/
import Emboss.Properties.C01
import Emboss.Lemmas.ViewRefLogEq
namespace Emboss.View

/-- `Equals` is symmetric (for two views of the same structure type). -/
theorem C20_equals_symmetric (o : Oracle) (m : Module) :
    ∀ (fuel : Nat) (wa wb : SView), wa.sd = wb.sd →
      viewEquals o m fuel wa wb = viewEquals o m fuel wb wa := by
  intro fuel
  induction fuel with
  | zero => intro _ _ _; rfl
  | succ fuel ih =>
    intro wa wb hsd
    simp only [viewEquals]
    rw [← hsd, fieldEquals_symm o m _ ih wa wb]
    congr 1
    congr 1
    cases wa.params <;> cases wb.params <;> first | rfl | exact BEq.comm

/-- `TryToCopyFrom` succeeds exactly when the source is `Ok()` and both the destination and the
source storage hold the source's intrinsic size (the latter is implied by `Ok()`, the runtime
checks it again). -/
theorem C20_copy_succeeds_iff (o : Oracle) (m : Module) (sd : StructDef) (ps : List Val)
    (arena : List Nat) (so sl d0 dl : Nat) :
    (tryCopy o m sd ps arena so sl d0 dl).1 = true ↔
      ((step m o).okAt (rootView sd ps ((arena.drop so).take sl)) [] = true ∧
       ∃ sz : Int, sizeOf? o (rootView sd ps ((arena.drop so).take sl)) = some sz ∧
         0 ≤ sz ∧ sz.toNat ≤ dl ∧ sz.toNat ≤ sl) := by
  unfold tryCopy
  simp only
  split
  · next hok =>
    split
    · next sz hs =>
      split
      · next hc => exact iff_of_true rfl ⟨hok, sz, hs, hc⟩
      · next hc =>
        exact iff_of_false Bool.noConfusion fun ⟨_, sz', h1, h2⟩ =>
          hc (Option.some.inj (hs.symm.trans h1) ▸ h2)
    · next hs => exact iff_of_false Bool.noConfusion fun ⟨_, sz', h1, _⟩ => nomatch hs.symm.trans h1
  · next hok => exact iff_of_false Bool.noConfusion fun h => hok h.1

/-- A failed copy changes nothing. -/
theorem C20_failed_copy_no_change (o : Oracle) (m : Module) (sd : StructDef) (ps : List Val)
    (arena : List Nat) (so sl d0 dl : Nat)
    (h : (tryCopy o m sd ps arena so sl d0 dl).1 = false) :
    (tryCopy o m sd ps arena so sl d0 dl).2 = arena := by
  unfold tryCopy at h ⊢
  simp only at h ⊢
  split
  · split
    · split
      · next hok _ _ hs hc => simp only [hok, hs, hc, if_true] at h; cases h
      · rfl
    · rfl
  · rfl

/-- After a successful copy of `n` bytes: the arena keeps its length, the destination's first
`n` bytes are the source's (old) first `n` bytes, everything before and after the destination
window is untouched. -/
theorem C20_copy_post (arena : List Nat) (so d0 n : Nat)
    (hs : so + n ≤ arena.length) (hd : d0 + n ≤ arena.length) :
    (arenaCopy arena so d0 n).length = arena.length ∧
    ((arenaCopy arena so d0 n).drop d0).take n = (arena.drop so).take n ∧
    (arenaCopy arena so d0 n).take d0 = arena.take d0 ∧
    (arenaCopy arena so d0 n).drop (d0 + n) = arena.drop (d0 + n) := by
  have hl1 : (arena.take d0).length = d0 := List.length_take_of_le (Nat.le_of_add_right_le hd)
  have hl2 : ((arena.drop so).take n).length = n :=
    List.length_take_of_le (by rw [List.length_drop]; exact Nat.le_sub_of_add_le' hs)
  unfold arenaCopy
  simp only
  refine ⟨?_, ?_, ?_, ?_⟩
  · simp only [List.length_append, hl1, hl2, List.length_drop]; exact Nat.add_sub_cancel' hd
  · rw [List.append_assoc, List.drop_left' hl1, List.take_left' hl2]
  · rw [List.append_assoc, List.take_left' hl1]
  · have : (arena.take d0 ++ (arena.drop so).take n).length = d0 + n := by
      rw [List.length_append, hl1, hl2]
    rw [List.drop_left' this]

/-- Overlap is handled like `memmove`: whatever the relative position of the two windows (no
disjointness hypothesis), the destination receives the bytes the source window held *before* the
copy — the result equals copying through a temporary. -/
theorem C20_copy_overlap (arena : List Nat) (so d0 n : Nat)
    (hs : so + n ≤ arena.length) (hd : d0 + n ≤ arena.length) :
    arenaCopy arena so d0 n =
      arena.take d0 ++ (arena.drop so).take n ++ arena.drop (d0 + n) ∧
    ((arenaCopy arena so d0 n).drop d0).take n = (arena.drop so).take n :=
  ⟨rfl, (C20_copy_post arena so d0 n hs hd).2.1⟩

/-- After a successful copy the destination is `Ok()`: if the source view is Ok with size `sz`
and the destination buffer afterwards starts with the source's first `sz` bytes (what
`C20_copy_post` guarantees) then the destination view is Ok.  Uses locality twice (`Tight`, the
notion behind `C01_locality_partial`: the source and the destination both agree with the source
restricted to its first `sz` bytes); hypothesis `SizeCovers` as there.
"… and Equals the source" is `C20_copy_dest_equals_src_partial` with `C20_equals_reflexive_partial`
(views whose own physical fields are scalars); beyond that the harness checks it by a follow-up
`EQ` after every successful `CP`. -/
theorem C20_copy_dest_ok_partial (m : Module) (hm : moduleWF m = true) (sd : StructDef)
    (hsd : structWF m sd = true) (hcov : SizeCovers m sd) (ps : List Val) (src dst' : List Nat)
    (K : Nat) (sz : Int)
    (hsz : (G m (K + 1)).read (rootView sd ps src) [sd.sizeField] = some (.int sz))
    (h0 : 0 ≤ sz) (hfit : sz ≤ src.length)
    (hok : (G m (K + 2)).okAt (rootView sd ps src) [] = true)
    (hcopy : dst'.take sz.toNat = src.take sz.toNat) :
    (G m (K + 2)).okAt (rootView sd ps dst') [] = true := by
  have T := Tight.take hm hsd hcov hsz hfit rfl
  have T' := Tight.take hm hsd hcov hsz hfit hcopy
  rw [← (T'.agree (K + 2)).okAt, (T.agree (K + 2)).okAt]
  exact hok

/-- `Equals` ignores the bytes behind the structure: if a view knows its size `sz ≤ |a|` and `a'`
has the same first `sz` bytes (the buffers differ only in trailing bytes no field covers), then
`Equals` against *any* third view gives the same answer for both (and, with
`C20_equals_symmetric`, on either side).  Partial: only padding *behind* the last field, not gaps
between fields; hypothesis `SizeCovers` as in `C01_locality_partial`. -/
theorem C20_equals_ignores_padding_partial (m : Module) (hm : moduleWF m = true) (sd : StructDef)
    (hsd : structWF m sd = true) (hcov : SizeCovers m sd) (ps : List Val) (a a' : List Nat)
    (K : Nat) (sz : Int)
    (hsz : (G m (K + 1)).read (rootView sd ps a) [sd.sizeField] = some (.int sz))
    (h0 : 0 ≤ sz) (hfit : sz ≤ a.length) (hsame : a'.take sz.toNat = a.take sz.toNat)
    (k : Nat) (hk : k ≤ K) (wx : SView) (fuel : Nat) :
    viewEquals (G m k) m fuel (rootView sd ps a) wx = viewEquals (G m k) m fuel (rootView sd ps a') wx := by
  -- both views agree with the view over the first `sz` bytes of `a`
  have T := Tight.take hm hsd hcov hsz hfit rfl
  have T' := Tight.take hm hsd hcov hsz hfit hsame
  rw [← T.equals rfl k wx fuel, T'.equals rfl k wx fuel]

/-- Corollary for copies: after a successful copy (`dst'` starts with the source's first `sz`
bytes) `dst'.Equals(src)` has the same value as `src.Equals(src)`: "the destination Equals the
source" reduces to reflexivity of `Equals` on the (Ok) source: `C20_equals_reflexive_partial` for
views whose own physical fields are scalars, otherwise checked on the real code by `EQ` on
identical buffers. -/
theorem C20_copy_dest_equals_src_partial (m : Module) (hm : moduleWF m = true) (sd : StructDef)
    (hsd : structWF m sd = true) (hcov : SizeCovers m sd) (ps : List Val) (src dst' : List Nat)
    (K : Nat) (sz : Int)
    (hsz : (G m (K + 1)).read (rootView sd ps src) [sd.sizeField] = some (.int sz))
    (h0 : 0 ≤ sz) (hfit : sz ≤ src.length) (hcopy : dst'.take sz.toNat = src.take sz.toNat)
    (k : Nat) (hk : k ≤ K) (fuel : Nat) :
    viewEquals (G m k) m fuel (rootView sd ps dst') (rootView sd ps src) =
      viewEquals (G m k) m fuel (rootView sd ps src) (rootView sd ps src) :=
  (C20_equals_ignores_padding_partial m hm sd hsd hcov ps src dst' K sz hsz h0 hfit hcopy k hk
    (rootView sd ps src) fuel).symm

/-! ### non-vacuity -/

/-- `struct Ex: 0 [+1] UInt tag; if tag == 1: 1 [+2] UInt a; 3 [+tag] UInt:8[] arr` (`exSd` of
Properties/C01): `01 05 00 09` and `01 05 00 09 ff` are Equal (the fifth byte is not covered), a
flipped covered bit makes them unequal, a 3-byte destination is too small, and a 4-byte copy into
the second half of an 8-byte arena from the overlapping window at offset 2 moves the old bytes. -/
example :
    viewEquals (G exM 6) exM 8 (rootView exSd [] [1, 5, 0, 9]) (rootView exSd [] [1, 5, 0, 9, 255]) = true ∧
    viewEquals (G exM 6) exM 8 (rootView exSd [] [1, 5, 0, 9]) (rootView exSd [] [1, 4, 0, 9]) = false ∧
    tryCopy (G exM 6) exM exSd [] [7, 7, 1, 5, 0, 9, 7, 7] 2 6 5 3 = (false, [7, 7, 1, 5, 0, 9, 7, 7]) ∧
    tryCopy (G exM 6) exM exSd [] [7, 7, 1, 5, 0, 9, 7, 7] 2 6 4 4 = (true, [7, 7, 1, 5, 1, 5, 0, 9]) := by
  decide +kernel

/-! ### Equals is logical equality as the reference semantics defines it

Full statement (DESIGN §7, C20): for two views of the same structure type, `Equals` is
true exactly when both agree on which fields are present and every present physical field
(recursively, element by element for arrays) reads equal.  "Present" and "reads" are the
reference semantics' notions: `LogicallyEqual` (Spec/ViewRef.lean) is stated over R-facts only.
Proved for **every view of the fragment of `C01_G_equals_R_partial` whose own physical
fields are scalars** — a byte structure *or a `bits` container with sub-byte fields*, at the top
of a message or nested anywhere (the windows `sa`, `sb` are arbitrary: byte windows or container
numbers), with conditions, dynamic offsets, virtual fields, aliases, parameters, `[requires]`.
The recursion through fields of structure type is `C20_equals_iff_logical_nested_partial` below;
arrays stay with the Python reference (`embref.logical_equal`, every EQ command of every run). -/

open Emboss.ViewRef in
theorem C20_equals_iff_logical_partial (m : Module) (hwfm : moduleWF m = true) (sd : StructDef) (d : Nat)
    (hfr : reachOK m d sd = true) (hsc : scalarFields sd = true) (huniq : namesUnique sd)
    (ps : Option (List Val)) (sa sb : Storage)
    (hwa : viewWF { sd := sd, params := ps, st := sa } = true)
    (hwb : viewWF { sd := sd, params := ps, st := sb } = true) (n k : Nat)
    (hfuel : ∀ f ∈ sd.fields, need m (n + 1) sd [f.name] = true) :
    viewEquals (G m n) m (k + 1) { sd := sd, params := ps, st := sa } { sd := sd, params := ps, st := sb } = true ↔
      LogicallyEqual m { sd := sd, params := ps, st := sa } { sd := sd, params := ps, st := sb } := by
  refine (viewEquals_succ_iff fun f hfm start size ty bo hk => ?_).trans (and_iff_right (Or.inr rfl))
  have hty := List.all_eq_true.mp hsc f hfm
  rw [hk] at hty
  cases ty with
  | scalar kk bits req =>
    exact scalarClause_iff m (closed_reach m) hwfm n ⟨sd, ps, sa⟩ ⟨sd, ps, sb⟩ rfl ⟨d, hfr⟩ hwa hwb (huniq f hfm) hk
      (hfuel f hfm)
  | struct a b c => cases hty
  | array a b => cases hty

/-- non-vacuity: (i) C01's flat example (`n`, conditional `y` at offset `n + 1`, virtual `v`):
`01 00 fe` and `01 77 fe` are Equal — byte 1 is covered by no field — and `01 00 fd` is not;
(ii) the `bits` container `Bf` (`a` = bit 0, `b` = bits 1–3, `c` = bits 4–7) as a view over the
numbers 0xa5 / 0xa5 / 0xa4: equal / differing in the flag.  So by the theorem the first pairs are
logically equal in the reference's sense and the second are not. -/
example :
    viewEquals (G exNest 3) exNest 1
      (rootView exFlat [.int 7] [1, 0, 254]) (rootView exFlat [.int 7] [1, 119, 254]) = true ∧
    viewEquals (G exNest 3) exNest 1
      (rootView exFlat [.int 7] [1, 0, 254]) (rootView exFlat [.int 7] [1, 0, 253]) = false ∧
    (∀ f ∈ exFlat.fields, need exNest 4 exFlat [f.name] = true) ∧
    viewEquals (G exNest 3) exNest 1
      { sd := exBits, params := some [], st := .bits (some 165) 8 }
      { sd := exBits, params := some [], st := .bits (some 165) 8 } = true ∧
    viewEquals (G exNest 3) exNest 1
      { sd := exBits, params := some [], st := .bits (some 165) 8 }
      { sd := exBits, params := some [], st := .bits (some 164) 8 } = false ∧
    Emboss.ViewRef.scalarFields exBits = true ∧ Emboss.ViewRef.scalarFields exFlat = true ∧
    Emboss.ViewRef.viewWF { sd := exBits, params := some [], st := .bits (some 165) 8 } = true ∧
    (∀ f ∈ exBits.fields, need exNest 4 exBits [f.name] = true) := by
  decide +kernel

/-! ### … recursively through fields of structure / `bits` type

`LogEq m k` (Spec/ViewRef.lean) is C20's statement with the recursion spelled out: same
parameters, same presence of every physical field, equal values of present scalar fields, and for
a present field of structure / `bits` type the two views *R assigns to the field* (`SubViewR`:
inner definition, argument values, sub-window — the premises of R's rule `sub`) are logically
equal one level down.  The theorem holds for every family `P` of structures of the refinement fragment closed under
"type of a field", without array fields (`ModOK`: e.g. all structures of a module, or the ones
reachable from one structure; arrays: the generated `Equals` compares clamped element counts, which R
defines for complete arrays only — stays with the Python reference and the post-copy follow-ups),
every pair of views of a structure of the module, every fuel `k` (= nesting depth explored, the
same on both sides; `k = 0` is "out of fuel" = `false` on both). -/

open Emboss.ViewRef in
theorem C20_equals_iff_logical_nested_partial (m : Module) (n : Nat) (P : StructDef → Prop)
    (h : ModOK m n P) (k : Nat) (wa wb : SView) (hP : P wa.sd) (hsd : wb.sd = wa.sd)
    (hwa : viewWF wa = true) (hwb : viewWF wb = true) :
    viewEquals (G m n) m k wa wb = true ↔ LogEq m k wa wb :=
  viewEquals_iff_logEq m n h k wa wb hP hsd hwa hwb

/-- `struct Out2: 0 [+1] UInt n / if n > 0: n [+2] In(n) in / let v = in.s` (C01's nested example
without its array) -/
def exOuter2 : StructDef :=
  { exOuter with name := "Out2", fields := exOuter.fields.take 3 }

def exNest2 : Module := { structs := [exOuter2, exInner, exBits] }

open Emboss.ViewRef in
theorem exNest2_ok : ModOK exNest2 6 (fun sd => sd ∈ exNest2.structs) where
  closed := closed_of_refModule (by decide +kernel) (by decide +kernel)
  wf := by decide +kernel
  noarr := by decide +kernel
  fuel := by decide +kernel
  uniq := fun sd hsd =>
    namesUnique_of_nodup ((by decide +kernel :
      ∀ sd ∈ exNest2.structs, (sd.fields.map Field.name).Nodup) sd hsd)

/-- non-vacuity: `02 ff 07 a5` vs `02 00 07 a5` (byte 1 is covered by no field: equal, through the
nested `In(2)` and its `bits` container) vs `02 ff 07 a4` (the flag inside the container inside
the nested structure differs: not equal); hence, by the theorem, `LogEq` holds / fails. -/
example :
    viewEquals (G exNest2 6) exNest2 3 (rootView exOuter2 [] [2, 255, 7, 165])
      (rootView exOuter2 [] [2, 0, 7, 165]) = true ∧
    viewEquals (G exNest2 6) exNest2 3 (rootView exOuter2 [] [2, 255, 7, 165])
      (rootView exOuter2 [] [2, 255, 7, 164]) = false := by
  decide +kernel

open Emboss.ViewRef in
example : LogEq exNest2 3 (rootView exOuter2 [] [2, 255, 7, 165]) (rootView exOuter2 [] [2, 0, 7, 165]) ∧
    ¬ LogEq exNest2 3 (rootView exOuter2 [] [2, 255, 7, 165]) (rootView exOuter2 [] [2, 255, 7, 164]) := by
  have hmem : ∀ d, (rootView exOuter2 [] d).sd ∈ exNest2.structs := fun _ => List.mem_cons_self
  constructor
  · exact (C20_equals_iff_logical_nested_partial exNest2 6 _ exNest2_ok 3
      (rootView exOuter2 [] [2, 255, 7, 165]) (rootView exOuter2 [] [2, 0, 7, 165])
      (hmem _) rfl rfl rfl).mp (by decide +kernel)
  · exact fun hc => absurd ((C20_equals_iff_logical_nested_partial exNest2 6 _ exNest2_ok 3
      (rootView exOuter2 [] [2, 255, 7, 165]) (rootView exOuter2 [] [2, 255, 7, 164])
      (hmem _) rfl rfl rfl).mpr hc) (by decide +kernel)

/-! ### reflexivity of Equals on Ok views

`C20_copy_dest_equals_src_partial` reduces "after a copy the destination Equals the source" to
`src.Equals(src)`.  Proved for every view whose own physical fields are scalars (byte structure
or `bits` container): an Ok view Equals itself (every presence is known and every present field is
readable, which is what the per-field clauses of the generated `Equals` need).  For structures
with fields of structure type / arrays it is still checked on the real code only (post-copy
follow-up commands of harness/corr/C20.py). -/

open Emboss.ViewRef in
theorem C20_equals_reflexive_partial (m : Module) (hm : moduleWF m = true) (w : SView)
    (hsd : structWF m w.sd = true) (hsc : scalarFields w.sd = true) (huniq : namesUnique w.sd)
    (n k : Nat) (hok : (G m (n + 1)).okAt w [] = true) :
    viewEquals (G m (n + 1)) m (k + 1) w w = true := by
  refine (viewEquals_succ_iff (Q := fun _ => True) fun f hfm start size ty bo hk => iff_true_intro ?_).mpr
    ⟨Or.inr rfl, fun _ _ _ => trivial⟩
  have hf := huniq f hfm
  have hty := List.all_eq_true.mp hsc f hfm
  rw [hk] at hty
  cases ty with
  | struct a b c => cases hty
  | array a b => cases hty
  | scalar kk bits req =>
    have hfield := ((step_okAt_nil_iff (o := G m n)).mp hok).2.2.1 f hfm
    cases n with
    | zero => rcases hfield with hh | ⟨hh, _⟩ <;> cases hh
    | succ n' =>
      -- what `Ok()` knows at fuel `n' + 1` is known at the fuel `n' + 3` the clause looks at
      have up := G_le hm (show n' + 1 ≤ n' + 3 by omega) w w (VLe.refl w) hsd
      rw [fieldEquals_scalar m (n' + 2) w w rfl _ hf hk]
      rcases hfield with hh | ⟨hh, hokf⟩
      · rw [(up _).2.1 _ hh]; rfl
      · rw [show (G m (n' + 1)).okAt w [f.name] = _ from step_okAt_scalar m _ w hf hk,
          Option.isSome_iff_exists] at hokf
        obtain ⟨v, hv⟩ := hokf
        rw [(up _).2.1 _ hh, (up _).1 _ hv]
        simp

/-- non-vacuity: the flat example over `01 00 fe` is Ok and Equals itself; so is the `bits`
container `Bf` over the number 0xa5. -/
example :
    (G exNest 4).okAt (rootView exFlat [.int 7] [1, 0, 254]) [] = true ∧
    viewEquals (G exNest 4) exNest 1
      (rootView exFlat [.int 7] [1, 0, 254]) (rootView exFlat [.int 7] [1, 0, 254]) = true ∧
    moduleWF exNest = true ∧ structWF exNest exFlat = true ∧ structWF exNest exBits = true := by
  decide +kernel

end Emboss.View
