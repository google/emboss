/-
C04, layer 1 (arithmetic): the fixed-width C++ evaluation of a gate-accepted expression is exact;
`Properties/C04.lean` restates the main theorem.

Model: Emboss/Model/CppArith.lean (`_render_expression`, `_render_builtin_operation`,
`emboss_arithmetic.h::MaybeDo/Choice`, `_cpp_integer_type_for_range`).
-/
import Emboss.Lemmas.CppArithSound
namespace Emboss.Bounds

/-- **No overflow, no truncation, exact result.**  For every expression `e` whose
annotated IR `t` (the bounds of C05) passes the 64-bit gate
`_integer_bounds_errors_for_expression`, in which every referenced virtual field's own
definition passes it too (`vrefsGated`: a reference is a leaf of the referring tree; the
definition is a top-level expression of the same accepted module), and every environment
whose leaves hold values of their physical types: evaluating `e` the way the generated C++ does — every operand
cast to `IntermediateT`, the operation computed in that fixed-width type, the result cast
to `ResultT`, constant-typed nodes emitted as literals, all operands evaluated eagerly —
never leaves the range of a type it is cast to or computed in (`overflow`), never finds
`_cpp_integer_type_for_range` returning None (`notype`), never gets stuck, and yields
exactly the unbounded-ℤ value `v` — *or* the header does not compile because the
`Choice` static_assert `IntermediateT == ResultT` fails (`staticAssert`; see the
counterexample below: that outcome is real). -/
theorem C04_no_overflow (ρ : Env) (e : Expr) (t : ATree) (v : CVal)
    (hann : annot e = some t) (hgate : gate t = some [])
    (henv : EnvOk ρ e) (hev : eval ρ e = some v) (hvref : vrefsGated e = true) :
    cppEval ρ e = .ok v ∨ cppEval ρ e = .staticAssert :=
  no_overflow_aux ρ e t v hann hgate henv hev hvref

/-- non-vacuity: `a0 + a1 * 3` over `UInt:8 a0`, `Int:16 a1` passes the gate and is
    evaluated exactly; int32 arithmetic throughout -/
example :
    let e : Expr := .bin .add (.ileaf 0 .uint (some 8)) (.bin .mul (.ileaf 1 .sint (some 16)) (.const 3))
    let ρ : Env := ⟨fun i => if i = 0 then 255 else -32768, fun _ => false, fun _ => 0⟩
    (∃ t, annot e = some t ∧ gate t = some []) ∧ eval ρ e = some (.int (-98049)) ∧
      cppEval ρ e = .ok (.int (-98049)) := by
  refine ⟨⟨_, rfl, by decide +kernel⟩, by decide +kernel, by decide +kernel⟩

/-- non-vacuity with a reference to a virtual field: `let v0 = a0 * 300` (`UInt:8 a0`),
    `let v1 = v0 + 7`: the reference is a leaf of `v1`'s annotated tree, `vrefsGated` holds
    because `v0`'s own definition passes the gate, and the C++ evaluation is exact.
    The hypothesis is not vacuous either: `vrefsGated` fails for a reference to the
    rejected `a0 + 1` over `UInt:64 a0`. -/
example :
    let v0 : Expr := .bin .mul (.ileaf 0 .uint (some 8)) (.const 300)
    let e : Expr := .bin .add (.vref v0) (.const 7)
    let ρ : Env := ⟨fun _ => 255, fun _ => false, fun _ => 0⟩
    (∃ t, annot e = some t ∧ gate t = some []) ∧ vrefsGated e = true ∧
      cppEval ρ e = .ok (.int 76507) ∧
      vrefsGated (.vref (.bin .add (.ileaf 0 .uint (some 64)) (.const 1))) = false := by
  refine ⟨⟨_, rfl, by decide +kernel⟩, by decide +kernel, by decide +kernel, by decide +kernel⟩

/-- the gate is what makes it true: `a0 + 1` over `UInt:64 a0` is rejected, and with the
    gate ignored the C++ evaluation overflows (`notype`: no C++ type holds 0 … 2^64) -/
example :
    let e : Expr := .bin .add (.ileaf 0 .uint (some 64)) (.const 1)
    (∃ t, annot e = some t ∧ gate t = some [.rangeTooBig]) ∧
      cppEval ⟨fun _ => 18446744073709551615, fun _ => false, fun _ => 0⟩ e = .notype := by
  refine ⟨⟨_, rfl, by decide +kernel⟩, by decide +kernel⟩

/-- **The `staticAssert` outcome is reachable** (open finding
`constant-condition-choice-static-assert`, DESIGN §13.1, replayed on the real code; the same
witness in the `static_assert` model is `C07_choice_counterexample`): `true ? a0 : a1` with `UInt:8 a0`, `UInt:64 a1` is accepted; expression_bounds
copies the selected side's range (ResultT = int32_t) while the back end takes
IntermediateT over the result and *all* operands (uint64_t):
`Choice<uint64_t, int32_t, bool, int32_t, uint64_t>` fails
`static_assert(is_same<IntermediateT, ResultT>)` in emboss_arithmetic.h. -/
theorem C04_choice_static_assert_counterexample :
    let e : Expr := .choice (.bconst true) (.ileaf 0 .uint (some 8)) (.ileaf 1 .uint (some 64))
    (∃ t, annot e = some t ∧ gate t = some []) ∧
      ∀ ρ : Env, cppEval ρ e = .staticAssert := by
  -- the evaluation reads both leaves but never inspects their values: the types decide
  exact ⟨⟨_, rfl, by decide +kernel⟩, fun _ => rfl⟩

/-- **The template arguments printed in the header are the types the evaluation model computes
in.**  `nodeSig tys` is what `model_c05 SIG` answers and what the harness compares with the
`<IntermediateT, ResultT, ArgTs…>` of every `Sum/Difference/Product/Maximum/Equal/…` call found in
the generated header text.  If it names the integer type `it` as `IntermediateT`, then `it` is
`_cpp_integer_type_for_range` of the hull of all integer clauses, the remaining names are the
`_cpp_basic_type_for_expression` of result and operands, and `cppOp` — the evaluation step of
`C04_no_overflow` — casts every operand to exactly that `it`, computes in it and casts to the
result type. -/
theorem C04_header_types (ty : AType) (args : List AType) (it : CType) (ns : List TName)
    (h : nodeSig (ty :: args) = some (.int it, ns)) :
    (∃ rs lo hi, intRanges (ty :: args) = some rs ∧ hullOf rs = some (lo, hi) ∧
      cppTypeForRange lo hi = some it) ∧
    argTNames (ty :: args) = some ns ∧
    (∀ vs res, cppOp (ty :: args) vs res =
      if !(vs.all (castOk it)) then .overflow
      else match res with
        | none => .stuck
        | some v => if !(castOk it v) then .overflow else castResult ty v) := by
  unfold nodeSig at h
  split at h
  · rename_i rs names hr hn
    split at h
    · -- some clause is an integer: `lo`, `hi` is the hull of the integer ranges
      rename_i lo hi hh
      split at h
      · cases h  -- integers mixed with enums: the generator raises
      · simp only [Option.some.injEq, Prod.mk.injEq] at h
        obtain ⟨h1, h2⟩ := h
        subst h2
        have ht : cppTypeForRange lo hi = some it := by
          unfold tnameOfRange at h1
          split at h1
          · rename_i t ht; cases h1; exact ht
          · cases h1
        refine ⟨⟨rs, lo, hi, hr, hh, ht⟩, hn, ?_⟩
        intro vs res
        simp only [cppOp, hr, hh, ht]
        rfl
    · -- no integer clause: `IntermediateT` is `bool` or the enum type, never `.int it`
      simp only [Option.some.injEq, Prod.mk.injEq] at h
      obtain ⟨h1, _⟩ := h
      split at h1 <;> cases h1
  · cases h  -- an infinite bound: the generator raises

/-- non-vacuity: `Sum<int64_t, int64_t, int32_t, int32_t>` for `a0 + a1` over `UInt:8 a0`,
    `Int:32 a1` (the call found in the generated header) -/
example :
    nodeSig [.int ⟨.fin (-2147483648), .fin 2147483902, .fin 1, .fin 0⟩,
             .int ⟨.fin 0, .fin 255, .fin 1, .fin 0⟩,
             .int ⟨.fin (-2147483648), .fin 2147483647, .fin 1, .fin 0⟩] =
      some (.int .i64, [.int .i64, .int .i32, .int .i32]) := by decide +kernel

end Emboss.Bounds
