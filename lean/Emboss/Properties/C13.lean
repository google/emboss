/-
C13 — Expression typing: well-typed modules are accepted, ill-typed ones rejected with an
error pointing into the offending definition, never a crash.

Property theorems, their example vectors, `ModuleOk`.  Model: Model/Types.lean (type_check.py,
attribute_util.py as coded in /repo).  Spec: Spec/Types.lean (`HasType false` = language reference;
`HasType true` adds the coded enum-ordering rule; `parts`, `natural`).  The other predicates of the
statements: `LocIn` in Lemmas/TypesSub.lean; `PositionsOk`, `AttrOk`, `inspected`, `Typed`, `Module.wf`,
`ErrAt` in Lemmas/TypesMod.lean; `Module.natural` in Lemmas/TypesNat.lean.
-/
import Emboss.Lemmas.TypesNat
import Emboss.Lemmas.BoundsSound
namespace Emboss.Types

private def L (n : Nat) : Loc := ⟨n, false⟩

/- FULL STATEMENT (false on the current tree, see `C13_enum_ordering_counterexample`):
     theorem C13_typecheck_iff (file e τ) : Ok (tc file e) τ ↔ HasType false e τ
   Proved: the same equivalence with the ordering rule as coded (`HasType true` = documented
   rules + "ordering on two values of one enum"). -/
/-- The checker accepts `e` (written in any module `file`) with type `τ` — reports nothing —
exactly when `e` has type `τ` under the documented rules plus the coded enum-ordering rule.
Two enums are the same type only if they are the same definition (module file and path). -/
theorem C13_typecheck_iff_partial (file : FileId) (e : Expr) (τ : Ty) :
    Ok (tc file e) τ ↔ HasType true e τ :=
  tc_iff e file τ

/-- non-vacuity: `$max(x, 3) + (b ? 1 : 2)` with `x : UInt`, `b : Flag` is accepted as integer;
`x + b` is not accepted at any type; nor is `ea == eb` for values of two different enums. -/
example :
    Ok (tc 0 (.bin (L 1) .add (.fn (L 2) .max [.lphys (L 3) .int, .num (L 4)])
          (.choice (L 5) (.lphys (L 6) .bool) (.num (L 7)) (.num (L 8))))) .int ∧
    (¬ ∃ τ, Ok (tc 0 (.bin (L 1) .add (.lphys (L 2) .int) (.lphys (L 3) .bool))) τ) ∧
    (¬ ∃ τ, Ok (tc 0 (.bin (L 1) .eq (.lphys (L 2) (.enum 0)) (.enumv (L 3) 1))) τ) := by
  exact ⟨by decide +kernel, fun ⟨_, h⟩ => absurd h.1 (by decide +kernel),
    fun ⟨_, h⟩ => absurd h.1 (by decide +kernel)⟩

/-- Every expression that is well-typed by the *documented* rules is accepted, with that type. -/
theorem C13_documented_accepted (file : FileId) (e : Expr) (τ : Ty) (h : HasType false e τ) :
    Ok (tc file e) τ :=
  (tc_iff e file τ).2 (hasType_mono h)

example : HasType false (.bin (L 1) .lt (.num (L 2)) (.lphys (L 3) .int)) .bool :=
  .order (.inl rfl) .num .lphys

/-- FINDING (F11, open): `Ee.AA < x` with `x : Ee` is accepted as a boolean although the
reference restricts `<` to integers.  Replayed on the real compiler by the check
(findings.d/C13.json, key enum-operands-to-ordering-comparison-accepted). -/
theorem C13_enum_ordering_counterexample :
    Ok (tc 0 (.bin (L 1) .lt (.enumv (L 2) 0) (.lphys (L 3) (.enum 0)))) .bool ∧
    ¬ HasType false (.bin (L 1) .lt (.enumv (L 2) 0) (.lphys (L 3) (.enum 0))) .bool :=
  ⟨by decide +kernel, hasType_false_ord_enum (.inl rfl) .enumv⟩

/-- An expression the checker leaves without a type has been reported: "no type" never
travels silently to a later pass. -/
theorem C13_untyped_is_reported (file : FileId) (e : Expr) (h : (tc file e).ty = .none) :
    (tc file e).errs ≠ [] :=
  tc_none_err h

example : (tc 0 (.bin (L 1) .lt (.boolc (L 2)) (.num (L 3)))).ty = .none := by decide +kernel

/-- Whatever is reported for a part of an expression — a syntactic sub-expression, or the
definition of a virtual field it refers to, each checked under the file it is written in —
is reported for the expression itself. -/
theorem C13_subexpression_errors_reported (file : FileId) (e : Expr) (p : FExpr)
    (hp : p ∈ parts file e) (er : Err) (h : er ∈ (tc p.1 p.2).errs) : er ∈ (tc file e).errs :=
  parts_errs e file p hp er h

/-- The parts of an accepted expression are accepted, each with a proper type. -/
theorem C13_subexpression_accepted (file : FileId) (e : Expr) (τ : Ty) (h : Ok (tc file e) τ)
    (p : FExpr) (hp : p ∈ parts file e) : ∃ σ, σ ≠ .none ∧ Ok (tc p.1 p.2) σ := by
  have he : (tc p.1 p.2).errs = [] := List.eq_nil_iff_forall_not_mem.2 fun er her =>
    List.not_mem_nil (h.1 ▸ parts_errs e file p hp er her)
  exact ⟨_, fun hn => tc_none_err hn he, he, rfl⟩

/-- non-vacuity: the boolean condition of an accepted integer `?:` is among its parts -/
example : ((0 : FileId), Expr.lphys (L 2) .bool) ∈
    parts 0 (.choice (L 1) (.lphys (L 2) .bool) (.num (L 3)) (.num (L 4))) := by simp [parts]

/-- Every error names the offending construct and the file it is written in: its location is
that of the expression or of one of its sub-expressions, reported under the expression's
own file name — or, through a reference to a `let` field, a location inside that field's
definition, reported under the file name of the module that defines it. -/
theorem C13_error_located (file : FileId) (e : Expr) (er : Err) (h : er ∈ (tc file e).errs) :
    LocIn er.l er.file file e :=
  tc_loc e file er h

/-- non-vacuity: `1 + true` in file 0; `other.bad + 1` in file 0 where `bad = true < 1` is
defined in file 7: the first error lies in file 7, the second in file 0. -/
example : (tc 0 (.bin (L 1) .add (.num (L 2)) (.boolc (L 3)))).errs = [⟨L 3, 0, .mustInt 1, []⟩] ∧
    (tc 0 (.bin (L 1) .add (.lvirt (L 2) 7 (.bin (L 3) .lt (.boolc (L 4)) (.num (L 5)))) (.num (L 6)))).errs
      = [⟨L 4, 7, .cmpArg 0, []⟩, ⟨L 2, 0, .mustInt 0, []⟩] := by
  decide +kernel

private def exMod : Module :=
  { exprs := [(0, .num (L 2)), (0, .lparam (L 3) .int), (0, .num (L 4)), (0, .boolc (L 5)),
              (0, .num (L 9)), (0, .num (L 10))],
    params := [⟨0, L 1, .atomic .int⟩], locations := [(0, .num (L 2), .lparam (L 3) .int)],
    arrays := [(0, .num (L 4))], conds := [(0, .boolc (L 5))], enumValues := [(0, .num (L 10))],
    passed := [⟨0, L 6, 0, L 7, [(.int, L 8)], [.num (L 9)]⟩], attrs := [] }

/- FULL STATEMENT (false on the current tree): with `PositionsOk false` (documented typing
   inside the expressions, enum values integers only).  Proved for `PositionsOk true`; the
   differences are F11 (above) and `C13_enum_value_counterexample`. -/
/-- Given that `annotate_types` accepted the inspected expressions (the pipeline runs
`check_types` only then), `check_types` reports nothing and does not raise exactly when every
position holds an expression of the demanded type: integer starts, sizes and array lengths,
boolean conditions, numeric enum values, integer-or-enum parameters, and arguments of exactly
the declared parameter type (for enums: the very same enum). -/
theorem C13_check_iff_positions_ok_partial (m : Module) (ht : ∀ e ∈ inspected m, Typed e) :
    ((checkTypes m).errs = [] ∧ (checkTypes m).crash = none) ↔ PositionsOk true m :=
  (checkTypes_judges m).ok ht

example : (∀ e ∈ inspected exMod, Typed e) ∧ (checkTypes exMod).errs = [] := by decide +kernel
example : (checkTypes { exMod with conds := [(0, .num (L 5))] }).errs = [⟨L 5, 0, .posExist, []⟩] := by decide +kernel

/-- pins the `fix:` commits on `check_types`: an integer array length with a boolean
sub-expression is accepted; a boolean enum value, an argument of another enum and a boolean
argument for an integer parameter are reported. -/
example :
    (checkTypes { exMod with arrays := [(0, .choice (L 1) (.bin (L 2) .eq (.lphys (L 3) .int) (.num (L 4)))
        (.num (L 5)) (.num (L 6)))] }).errs = [] ∧
    (checkTypes { exMod with enumValues := [(0, .boolc (L 9))] }).errs = [⟨L 9, 0, .posEnumValue, []⟩] ∧
    (checkTypes { exMod with passed := [⟨0, L 6, 3, L 7, [(.enum 0, L 8)], [.enumv (L 9) 1]⟩] }).errs
      = [⟨L 9, 0, .passKind 0, [(3, L 8)]⟩] ∧
    (checkTypes { exMod with passed := [⟨0, L 6, 3, L 7, [(.int, L 8)], [.boolc (L 9)]⟩] }).errs
      = [⟨L 9, 0, .passKind 0, [(3, L 8)]⟩] := by decide +kernel

/-- FINDING (open, pinned by expression_bounds_test): an enum value given by an expression of
enum type (`BB = Foo.AA`) is accepted although enum values are documented as integers. -/
theorem C13_enum_value_counterexample :
    (checkTypes { exMod with enumValues := [(0, .enumv (L 9) 1)] }).errs = [] ∧
    ¬ PositionsOk false { exMod with enumValues := [(0, .enumv (L 9) 1)] } := by
  refine ⟨by decide +kernel, fun h => ?_⟩
  rcases h.enumValues (0, .enumv (L 9) 1) (by simp) with h' | ⟨h', _⟩
  · cases h'
  · cases h'

/-- Given that `annotate_types` accepted the value, an attribute validator is silent exactly
when the value is what the attribute's kind demands: `[requires]`/`[static_requirements]` a
boolean expression; `[is_signed]`/`[is_integer]` a constant boolean expression;
`[addressable_unit_size]`/`[maximum_bits]`/`[fixed_size_in_bits]` a constant integer
expression (constant = `Attr.constOk`: C05's `constant_value` / bounds verdict when the value is
given in C05's language, closedness otherwise); `[byte_order]`/`[text_output]` a listed string; `[expected_back_ends]` a
well-formed list.  A value of any other kind (string for expression, expression for string)
is reported, never raised on. -/
theorem C13_attr_value_ok (a : Attr) (ht : ∀ e, a.val = .expr e → Typed (a.file, e)) :
    ((attrOne a).errs = [] ∧ (attrOne a).crash = none) ↔ AttrOk a :=
  (attrOne_judges (A := fun _ => True) a id
    fun _ => trivial).ok ht

example : (attrOne ⟨0, L 1, .bool, false, .expr (.num (L 2)), none⟩).errs = [⟨L 1, 0, .attrBool, []⟩] ∧
    (attrOne ⟨0, L 1, .boolConst, true, .expr (.num (L 2)), none⟩).errs = [⟨L 1, 0, .attrConstBool, []⟩] ∧
    (attrOne ⟨0, L 1, .backEnds, false, .expr (.num (L 2)), none⟩).errs = [⟨L 1, 0, .attrString, []⟩] ∧
    (attrOne ⟨0, L 1, .intConst, false, .expr (.bin (L 2) .add (.num (L 3)) (.num (L 4))), none⟩).errs = [] := by
  decide +kernel

theorem constOk_of_ok {a : Attr} {e : Expr} (ht : Typed (a.file, e)) (hv : a.val = .expr e)
    (hk : a.kind = .boolConst ∨ a.kind = .intConst)
    (hok : (attrOne a).ok) : a.constOk e = true := by
  have h := (C13_attr_value_ok a fun e' he' => by rw [hv] at he'; cases he'; exact ht).1 hok
  unfold AttrOk at h
  rcases hk with hk | hk <;> rw [hk, hv] at h <;> exact h.2

/-- Attribute constancy, syntactic half (the value is judged by closedness, `a.cst = none`): an
accepted value of a constant-demanding attribute (`[is_signed]`, `[is_integer]`,
`[addressable_unit_size]`, `[maximum_bits]`, `[fixed_size_in_bits]`) mentions no field,
parameter or builtin — not in any sub-expression, nor inside the definition of any `let` field
it refers to, in whatever module. -/
theorem C13_constant_attr_mentions_no_field (a : Attr) (e : Expr)
    (ht : Typed (a.file, e)) (hv : a.val = .expr e) (hk : a.kind = .boolConst ∨ a.kind = .intConst)
    (hcst : a.cst = none)
    (hok : (attrOne a).errs = [] ∧ (attrOne a).crash = none) :
    ∀ p ∈ parts a.file e, (∀ l t, p.2 ≠ .lphys l t) ∧ (∀ l t, p.2 ≠ .lparam l t) ∧
      (∀ l, p.2 ≠ .lparamArr l) ∧ (∀ l b, p.2 ≠ .builtin l b) := by
  have hc : closed e = true := by
    simpa [Attr.constOk, hcst] using constOk_of_ok ht hv hk hok
  intro p hp
  exact closed_not_ref (parts_closed e a.file hc p hp)

/-- Attribute constancy, semantic half (the value is judged by C05's model, `a.cst = some b`):
an accepted value of a constant-demanding attribute has ONE value — whatever the fields,
parameters and `$static_size_in_bits` it mentions hold (every environment `ρ` whose leaves are
values of their physical types), `normB b` evaluates to the same `v` (`normB b` is `b` with static
references to non-constant fields read as plain references; that `b` evaluates as `normB b` does is
not proved).  This covers the values that
fold to a constant although they mention a field (`false && x == 1`, `$upper_bound(x)`, a
static reference to `let v = x * 0`), which closedness rejects and the compiler accepts.
(Through C05's soundness theorems: `constant_value` agrees with evaluation; an annotated
boolean value is the value.) -/
theorem C13_constant_attr_has_one_value (a : Attr) (e : Expr) (b : Emboss.Bounds.Expr)
    (ht : Typed (a.file, e)) (hv : a.val = .expr e) (hk : a.kind = .boolConst ∨ a.kind = .intConst)
    (hcst : a.cst = some b)
    (hok : (attrOne a).errs = [] ∧ (attrOne a).crash = none) :
    ∃ v, ∀ ρ w, Emboss.Bounds.EnvOk ρ (normB b) → Emboss.Bounds.eval ρ (normB b) = some w → w = v := by
  have hq := constOk_of_ok ht hv hk hok
  rcases hk with hk | hk
  · have hq : constBoolB (normB b) = true := by simpa [Attr.constOk, hcst, hk] using hq
    unfold constBoolB at hq
    split at hq
    · rename_i x hx
      exact ⟨.bool x, fun ρ w henv hev =>
        Emboss.Bounds.atypeConstCV_sound ((Emboss.Bounds.sound_aux ρ (normB b) henv w hev).1 _ hx) rfl⟩
    · cases hq
  · have hq : constIntB (normB b) = true := by simpa [Attr.constOk, hcst, hk] using hq
    unfold constIntB at hq
    split at hq
    · rename_i x hx
      exact ⟨x, fun ρ w henv hev => (Emboss.Bounds.sound_aux ρ (normB b) henv w hev).2 x hx⟩
    · cases hq

/-- non-vacuity / the folding shapes: `[maximum_bits: (false && x == 1) ? 4 : 8]` (three-valued
`&&`, then `?:`), `[maximum_bits: $upper_bound(x)]` with `x` an 8-bit `UInt` (the bound is the
constant 255), `[fixed_size_in_bits: Foo.v + 8]` with `let v = x * 0` (the bounds of `v` are
0…0) and `[is_signed: $upper_bound(x) == 255]` are accepted when the value is given in C05's
language; judged by closedness alone each is "not constant".  `[maximum_bits: x]` is not
constant either way, and neither is `[is_signed: false && x == 1]`: the bounds pass gives a
boolean a value only when *all* operands are constant, although `constant_value` folds it. -/
example :
    let x : Emboss.Bounds.Expr := .ileaf 0 .uint (some 8)
    let a1 : Attr := ⟨0, L 1, .intConst, false,
      .expr (.choice (L 2) (.bin (L 3) .and (.boolc (L 4)) (.bin (L 5) .eq (.lphys (L 6) .int) (.num (L 7))))
        (.num (L 8)) (.num (L 9))),
      some (.choice (.bin .and (.bconst false) (.bin .eq x (.const 1))) (.const 4) (.const 8))⟩
    let a2 : Attr := ⟨0, L 1, .intConst, false, .expr (.fn (L 2) .upper [.lphys (L 3) .int]),
      some (.upper x)⟩
    let a3 : Attr := ⟨0, L 1, .intConst, false,
      .expr (.bin (L 2) .add (.cvirt (L 3) 0 (.bin (L 7) .mul (.lphys (L 8) .int) (.num (L 9)))) (.num (L 4))),
      some (.bin .add (.cref (.bin .mul x (.const 0))) (.const 8))⟩
    let a4 : Attr := ⟨0, L 1, .intConst, false, .expr (.lphys (L 3) .int), some x⟩
    let a5 : Attr := ⟨0, L 1, .boolConst, true,
      .expr (.bin (L 2) .and (.boolc (L 3)) (.bin (L 4) .eq (.lphys (L 5) .int) (.num (L 6)))),
      some (.bin .and (.bconst false) (.bin .eq x (.const 1)))⟩
    let a6 : Attr := ⟨0, L 1, .boolConst, true,
      .expr (.bin (L 2) .eq (.fn (L 3) .upper [.lphys (L 5) .int]) (.num (L 6))),
      some (.bin .eq (.upper x) (.const 255))⟩
    (attrOne a1).errs = [] ∧ (attrOne a2).errs = [] ∧ (attrOne a3).errs = [] ∧ (attrOne a6).errs = [] ∧
    (attrOne { a1 with cst := none }).errs = [⟨L 1, 0, .attrConst, []⟩] ∧
    (attrOne { a2 with cst := none }).errs = [⟨L 1, 0, .attrConst, []⟩] ∧
    (attrOne { a3 with cst := none }).errs = [⟨L 1, 0, .attrConst, []⟩] ∧
    (attrOne { a6 with cst := none }).errs = [⟨L 1, 0, .attrConstBool, []⟩] ∧
    (attrOne a4).errs = [⟨L 1, 0, .attrConst, []⟩] ∧
    (attrOne a5).errs = [⟨L 1, 0, .attrConstBool, []⟩] := by decide +kernel

/-- non-vacuity: `[fixed_size_in_bits: 8 + 8]` is accepted; `[fixed_size_in_bits: x]` and
`[is_integer: $is_statically_sized]` are reported as not constant. -/
example :
    (attrOne ⟨0, L 1, .intConst, false, .expr (.bin (L 2) .add (.num (L 3)) (.num (L 4))), none⟩).errs = [] ∧
    (attrOne ⟨0, L 1, .intConst, false, .expr (.lphys (L 2) .int), none⟩).errs = [⟨L 1, 0, .attrConst, []⟩] ∧
    (attrOne ⟨0, L 1, .boolConst, false, .expr (.builtin (L 2) .isStaticallySized), none⟩).errs
      = [⟨L 1, 0, .attrConstBool, []⟩] := by decide +kernel

/-- what the three passes demand of a module, as coded -/
structure ModuleOk (m : Module) : Prop where
  exprs : ∀ e ∈ m.exprs, ∃ τ, HasType true e.2 τ
  noArrayParam : ∀ p ∈ m.params, p.pty ≠ .array
  positions : PositionsOk true m
  attrs : ∀ a ∈ m.attrs, AttrOk a
  signedLiteral : attrLate m.attrs = none

/- FULL STATEMENT: the same with `HasType false` / `PositionsOk false`; false because of the two
   open findings (F11, enum-typed enum values).  `signedLiteral` holds of every module. -/
/-- A module is accepted by the three modelled passes iff all its expressions are well-typed,
no parameter is an array, every position holds the demanded type and every attribute value
the demanded kind. -/
theorem C13_module_accepted_iff_partial (m : Module) (wf : m.wf) :
    run m = .accepted ↔ ModuleOk m := by
  rw [run_accepted]
  constructor
  · rintro ⟨ha, hc, ht, hl⟩
    have ⟨hte, hpa⟩ := (annotate_nil m).1 ha
    have ⟨hti, hta⟩ := typed_of_wf wf hte
    exact ⟨fun e he => ⟨_, (typed_ty_iff (hte e he)).1 rfl⟩, hpa, ((checkTypes_judges m).ok hti).1 hc,
      ((attrAll_judges m).ok hta).1 ht, hl⟩
  · intro h
    have hte : ∀ e ∈ m.exprs, Typed e := fun e he =>
      let ⟨τ, hτ⟩ := h.exprs e he
      ((tc_iff e.2 e.1 τ).2 hτ).1
    have ⟨hti, hta⟩ := typed_of_wf wf hte
    exact ⟨(annotate_nil m).2 ⟨hte, h.noArrayParam⟩, ((checkTypes_judges m).ok hti).2 h.positions,
      ((attrAll_judges m).ok hta).2 h.attrs, h.signedLiteral⟩

private theorem exMod_wf : exMod.wf := by
  simp [Module.wf, inspected, attrExprs, exMod]

example : exMod.wf ∧ run exMod = .accepted := ⟨exMod_wf, by decide +kernel⟩

/- FULL STATEMENT (false, see `C13_total_counterexample`): `∀ m, m.wf → ∀ k, run m ≠ .crashed k`. -/
/-- The three passes raise only in one of the three places that read `.type.which_type`
unguarded — and then `annotate_types` has reported errors before, every one of them at a
synthetic location (which glue.py itself calls a compiler bug; for user-written constructs the
errors are visible and the pipeline stops before the raising pass).  The first disjunct is never
the case: the model does not produce `Crash.attrSignedNotLiteral` (`attrLate_none`). -/
theorem C13_total_partial (m : Module) (wf : m.wf) (k : Crash) (h : run m = .crashed k) :
    k = .attrSignedNotLiteral ∨ (annotate m ≠ [] ∧ ∀ er ∈ annotate m, er.hidden = true) :=
  .inr (run_crashed_hidden wf h)

/-- For a user-written module (no synthetic location in its expressions and parameter
declarations) every error of `annotate_types` is visible, the pipeline stops there, and the
unguarded reads are never reached: the hypothesis `run m = .crashed k` cannot be met. -/
theorem C13_total_natural_partial (m : Module) (wf : m.wf) (hn : m.natural) (k : Crash)
    (h : run m = .crashed k) : k = .attrSignedNotLiteral :=
  absurd h (run_total_natural m wf hn k)

/-- Totality of the modelled passes on user-written input (`hl` holds of every module). -/
theorem C13_total_natural (m : Module) (wf : m.wf) (hn : m.natural) (hl : attrLate m.attrs = none)
    (k : Crash) : run m ≠ .crashed k :=
  run_total_natural m wf hn k

/-- non-vacuity: the example module is well-formed, user-written, has no `[is_signed]`; so is its
ill-typed variant (`if 5:`), which is rejected in pass 2 -/
example : exMod.wf ∧ exMod.natural ∧ attrLate exMod.attrs = none ∧
    run { exMod with conds := [(0, .num (L 5))], exprs := exMod.exprs ++ [(0, .num (L 5))] }
      = .rejected 2 [⟨L 5, 0, .posExist, []⟩] := by
  refine ⟨exMod_wf, ?_, by decide +kernel, by decide +kernel⟩
  unfold Module.natural
  decide +kernel

/-- `[is_signed: 1 == 1]` is accepted (pins the fix of the "Duplicate attribute" assertion); the
array-parameter read is reachable when the location is synthetic (model only: user-written
parameters never are). -/
theorem C13_total_counterexample :
    run { exMod with
      exprs := exMod.exprs ++ [(0, .bin (L 12) .eq (.num (L 13)) (.num (L 14)))],
      attrs := [⟨0, L 11, .boolConst, true, .expr (.bin (L 12) .eq (.num (L 13)) (.num (L 14))), none⟩] }
      = .accepted ∧
    run { exMod with params := [⟨0, ⟨1, true⟩, .array⟩] } = .crashed .paramTypeNone := by decide +kernel

/-- `$present(p)` of a runtime parameter is reported ("must be a field"; pins the fix of its
acceptance by the type checker, which raised in expression_bounds); of a field it is a boolean. -/
example :
    (tc 0 (.fn (L 1) .present [.lparam (L 2) .int])).errs = [⟨L 2, 0, .mustField 0, []⟩] ∧
    (tc 0 (.fn (L 1) .present [.lphys (L 2) .opaque])).errs = [] ∧
    (tc 0 (.fn (L 1) .present [.lphys (L 2) .opaque])).ty = .bool := by decide +kernel

/-- Pins the `fix:` commits that turned four raises into reports (pass 1, visible): `Foo.p` for a
parameter, an array parameter used in arithmetic, `(true < 1) == true`, `$next` in a `[requires]`. -/
example :
    (tc 0 (.cother (L 1))).errs = [⟨L 1, 0, .staticOther, []⟩] ∧
    (tc 0 (.bin (L 1) .add (.lparamArr (L 2)) (.num (L 3)))).errs = [⟨L 2, 0, .mustInt 0, []⟩] ∧
    (tc 0 (.bin (L 1) .eq (.bin (L 2) .lt (.boolc (L 3)) (.num (L 4))) (.boolc (L 5)))).errs
      = [⟨L 3, 0, .cmpArg 0, []⟩, ⟨L 2, 0, .cmpArg 0, []⟩] ∧
    (tc 0 (.bin (L 1) .eq (.builtin (L 2) .other) (.num (L 3)))).errs
      = [⟨L 2, 0, .builtinCtx, []⟩, ⟨L 2, 0, .cmpArg 0, []⟩] := by decide +kernel

/-- Whatever any of the three passes reports lies — location *and* file name — at one of the
module's own items: inside a top-level expression (through a reference: inside the referred
definition, under the file name of the module that holds it), at a parameter declaration, at
an inspected expression (start, size, array length, condition, enum value, passed argument), at
a parameterised type use, or at an attribute value. -/
theorem C13_module_errors_located (m : Module) (er : Err)
    (h : er ∈ annotate m ∨ er ∈ (checkTypes m).errs ∨ er ∈ (attrAll m.attrs).errs) : ErrAt m er := by
  rcases h with h | h | h
  · exact annotate_at m er h
  · exact (checkTypes_judges m).lies er h
  · exact (attrAll_judges m).lies er h

example : (checkTypes { exMod with conds := [(3, .num (L 5))] }).errs = [⟨L 5, 3, .posExist, []⟩] := by decide +kernel

/-- The pipeline model never reports a hidden (synthetic) error when a pass has visible ones:
what `run` reports for passes 1–3 is non-synthetic. -/
theorem C13_reported_errors_visible (m : Module) (p : Nat) (es : List Err) (hp : p ≠ 9)
    (h : run m = .rejected p es) : ∀ er ∈ es, er.hidden = false := by
  refine stage_rejected (stage_rejected (stage_rejected (stage_rejected fun h => ?_))) (run_stages m ▸ h)
  split at h
  · injection h with h1 _; exact absurd h1.symm hp
  · cases h

end Emboss.Types
