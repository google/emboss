/-
C12 — Names resolve to the one lexically visible definition, or the module is rejected.

Property theorems with their example data and tests; no helper lemmas (those: Emboss/Lemmas/Scope*.lean).
Model: Emboss/Model/Scope.lean (mirrors compiler/front_end/symbol_resolver.py and
ir_util.find_object).  Spec: Emboss/Spec/Scope.lean.  The last section (where `module_ir` puts
the types written inline): Emboss/Model/ScopeSyntax.lean, Emboss/Spec/ScopeSyntax.lean.
-/
import Emboss.Lemmas.Scope
import Emboss.Lemmas.ScopeMembers
import Emboss.Lemmas.ScopeSyntax
namespace Emboss.Scope

/-! ## The visible scopes -/

/-- The scopes searched for a reference — (the field's own scope for a field attribute,) the
enclosing types innermost first, the module, the anonymously imported files — are pairwise
distinct **iff** the anonymous imports are distinct files other than the module itself.
(The theorems about references below assume only this condition on the import list.) -/
theorem C12_visible_nodup (c : Ctx) : c.visible.Nodup ↔ c.WellFormed :=
  visible_nodup_iff c

/-! ## The search over the visible scopes -/

/-- A (user-written) name is bound to scope `s` without complaint iff `s` is the *only*
visible scope that offers it. -/
theorem C12_head_unique (T : Table) (cur : Path) (name : String) (vis : List Path)
    (hn : vis.Nodup) (s : Path) :
    searchLoop T cur name false vis none = (some s, []) ↔ UniqueCandidate T cur vis name s := by
  rw [searchLoop_none, ← hits_eq_singleton_iff_unique hn, ← List.head?_filter]
  cases vis.filter (isHit T cur name) <;> simp

/-- Nothing is found iff no visible scope offers the name. -/
theorem C12_head_missing (T : Table) (cur : Path) (name : String) (isLocal : Bool)
    (vis : List Path) :
    (searchLoop T cur name isLocal vis none).1 = none ↔ NoCandidate T cur vis name := by
  rw [searchLoop_none, List.find?_eq_none]
  simp only [isHit_iff, NoCandidate]

/-- An `Ambiguous name` error is recorded iff at least two visible scopes offer the name:
the reference is never resolved by precedence (inner scope, declaration order, …). -/
theorem C12_head_ambiguous (T : Table) (cur : Path) (name : String) (vis : List Path)
    (hn : vis.Nodup) :
    (searchLoop T cur name false vis none).2 ≠ [] ↔ TwoCandidates T cur vis name := by
  rw [searchLoop_none, ← hits_two_iff_twoCandidates hn]
  rcases vis.filter (isHit T cur name) with _ | ⟨a, _ | ⟨b, r⟩⟩ <;> simp

/-- The `is_local_name` exception (compiler-made reference from an inline field to its own,
possibly hoisted, type): the innermost offering scope, and never an ambiguity error. -/
theorem C12_head_local (T : Table) (cur : Path) (name : String) (vis : List Path) (s : Path) :
    (searchLoop T cur name true vis none = (some s, []) ↔ Innermost T cur vis name s) ∧
      (searchLoop T cur name true vis none).2 = [] := by
  rw [searchLoop_none, ← find_eq_some_iff_innermost]
  simp

/-! ## One reference -/

/-- **Main theorem.**  A reference is bound to `d` (no error recorded) iff `d` is what the
scoping rules designate: the head name is offered by exactly one visible scope (for
compiler-made `is_local_name` references: the innermost offering scope), and the dotted tail
walks the member tables from there.  `hw`: the anonymous imports are distinct files other than
the module (⇔ the visible scopes are pairwise distinct, `C12_visible_nodup`). -/
theorem C12_resolve_iff_unique (T : Table) (r : Ref) (hw : r.ctx.WellFormed) (d : Path) :
    resolveRef T true r = (some d, []) ↔ Resolves T r d := by
  have hn : r.ctx.visible.Nodup := (C12_visible_nodup r.ctx).2 hw
  have hs (n : String) (s : Path) :
      searchLoop T r.ctx.cur n r.isLocal r.ctx.visible none = (some s, []) ↔ HeadScope T r n s := by
    unfold HeadScope
    cases r.isLocal with
    | true => exact (C12_head_local ..).1
    | false => exact C12_head_unique _ _ _ _ hn s
  unfold Resolves
  cases hnames : r.names with
  | nil =>
    rw [resolveRef_no_names hnames]
    exact ⟨nofun, fun ⟨_, _, _, _, _, h, _⟩ => nomatch h⟩
  | cons nl rest =>
    obtain ⟨n, l⟩ := nl
    rw [resolveRef_nil_iff hnames, hnames]
    simp only [hs, walk_ok_iff, Option.some.injEq]
    constructor
    · intro ⟨s, e, h1, h2, h3⟩
      exact ⟨n, l, rest, s, e, rfl, h1, h2, h3.symm⟩
    · intro ⟨_, _, _, s, e, h0, h1, h2, h3⟩
      cases h0
      exact ⟨s, e, h1, h2, h3.symm⟩

/-- No visible scope offers the head name ⇒ `No candidate for …`, nothing bound. -/
theorem C12_resolve_missing (T : Table) (clean : Bool) (r : Ref) (n : String) (l : Nat)
    (rest : List (String × Nat)) (hnames : r.names = (n, l) :: rest)
    (h : NoCandidate T r.ctx.cur r.ctx.visible n) :
    resolveRef T clean r = (none, [Err.missing n l]) := by
  have := (C12_head_missing T r.ctx.cur n r.isLocal r.ctx.visible).2 h
  unfold resolveRef
  rw [hnames]
  simp only [this]

/-- Two visible scopes offer the head name of a user-written reference ⇒ nothing is bound and
an `Ambiguous name` error is recorded — whatever the order of the scopes. -/
theorem C12_resolve_ambiguous (T : Table) (clean : Bool) (r : Ref) (n : String) (l : Nat)
    (rest : List (String × Nat)) (hnames : r.names = (n, l) :: rest) (hloc : r.isLocal = false)
    (hw : r.ctx.WellFormed) (h : TwoCandidates T r.ctx.cur r.ctx.visible n) :
    ∃ a b es, resolveRef T clean r = (none, Err.ambiguous n r.loc a b :: es) := by
  have hn : r.ctx.visible.Nodup := (C12_visible_nodup r.ctx).2 hw
  obtain ⟨a, b, more, hf⟩ := (hits_two_iff_twoCandidates hn).2 h
  unfold resolveRef
  rw [hnames]
  simp only [hloc, searchLoop_none, ← List.head?_filter, hf, List.head?_cons, List.tail_cons,
    Bool.false_eq_true, if_false, List.map_cons, List.isEmpty_cons, Bool.and_false]
  exact ⟨_, _, _, rfl⟩

/-! ## A whole pass -/

/-- If a pass over the references of a module records no error, then **every** reference was
bound, and bound to exactly what the scoping rules designate (accepted ⇒ all resolved).
`hne`: references have at least one name component (the parser never builds an empty one);
`hnd`: anonymous imports distinct and other than the module (`C12_visible_nodup`). -/
theorem C12_accepted_all_resolved (T : Table) (refs : List Ref) (os : List (Option Path))
    (hne : ∀ r ∈ refs, r.names ≠ []) (hnd : ∀ r ∈ refs, r.ctx.WellFormed)
    (h : resolveRefs T refs [] = (os, [])) : AllResolved T refs os := by
  rw [resolveRefs_eq_pass] at h
  induction refs generalizing os with
  | nil => cases h; exact AllResolved.nil
  | cons r rs ih =>
    obtain ⟨o, os', rfl, h1, h2⟩ := (pass_cons_ok_iff ..).1 h
    obtain ⟨d, rfl⟩ := resolveRef_clean_ok T r (hne r List.mem_cons_self) o h1
    exact .cons ((C12_resolve_iff_unique T r (hnd r List.mem_cons_self) d).1 h1)
      (ih os' (fun r hr => hne r (List.mem_cons_of_mem _ hr))
        (fun r hr => hnd r (List.mem_cons_of_mem _ hr)) h2)

/-- The converse: if every reference of a pass is resolvable per the scoping rules (each to the
`d` listed in `os`), the pass records no error and binds exactly those — a module is never
rejected by the reference passes without a reason. -/
theorem C12_all_resolved_accepted (T : Table) (refs : List Ref) (os : List (Option Path))
    (hnd : ∀ r ∈ refs, r.ctx.WellFormed) (h : AllResolved T refs os) :
    resolveRefs T refs [] = (os, []) := by
  rw [resolveRefs_eq_pass]
  induction h with
  | nil => rfl
  | @cons r rs d os hres _ ih =>
    exact (pass_cons_ok_iff ..).2 ⟨_, _, rfl,
      (C12_resolve_iff_unique T r (hnd r List.mem_cons_self) d).2 hres,
      ih fun r hr => hnd r (List.mem_cons_of_mem _ hr)⟩

/-- Accepted ⇔ all resolved, with the bindings the rules designate. -/
theorem C12_accepted_iff_all_resolved (T : Table) (refs : List Ref) (os : List (Option Path))
    (hne : ∀ r ∈ refs, r.names ≠ []) (hnd : ∀ r ∈ refs, r.ctx.WellFormed) :
    resolveRefs T refs [] = (os, []) ↔ AllResolved T refs os :=
  ⟨C12_accepted_all_resolved T refs os hne hnd, C12_all_resolved_accepted T refs os hnd⟩

/-! ## `resolve_symbols` as a whole -/

/-- **End to end.**  `resolve_symbols` (table construction, imports, the pass over the plain
references, the pass over the heads of the field references — sharing one error list) accepts a
module set and binds the references to `ra` / the heads to `rb` (none of them to a whole module:
an import alias is no field) **iff** no scope is given a name twice (`fullTable` reports no
error) and every reference — those in module-level attributes included, whose current scope is
the module — is resolvable per the scoping rules, to exactly these definitions.  So an accepted
module has every name bound to the one lexically visible definition, and a module is rejected
only if a name is defined twice, undefined, or visible from two scopes. -/
theorem C12_resolve_symbols_iff (M : ModuleDesc) (refs : List Ref) (frefs : List FRef)
    (ra rb : List Path)
    (hne : ∀ r ∈ refs, r.names ≠ []) (hne' : ∀ f ∈ frefs, f.path ≠ [])
    (hnd : ∀ r ∈ refs, r.ctx.WellFormed) (hnd' : ∀ f ∈ frefs, f.ctx.WellFormed) :
    (match resolveSymbols M refs frefs with
      | .resolved a b => a = ra ∧ b = rb
      | _ => False) ↔
      ((fullTable M).2 = [] ∧
       AllResolved (fullTable M).1 refs (ra.map some) ∧
       AllResolved (fullTable M).1 (frefs.map headRef) (rb.map some) ∧
       ∀ d ∈ rb, d.length ≠ 1) := by
  have hneH : ∀ r ∈ frefs.map headRef, r.names ≠ [] := List.forall_mem_map.2 fun f hf => by
    unfold headRef
    cases hp : f.path with
    | nil => exact absurd hp (hne' f hf)
    | cons p ps => simp
  have hndH : ∀ r ∈ frefs.map headRef, r.ctx.WellFormed := List.forall_mem_map.2 fun f hf => by
    unfold headRef
    cases f.path <;> exact hnd' f hf
  have hm : (match resolveSymbols M refs frefs with
      | .resolved a b => a = ra ∧ b = rb
      | _ => False) ↔ resolveSymbols M refs frefs = .resolved ra rb := by
    cases resolveSymbols M refs frefs <;> simp
  rw [hm, resolveSymbols_resolved_iff, resolveHeads_nil_iff,
    C12_accepted_iff_all_resolved _ _ _ hne hnd, C12_accepted_iff_all_resolved _ _ _ hneH hndH]
  simp only [List.mem_map, Option.some.injEq, exists_eq_right]

/-! ## Duplicate definitions -/

/-- `_construct_symbol_tables` accepts a module set iff no scope is given the same name twice
(type names, enum values, fields, abbreviations, parameters, `this`); in particular two
definitions of one name in one scope always reject the module. -/
theorem C12_duplicates_rejected (M : ModuleDesc) :
    (construct M).2 = [] ↔ ((stage1 M ++ stage2 M).map Decl.key).Nodup :=
  construct_ok_iff M

/-- … stated for two concrete definitions. -/
theorem C12_duplicates_rejected_pair (M : ModuleDesc) (i j : Nat) (hij : i < j)
    (hj : j < (stage1 M ++ stage2 M).length)
    (hk : ((stage1 M ++ stage2 M)[i]'(Nat.lt_trans hij hj)).key = ((stage1 M ++ stage2 M)[j]'hj).key) :
    (construct M).2 ≠ [] := by
  intro h
  have hnd := (construct_ok_iff M).1 h
  rw [List.nodup_iff_pairwise_ne, List.pairwise_iff_getElem] at hnd
  have := hnd i j (List.length_map Decl.key ▸ Nat.lt_trans hij hj) (List.length_map Decl.key ▸ hj) hij
  rw [List.getElem_map, List.getElem_map] at this
  exact this hk

/-! ## Canonical names -/

/-- In an accepted module set the canonical names of all definitions (modules, types, enum
values, fields, parameters) are pairwise distinct, and `find_object` applied to the
canonical name of a definition returns that definition. -/
theorem C12_canonical_roundtrip (M : ModuleDesc) (h : (construct M).2 = []) :
    ((objects M).map (·.canon)).Nodup ∧
      ∀ o ∈ objects M, findObject (objects M) o.canon = some o := by
  have hnd : ((objects M).map (·.canon)).Nodup :=
    ((construct_ok_iff M).1 h).sublist (objects_canon_sublist M)
  exact ⟨hnd, fun o ho => findObject_of_nodup _ hnd o ho⟩

/-! ## Abbreviations (and every other non-searchable name) -/

/-- A LOCAL or PRIVATE entry — a field, an abbreviation, `this`, a parameter, an enum value —
is found by the scope search only from the very scope it is defined in: whatever the search
returns as first hit or as ambiguity candidate, if the entry there is not SEARCHABLE then that
scope is the scope the reference was written in.  In particular an abbreviation is never the
head target of a reference from outside its structure. -/
theorem C12_abbreviation_private (T : Table) (cur : Path) (name : String) (isLocal : Bool)
    (vis : List Path) (f : Option Path) (more : List Path)
    (h : searchLoop T cur name isLocal vis none = (f, more)) (s : Path)
    (hs : f = some s ∨ s ∈ more) (e : Entry) (he : lookup T (s ++ [name]) = some e)
    (hv : e.vis ≠ Vis.search) : s = cur := by
  have hit := searchLoop_hits h hs
  unfold isHit at hit
  rw [he] at hit
  simp only [Bool.or_eq_true, decide_eq_true_eq] at hit
  exact hit.resolve_right hv

/-! ## Member lookup -/

/-- **The alias-following loop terminates by itself** (`visited_fields`, commit 22b80e8 of /repo:
the loop keeps the list of fields it has passed).  `fuel` — the answer of the model when the
iteration budget of `while ir_util.field_is_virtual(previous_field)` is used up — is *never* the
answer for any field reference of any module, whatever the nesting budget: the budget the model
gives the loop (one iteration per definition of the module, and one more) always suffices,
because the visited fields are pairwise distinct definitions. -/
theorem C12_member_lookup_total (E : FEnv) (depth i : Nat) : resolveFRef E depth i ≠ .fuel :=
  resolveFRef_ne_fuel E depth i

/-- The same for the loop alone, started (nothing visited yet) at any definition of the
module, with whatever the nested calls answer — as long as those do not answer `fuel`. -/
theorem C12_member_lookup_total_loop (E : FEnv) (res : Nat → FRes) (hres : ∀ i, res i ≠ .fuel)
    (o : Obj) (ho : o ∈ E.objs) (prev : PathElem) : physical E res o prev ≠ .inl .fuel :=
  physLoop_ne_fuel E.objs res hres _ o prev [] LoopInv.init ho

/-- **Member lookup, full statement.**  Whenever `_resolve_field_reference` comes to an answer
for the `i`-th field reference (`hF`: the nesting budget given was enough — `recursion` is a
distinct output of the model, the Python raises RecursionError, and the harness reports it), it
binds the path to `cs` **iff** the member rules of the spec derive `cs`: the head as bound by
the scope search, every further element looked up in the type of the physical field behind the
previous element, renaming virtual fields (`let a = x.y`) followed — through pairwise distinct
fields — to what they rename, and in nothing else. -/
theorem C12_member_lookup (E : FEnv) (F i : Nat) (hF : resolveFRef E F i ≠ .recursion)
    (cs : List Path) : resolveFRef E F i = .ok cs ↔ PathBound E i cs :=
  resolveFRef_eq_iff hF member_complete

/-- The answer does not depend on the nesting budget once it is not `recursion`. -/
theorem C12_member_lookup_depth (E : FEnv) (F F' i : Nat) (hle : F ≤ F')
    (hF : resolveFRef E F i ≠ .recursion) : resolveFRef E F' i = resolveFRef E F i :=
  resolveFRef_mono E F F' i hle hF

/-- **Member lookup, the rejections.**  Under the same proviso, the path is rejected with
error `e` **iff** the spec's failure rules derive `e`: the renamings from the definition reached
end in something that is not a field, in a virtual field that is not a plain renaming, or in a
renaming field already passed (`noncomposite`, located at the element naming it), the physical
field behind it is an array (`arrayMember`), or its type has no member of that name (`missing`,
located at the member name).  Together with `C12_member_lookup`: a field path is bound exactly
when it is right and rejected exactly when it is wrong in one of these ways; the only other
answers are the silent `bail` (the renamed reference is itself rejected — its own error is
reported where it stands), `crash` (internal inconsistency, never observed) and `recursion`. -/
theorem C12_member_lookup_rejects (E : FEnv) (F i : Nat) (hF : resolveFRef E F i ≠ .recursion)
    (e : Err) : resolveFRef E F i = .err e ↔ PathRejected E i e :=
  resolveFRef_eq_iff hF member_fail_complete

/-- The only errors the member loop reports are `Cannot access member of array`,
`Cannot access member of noncomposite field` and `No candidate for`. -/
theorem C12_member_lookup_errors (E : FEnv) (F i : Nat) (e : Err)
    (h : resolveFRef E F i = .err e) :
    (∃ n l, e = .arrayMember n l) ∨ (∃ n l, e = .noncomposite n l) ∨ (∃ n l, e = .missing n l) :=
  member_err_kinds E F i e h

/-- Corollary: every bound path element is named `… ++ [its own name]` and
is an existing definition. -/
theorem C12_member_lookup_names (E : FEnv) (depth : Nat) (o : Obj) (prev : PathElem)
    (rs : List PathElem) (acc cs : List Path)
    (h : members E (resolveFRef E depth) o prev rs acc = .ok cs) :
    ∃ ms, cs = acc ++ ms ∧ MembersBound E.objs rs ms := by
  have hs := members_sound E _ (resolveFRef_sound E depth) rs o prev acc
  rw [h] at hs
  obtain ⟨ms, hcs, hm⟩ := hs
  refine ⟨ms, hcs, ?_⟩
  clear hcs h
  generalize hj : MemberJudgement.mem o rs ms = j at hm
  induction hm generalizing o rs ms with
  | memNil => cases hj; exact MembersBound.nil
  | memCons _ _ _ _ hf _ _ ih2 =>
    cases hj
    exact MembersBound.cons (by simp) (by simp [hf]) (ih2 _ _ _ rfl)
  | _ => cases hj

/-! ## Non-vacuity, tests and counterexamples (concrete instances, by evaluation) -/

/-- `struct Bar` at module level and `struct Bar` nested in `Foo`, a field `x` of type `Foo.Bar`
with abbreviation `a`; `UInt` from the prelude. -/
def exM : ModuleDesc :=
  { modules := ["m.emb", ""],
    types := [⟨["m.emb"], "Bar", 1⟩, ⟨["m.emb"], "Foo", 2⟩, ⟨["m.emb", "Foo"], "Bar", 3⟩,
              ⟨["m.emb", "Foo"], "Qux", 4⟩, ⟨[""], "UInt", 5⟩],
    values := [],
    fields := [⟨["m.emb", "Foo"], "long_name", 6, some ("ln", 7), 8, .atomic 0⟩,
               ⟨["m.emb", "Bar"], "y", 9, none, 10, .atomic 1⟩],
    params := [],
    imports := [⟨"m.emb", "", "", 0⟩] }

def exT : Table := (fullTable exM).1
def ctxFoo : Ctx := { module := "m.emb", types := ["Foo"], attrField := none, anon := [""] }
def ctxBar : Ctx := { module := "m.emb", types := ["Bar"], attrField := none, anon := [""] }

/-- Non-vacuity of `C12_duplicates_rejected` / `C12_canonical_roundtrip`: `exM` is accepted. -/
example : (construct exM).2 = [] ∧ (fullTable exM).2 = [] := by decide +kernel

/-- Non-vacuity of `C12_resolve_iff_unique`: the visible scopes are distinct, `Qux` (only in
`Foo`) and `UInt` (only in the prelude) resolve, inside `Foo`. -/
example :
    ctxFoo.visible.Nodup ∧
    resolveRef exT true ⟨ctxFoo, [("Qux", 20)], 20, false⟩ = (some ["m.emb", "Foo", "Qux"], []) ∧
    resolveRef exT true ⟨ctxFoo, [("UInt", 21)], 21, false⟩ = (some ["", "UInt"], []) ∧
    resolveRef exT true ⟨ctxBar, [("Foo", 22), ("Qux", 23)], 22, false⟩ =
      (some ["m.emb", "Foo", "Qux"], []) := by decide +kernel

/-- Non-vacuity of `C12_resolve_ambiguous` (and a test that there is no precedence): inside
`Foo`, `Bar` is offered by `Foo` and by the module ⇒ ambiguity error, nothing bound; the same
reference marked `is_local_name` binds innermost (`C12_head_local`). -/
example :
    resolveRef exT true ⟨ctxFoo, [("Bar", 20)], 20, false⟩ = (none, [Err.ambiguous "Bar" 20 3 1]) ∧
    resolveRef exT true ⟨ctxFoo, [("Bar", 20)], 20, true⟩ = (some ["m.emb", "Foo", "Bar"], []) ∧
    resolveRef exT true ⟨ctxFoo, [("Nope", 20)], 20, false⟩ = (none, [Err.missing "Nope" 20]) := by
  decide +kernel

/-- Non-vacuity of `C12_visible_nodup` and of the hypothesis `WellFormed` used above: the
contexts of `exM` satisfy it.  The prelude's *own* context does not (the prelude imports itself
anonymously): there the same scope is searched twice and a name defined once is reported as
ambiguous with itself — which is why the condition cannot be dropped (the real prelude contains
no reference that needs resolving; the harness counts such contexts). -/
example :
    ctxFoo.WellFormed ∧ ctxBar.WellFormed ∧
    ¬ ({ module := "", types := ["UInt"], attrField := none, anon := [""] } : Ctx).WellFormed ∧
    resolveRef exT true ⟨{ module := "", types := ["UInt"], attrField := none, anon := [""] },
      [("UInt", 20)], 20, false⟩ = (none, [Err.ambiguous "UInt" 20 5 5]) := by
  unfold Ctx.WellFormed
  decide +kernel

/-- Non-vacuity of `C12_accepted_iff_all_resolved`: a pass over three references of `exM` that
records no error. -/
example :
    resolveRefs exT [⟨ctxFoo, [("Qux", 20)], 20, false⟩, ⟨ctxFoo, [("UInt", 21)], 21, false⟩,
                     ⟨ctxBar, [("Foo", 22), ("Qux", 23)], 22, false⟩] [] =
      ([some ["m.emb", "Foo", "Qux"], some ["", "UInt"], some ["m.emb", "Foo", "Qux"]], []) := by
  decide +kernel

/-- Non-vacuity of `C12_resolve_symbols_iff`: `exM` with the type references of its two fields
and one field reference (`ln`, the abbreviation, inside `Foo`) is accepted as a whole. -/
example :
    (match resolveSymbols exM [⟨ctxFoo, [("UInt", 21)], 21, false⟩, ⟨ctxBar, [("Foo", 22), ("Qux", 23)], 22, false⟩]
        [⟨ctxFoo, [⟨"ln", 30, 31⟩]⟩] with
      | .resolved a b => decide (a = [["", "UInt"], ["m.emb", "Foo", "Qux"]] ∧ b = [["m.emb", "Foo", "long_name"]])
      | _ => false) = true := by decide +kernel

/-- `struct Foo: x`, `struct Bar: Foo f; let g = f; … g.x …, … g.y …, … x.z …` -/
def exE : FEnv :=
  { objs := [⟨["m.emb", "Foo", "x"], .field (.atomic 0)⟩, ⟨["m.emb", "Bar", "f"], .field (.atomic 1)⟩,
             ⟨["m.emb", "Bar", "g"], .field (.virtAlias 0)⟩, ⟨["m.emb", "Bar", "h"], .field .virtOther⟩],
    typeCanon := fun i => if i = 0 then some ["", "UInt"] else some ["m.emb", "Foo"],
    headCanon := fun i => if i = 0 then some ["m.emb", "Bar", "f"] else if i = 3 then some ["m.emb", "Bar", "h"]
                          else some ["m.emb", "Bar", "g"],
    frefs := fun i =>
      if i = 0 then some ⟨ctxBar, [⟨"f", 1, 2⟩]⟩
      else if i = 1 then some ⟨ctxBar, [⟨"g", 3, 4⟩, ⟨"x", 5, 6⟩]⟩
      else if i = 2 then some ⟨ctxBar, [⟨"g", 7, 8⟩, ⟨"y", 9, 10⟩]⟩
      else some ⟨ctxBar, [⟨"h", 11, 12⟩, ⟨"x", 13, 14⟩]⟩ }

/-- Non-vacuity of `C12_member_lookup` (+ `_rejects`, `_depth`, `_errors`, `_total`): `g.x` through the renaming field
`g` is bound to `Foo.x` (enough nesting budget; with too little the answer is the distinct `recursion`);
`g.y` is `No candidate for 'y'`, `h.x` (`h` an arithmetic virtual field) is noncomposite. -/
example :
    (match resolveFRef exE 10 1 with
      | .ok [["m.emb", "Bar", "g"], ["m.emb", "Foo", "x"]] => true | _ => false) = true ∧
    (match resolveFRef exE 1 1 with | .recursion => true | _ => false) = true ∧
    (match resolveFRef exE 10 2 with | .err (.missing "y" 9) => true | _ => false) = true ∧
    (match resolveFRef exE 10 3 with | .err (.noncomposite "h" 12) => true | _ => false) = true := by
  decide +kernel

/-- Non-vacuity of `C12_abbreviation_private`: inside `Foo` the abbreviation `ln` is bound to
the field; from `Bar` it is not a candidate. -/
example :
    resolveRef exT true ⟨ctxFoo, [("ln", 20)], 20, false⟩ = (some ["m.emb", "Foo", "long_name"], []) ∧
    resolveRef exT true ⟨ctxBar, [("ln", 20)], 20, false⟩ = (none, [Err.missing "ln" 20]) := by
  decide +kernel

/-- Non-vacuity of `C12_duplicates_rejected_pair`: a second `Bar` at module level is rejected. -/
example : (construct { exM with types := exM.types ++ [⟨["m.emb"], "Bar", 30⟩] }).2 =
    [Err.duplicate "Bar" 30 1] := by decide +kernel

/-- The dotted tail does **not** consult visibility: the (grammatically possible) static
reference `Foo.ln`, written in `Bar`, is bound through the PRIVATE abbreviation entry of
`Foo`.  `symbol_resolver` therefore does not by itself keep abbreviations invisible outside
their structure; such a reference is a static reference to a physical field and is rejected
by a later pass (`Static references to physical fields are not allowed`), which the harness
checks on the real code for every such case it generates. -/
theorem C12_abbreviation_tail_counterexample :
    resolveRef exT true ⟨ctxBar, [("Foo", 20), ("ln", 21)], 20, false⟩ =
      (some ["m.emb", "Foo", "long_name"], []) ∧
    (lookup exT ["m.emb", "Foo", "ln"]).map (·.vis) = some Vis.priv := by decide +kernel

/-- Test (the `isinstance(previous_field, ir_data.Field)` checks, commit 8da3027 of /repo): `p.x`
where `p` is a runtime parameter is answered with `Cannot access member of noncomposite field 'p'`
located at the reference `p`; the same through a virtual alias `let q = p` … `q.x` (error names
`q`). -/
example :
    let objs : List Obj := [⟨["m.emb", "Foo", "p"], .param⟩, ⟨["m.emb", "Foo", "q"], .field (.virtAlias 1)⟩]
    let E : FEnv := { objs := objs, typeCanon := fun _ => none,
                      headCanon := fun i => if i = 2 then some ["m.emb", "Foo", "q"] else some ["m.emb", "Foo", "p"],
                      frefs := fun i =>
                        if i = 0 then some ⟨ctxFoo, [⟨"p", 1, 2⟩, ⟨"x", 3, 4⟩]⟩
                        else if i = 1 then some ⟨ctxFoo, [⟨"p", 5, 6⟩]⟩
                        else some ⟨ctxFoo, [⟨"q", 7, 8⟩, ⟨"x", 9, 10⟩]⟩ }
    (match resolveFRef E 10 0 with | .err (.noncomposite "p" 2) => true | _ => false) = true ∧
    (match resolveFRef E 10 2 with | .err (.noncomposite "q" 8) => true | _ => false) = true := by
  decide +kernel

/-! ### A renaming that leads back to itself -/

def objF : Obj := ⟨["m.emb", "Foo", "f"], .field (.atomic 0)⟩
def objG : Obj := ⟨["m.emb", "Foo", "g"], .field (.virtAlias 0)⟩

/-- `struct Foo:  0 [+1] Foo f;  let g = f.g;  let h = g.x` — field reference 0 is `f.g`,
field reference 1 is `g.x`. -/
def exH : FEnv :=
  { objs := [objF, objG, ⟨["m.emb", "Foo", "h"], .field (.virtAlias 1)⟩],
    typeCanon := fun _ => some ["m.emb", "Foo"],
    headCanon := fun i => if i = 0 then some ["m.emb", "Foo", "f"] else some ["m.emb", "Foo", "g"],
    frefs := fun i => if i = 0 then some ⟨ctxFoo, [⟨"f", 1, 2⟩, ⟨"g", 3, 4⟩]⟩
                      else some ⟨ctxFoo, [⟨"g", 5, 6⟩, ⟨"x", 7, 8⟩]⟩ }

/-- **The self-renaming field is rejected** (the visited list, commit 22b80e8 of /repo).  In
`struct Foo: 0 [+1] Foo f; let g = f.g; let h = g.x` the
renaming field `g` renames … itself.  For `g.x` the model answers — with every nesting
budget from 3 on — `Cannot access member of noncomposite field 'g'` located at `g`, which is
what the spec's rule `physCycle` derives, and the spec binds the path to nothing.  (Also the
non-vacuity example for `C12_member_lookup_total`.) -/
theorem C12_self_renaming_rejected :
    (∀ F, 3 ≤ F → resolveFRef exH F 1 = .err (.noncomposite "g" 6)) ∧
    PathRejected exH 1 (.noncomposite "g" 6) ∧ (∀ cs, ¬ PathBound exH 1 cs) := by
  have h3 : resolveFRef exH 3 1 = .err (.noncomposite "g" 6) := by decide +kernel
  have hne : resolveFRef exH 3 1 ≠ .recursion := by rw [h3]; nofun
  refine ⟨fun F hF => by rw [resolveFRef_mono exH 3 F 1 hF hne, h3],
    (C12_member_lookup_rejects exH 3 1 hne _).1 h3, fun cs h => ?_⟩
  have := (C12_member_lookup exH 3 1 hne cs).2 h
  rw [h3] at this
  cases this

/-! ### A renaming whose own reference passes through itself (open finding
`crash:symbol_resolver.py:_resolve_field_reference:RecursionError`) -/

/-- `struct Foo:  0 [+1] Foo f;  let g = f.g.x` — the only field reference is `f.g.x`. -/
def exR : FEnv :=
  { objs := [objF, objG],
    typeCanon := fun _ => some ["m.emb", "Foo"],
    headCanon := fun _ => some ["m.emb", "Foo", "f"],
    frefs := fun _ => some ⟨ctxFoo, [⟨"f", 1, 2⟩, ⟨"g", 3, 4⟩, ⟨"x", 5, 6⟩]⟩ }

/-- **Counterexample (the model mirrors the unbounded recursion of the real code).**  In
`struct Foo: 0 [+1] Foo f; let g = f.g.x` the reference `f.g.x` needs the members of `g`, `g`
renames the last element of … `f.g.x`, the very reference being resolved:
`_resolve_field_reference` calls itself for it (the "already done" test only looks at the last
element, which is bound last) and so on without end — the visited list of commit 22b80e8 is local
to one call and does not see this.  *No* nesting budget makes the model answer (the real code:
RecursionError, replayed by the harness: findings.d/C12.json).  The spec neither binds nor
rejects the path (its rules are inductive: no finite derivation), so `C12_member_lookup` /
`C12_member_lookup_rejects` say nothing here — their hypothesis `hF` is exactly what fails. -/
theorem C12_self_recursion_counterexample :
    (∀ F i, resolveFRef exR F i = .recursion) ∧
    (∀ cs, ¬ PathBound exR 0 cs) ∧ (∀ e, ¬ PathRejected exR 0 e) := by
  have hall : ∀ F i, resolveFRef exR F i = .recursion := by
    intro F
    induction F with
    | zero => intro i; rfl
    | succ d ih =>
      intro i
      have hres : resolveFRef exR d = fun _ => FRes.recursion := funext ih
      have : resolveFRef exR (d + 1) i =
          members exR (resolveFRef exR d) objF ⟨"f", 1, 2⟩ [⟨"g", 3, 4⟩, ⟨"x", 5, 6⟩]
            [["m.emb", "Foo", "f"]] := rfl
      rw [this, hres]
      decide +kernel
  refine ⟨hall, ?_, ?_⟩
  · intro cs h
    obtain ⟨f, hf⟩ := member_complete h
    cases (hall f 0).symm.trans (hf f (Nat.le_refl _))
  · intro e h
    obtain ⟨f, hf⟩ := member_fail_complete h
    cases (hall f 0).symm.trans (hf f (Nat.le_refl _))

/-! ## Where `module_ir` puts the types written inline (input of everything above) -/

/-- **Placing of inline and anonymous types.**  For every list of type definitions as written
(any nesting of definitions, inline `struct`/`bits`/`enum` fields and anonymous `bits:`), the
IR `module_ir` builds — read the way the resolver reads it: every type under the scope made of
the names of the types it is nested in, every field under the name of its type — is the closed
form of the spec: a type written as a definition lives where it is written and opens a scope; a
type written inline lives in the scope its field is written in and opens none, so that
everything written inside it lives in the nearest enclosing type *written as a definition*;
fields live in the type they are written in, inline or not.  Order included (it is the order
`_construct_symbol_tables` meets the names in, which decides which of two duplicates is "the
original"). -/
theorem C12_inline_placing (types : List Syn) (host : Path) :
    flatTypes host (buildModule types) = placedTypesAll host types ∧
    flatFields host (buildModule types) = placedFieldsAll host types :=
  ⟨buildAll_types types host, buildAll_fields types host⟩

/-- Corollary: the scope of every type of the IR consists of names of types *written as
definitions* only — an inline or anonymous type never is the scope of another type (so a
compiler-made name like `EmbossReservedAnonymousField3` never is part of the canonical name of a
type). -/
theorem C12_inline_scopes_explicit (types : List Syn) (host : Path) :
    ∀ x ∈ flatTypes host (buildModule types),
      ∃ es, x.1 = host ++ es ∧ ∀ e ∈ es, e ∈ explicitNamesAll types := by
  rw [(C12_inline_placing types host).1]
  exact placedTypesAll_under types host

/-- **Agreement with the language reference, partial.**  The reference describes an inline type
as *equivalent to* the same type written as a definition in the body of the structure
(`docTypesAll`).  Full statement: `flatTypes host (buildModule types) = docTypesAll host types`
for all `types` — **false** (`C12_inline_nesting_counterexample`).  Proved: it holds when no
inline type contains a type of its own (`ShallowAll`: inline and anonymous types have only plain
fields; definitions may nest at will). -/
theorem C12_inline_doc_partial (types : List Syn) (host : Path) (h : ShallowAll types) :
    flatTypes host (buildModule types) = docTypesAll host types := by
  rw [(C12_inline_placing types host).1]
  exact shallowAll_doc types host h

/-- **The anonymous `bits:` of a file get consecutive numbers**, starting after the value the
counter has, in the order `transform_parse_tree` reaches them (children from the last to the
first, then the construct): in particular they are pairwise distinct, and so are the numbers of
different files parsed one after the other (the counter is never reset). -/
theorem C12_anonymous_numbers (types : List Syn) (c : Nat) :
    anonNumsAll (numberAll types c).1 = List.range' (c + 1) ((numberAll types c).2 - c) ∧
    c ≤ (numberAll types c).2 ∧ (anonNumsAll (numberAll types c).1).Nodup := by
  obtain ⟨k, h2, h1⟩ := numberAll_count types c
  rw [h1, h2, Nat.add_sub_cancel_left]
  exact ⟨rfl, Nat.le_add_right c k, List.nodup_range'⟩

/-- `struct Msg:` with an inline `struct  aa:` that contains an inline `enum  kind:` -/
def exNested : List Syn :=
  [.node .typeDef "Msg" 0 []
    [.node .inline "aa" 0 [] [.node .inline "kind" 0 [] [.node .plain "ON" 0 [] []]],
     .node .plain "zz" 0 [] []]]

/-- **Counterexample to the equivalence the language reference states.**  In
`struct Msg:  0 [+1]  struct  aa:  0 [+1]  enum  kind:  ON = 1` the rewriting of the reference
(inline type = definition in the body of the structure its field is in) puts `Kind` into `Aa`:
`Msg.Aa.Kind`.  `module_ir` puts it into `Msg` (`Msg.Kind`), next to `Aa` — which is why two
inline structures of one structure cannot both have an inline type of the same name (replayed
on the real code by the harness, corpus entry "same inline type name in two inline structs").
The resolver then works on what `module_ir` built; C12's reference theorems are about that. -/
theorem C12_inline_nesting_counterexample :
    flatTypes ["m.emb"] (buildModule exNested) =
      [(["m.emb"], "Msg"), (["m.emb", "Msg"], "Aa"), (["m.emb", "Msg"], "Kind")] ∧
    docTypesAll ["m.emb"] exNested =
      [(["m.emb"], "Msg"), (["m.emb", "Msg"], "Aa"), (["m.emb", "Msg", "Aa"], "Kind")] ∧
    ¬ ShallowAll exNested := by
  refine ⟨by decide +kernel, by decide +kernel, ?_⟩
  simp [exNested, ShallowAll, Shallow, PlainAll]

/-- `struct Foo:` anonymous bits (`a`); `struct  inl:` containing `struct Ex:` (anonymous bits
`q`), anonymous bits with inline `enum  en:`, field `e`; anonymous bits (`c`).  `struct Bar:`
anonymous bits (`d`). -/
def exSyn : List Syn :=
  [.node .typeDef "Foo" 0 []
    [.node .anon "" 0 [] [.node .plain "a" 0 [] []],
     .node .inline "inl" 0
       [.node .typeDef "Ex" 0 [] [.node .anon "" 0 [] [.node .plain "q" 0 [] []]]]
       [.node .anon "" 0 [] [.node .inline "en" 0 [] [.node .plain "AA" 0 [] []]],
        .node .plain "e" 0 [] []],
     .node .anon "" 0 [] [.node .plain "c" 0 [] []]],
   .node .typeDef "Bar" 0 [] [.node .anon "" 0 [] [.node .plain "d" 0 [] []]]]

/-- Non-vacuity of `C12_inline_placing`, `C12_inline_scopes_explicit`, `C12_anonymous_numbers`
(and a test against what the real `module_ir` was observed to build for this text with the
counter at 0): the last anonymous bits gets number 1, the first one 5; `Inl`, `Ex`, the
anonymous type 3 and `En` all are direct subtypes of `Foo`; the anonymous type 4 is a subtype of
`Ex`. -/
example :
    (numberAll exSyn 0).2 = 5 ∧
    flatTypes ["m.emb"] (buildModule (numberAll exSyn 0).1) =
      [(["m.emb"], "Foo"), (["m.emb", "Foo"], "EmbossReservedAnonymousField5"),
       (["m.emb", "Foo"], "Inl"), (["m.emb", "Foo"], "Ex"),
       (["m.emb", "Foo", "Ex"], "EmbossReservedAnonymousField4"),
       (["m.emb", "Foo"], "EmbossReservedAnonymousField3"), (["m.emb", "Foo"], "En"),
       (["m.emb", "Foo"], "EmbossReservedAnonymousField2"),
       (["m.emb"], "Bar"), (["m.emb", "Bar"], "EmbossReservedAnonymousField1")] ∧
    (flatFields ["m.emb"] (buildModule (numberAll exSyn 0).1)).take 4 =
      [(["m.emb", "Foo"], "emboss_reserved_anonymous_field_5"), (["m.emb", "Foo"], "inl"),
       (["m.emb", "Foo"], "emboss_reserved_anonymous_field_2"),
       (["m.emb", "Foo", "EmbossReservedAnonymousField5"], "a")] := by
  -- The names first: the prefix literal is turned into its character list (`String.toList_ofList`)
  -- and the five anonymous names are evaluated on characters.
  have hp : "emboss_reserved_anonymous_field_".toList = _ := String.toList_ofList
  have hc : camel (anonName 1) = "EmbossReservedAnonymousField1" ∧
      camel (anonName 2) = "EmbossReservedAnonymousField2" ∧
      camel (anonName 3) = "EmbossReservedAnonymousField3" ∧
      camel (anonName 4) = "EmbossReservedAnonymousField4" ∧
      camel (anonName 5) = "EmbossReservedAnonymousField5" := by
    unfold camel anonName
    simp only [String.toList_append, hp]
    decide +kernel
  have ha : camel "inl" = "Inl" ∧ camel "en" = "En" ∧
      anonName 5 = "emboss_reserved_anonymous_field_5" ∧
      anonName 2 = "emboss_reserved_anonymous_field_2" := by decide +kernel
  obtain ⟨h1, h2, h3, h4, h5⟩ := hc
  obtain ⟨hi, he, a5, a2⟩ := ha
  -- the goal's literals become the names as the model computes them; `rfl` unfolds the rest
  rw [← h1, ← h2, ← h3, ← h4, ← h5, ← hi, ← he, ← a5, ← a2]
  exact ⟨rfl, rfl, rfl⟩

/-- Non-vacuity of `C12_inline_doc_partial`: `struct Msg:` with a nested definition `Sub` and an
inline `enum  kind:` is shallow, and both readings give `Msg`, `Msg.Sub`, `Msg.Kind`. -/
example :
    let t : List Syn := [.node .typeDef "Msg" 0 [.node .typeDef "Sub" 0 [] []]
      [.node .inline "kind" 0 [] [.node .plain "ON" 0 [] []]]]
    ShallowAll t ∧ docTypesAll ["m.emb"] t =
      [(["m.emb"], "Msg"), (["m.emb", "Msg"], "Sub"), (["m.emb", "Msg"], "Kind")] := by
  refine ⟨by simp [ShallowAll, Shallow, PlainAll], by decide +kernel⟩

end Emboss.Scope
