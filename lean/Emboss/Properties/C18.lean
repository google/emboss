/-
C18 — The IR survives serialization; split and in-process pipelines agree.

The round-trip theorems are generic over every schema `S` with `SchemaOk S` (decidable) and every
message `m` with `WfMsg S c m` (decidable); `C18_from_dict_wf` and `C18_reread_stable` speak of every
dict and need `SchemaOkStrict S`; `C18_json_text_roundtrip`, `C18_bigint` and the two location theorems
have no schema or message hypothesis (`C18_location_roundtrip` asks `l.ok`).  The `_ir` variants
instantiate `S` with the schema extracted from the current `ir_data.py`.
-/
import Emboss.Spec.Json
import Emboss.Lemmas.JsonWf
import Emboss.Lemmas.JsonText
import Emboss.Generated.IrSchemaOk
namespace Emboss.Json

/-- `from_dict(to_dict(m)) == m` for every well-formed message of every admissible schema:
every node, every set/unset distinction (`None` vs `False`/`0`/`""`, which are *set*),
empty lists, enums, integers of any size, locations with flags. -/
theorem C18_roundtrip (S : Schema) (hS : SchemaOk S) (c : String) (m : Val) (h : WfMsg S c m) :
    Spec.RoundTrips (toDict S) (fromDict S c) m := by
  obtain ⟨d, he, hd⟩ := rtAny S hS m (.msg c) h
  refine ⟨d, ?_, hd⟩
  cases m with
  | msg c' vs => exact he
  | _ => cases h

/-- The same, for the regenerated schema of the IR. -/
theorem C18_roundtrip_ir (c : String) (m : Val) (h : WfMsg Generated.schema c m) :
    Spec.RoundTrips (toDict Generated.schema) (fromDict Generated.schema c) m :=
  C18_roundtrip _ Generated.schema_ok c m h

/-- Serializing the re-read IR gives the same dict, hence (the text being a function of
the dict) the same JSON text. -/
theorem C18_to_json_idempotent (S : Schema) (hS : SchemaOk S) (c : String) (m : Val)
    (h : WfMsg S c m) :
    Spec.Idempotent (toDict S) (fromDict S c) m ∧
      ∃ d m', toDict S m = some d ∧ fromDict S c d = some m' ∧ toJson S m' = toJson S m :=
  have hr := C18_roundtrip S hS c m h
  ⟨Spec.idempotent_of_roundTrips hr, Spec.indistinguishable_of_roundTrips (toJson S) hr⟩

/-- TEXT level: reading back what `json.dumps` wrote gives the same JSON value —
for *every* value of the generic `Dv` type: all strings (quotes, backslashes, control
characters, non-ASCII, non-BMP characters written as `\\uD8xx\\uDCxx` surrogate pairs), all
integers of any magnitude and sign, `null`/`true`/`false`, lists and dicts of any nesting and
any keys.  The reader (`parseJson`, a model of `json.loads` on the language of `json.dumps`)
consumes the whole text and never runs out of its fuel `2·|text| + 2`. -/
theorem C18_json_text_roundtrip (d : Dv) : parseJson d.render = .ok d [] :=
  parseJson_render d

/-- `C18_to_json_idempotent` at the level of the JSON **text**: `to_json(m)` produces a text `t`,
`from_json(t)` (= `json.loads` then `_from_dict`) gives back exactly `m`, and serializing
whatever `from_json(t)` returns gives the identical text `t` again. -/
theorem C18_to_json_idempotent_text (S : Schema) (hS : SchemaOk S) (c : String) (m : Val)
    (h : WfMsg S c m) :
    ∃ t, toJson S m = some t ∧ fromJson S c t = some m ∧
      ∀ m', fromJson S c t = some m' → toJson S m' = some t := by
  obtain ⟨d, h1, h2⟩ := C18_roundtrip S hS c m h
  have hj : toJson S m = some d.render := by rw [toJson, h1, Option.map_some]
  have hf : fromJson S c d.render = some m := by
    simp only [fromJson, parseJson_render d, h2]
  refine ⟨d.render, hj, hf, ?_⟩
  intro m' hm'
  rw [hf] at hm'
  cases hm'
  exact hj

/-- The same, for the regenerated schema of the IR. -/
theorem C18_to_json_idempotent_text_ir (c : String) (m : Val) (h : WfMsg Generated.schema c m) :
    ∃ t, toJson Generated.schema m = some t ∧ fromJson Generated.schema c t = some m ∧
      ∀ m', fromJson Generated.schema c t = some m' → toJson Generated.schema m' = some t :=
  C18_to_json_idempotent_text _ Generated.schema_ok c m h

/-- `SourceLocation.from_str(str(l)) == l` for every location the constructor admits
(start ≤ end; line/column both zero or both positive; start, end both falsy or both
truthy), for all four flag combinations. -/
theorem C18_location_roundtrip (l : Loc) (h : l.ok = true) : Loc.fromStr l.toStr = some l :=
  Loc.fromStr_toStr l h

/-- Whatever `from_str` accepts satisfies the constructor's invariants. -/
theorem C18_location_from_str_ok (s : String) (l : Loc) (h : Loc.fromStr s = some l) : l.ok = true :=
  Loc.ok_of_fromStr h

/-- Integers are never narrowed: an `int` value of any magnitude passes through
`to_dict`/`_from_dict` and the text layer as its exact decimal form, and the decimal-string
form used by `NumericConstant.value`/`IntegerType.*` denotes the same integer and passes
through unchanged. -/
theorem C18_bigint (S : Schema) (i : Int) :
    (∃ d, encVal S (.int i) = some d ∧ decVal S .int d = some (.int i) ∧ d.renderChars = intChars i) ∧
    parseInt (intChars i) = some i ∧
    (∃ d, encVal S (.str (String.ofList (intChars i))) = some d ∧
      decVal S .str d = some (.str (String.ofList (intChars i)))) :=
  ⟨⟨.int i, rfl, rfl, rfl⟩, parseInt_intChars i, ⟨.str _, rfl, rfl⟩⟩

/-- Header generation — *any* function of the message value — gives the same result on the
re-read IR as on the in-memory IR. -/
theorem C18_header_equal {α : Type} (gen : Val → α) (S : Schema) (hS : SchemaOk S) (c : String)
    (m : Val) (h : WfMsg S c m) :
    Spec.Indistinguishable (toDict S) (fromDict S c) gen m :=
  Spec.indistinguishable_of_roundTrips _ (C18_roundtrip S hS c m h)

/-- `has_field` answers are the same on the re-read message, for every field name
(`C18_header_equal` at `gen := hasField S`). -/
theorem C18_set_unset (S : Schema) (hS : SchemaOk S) (c : String) (m : Val) (h : WfMsg S c m) :
    Spec.Indistinguishable (toDict S) (fromDict S c) (hasField S) m :=
  C18_header_equal (hasField S) S hS c m h

/-- Whatever `_from_dict` builds — from *any* dict, not only from `to_dict` output — is a
well-formed message: the back end of the split pipeline only ever sees well-formed IR
(values of the declared types, constructor invariants of locations, at most one member per
oneof group).  Needs, beyond `SchemaOk`, that constructor defaults are values of their
field's type (`SchemaOkStrict`, decidable). -/
theorem C18_from_dict_wf (S : Schema) (hS : SchemaOkStrict S) (c : String) (d : Dv) (m : Val)
    (h : fromDict S c d = some m) : WfMsg S c m :=
  wfDecAny S hS d (.msg c) m h

/-- Hence the re-read IR itself round-trips: json → IR → json → IR is stable from the first
re-read on, for any input text the back end accepts. -/
theorem C18_reread_stable (S : Schema) (hS : SchemaOkStrict S) (c : String) (d : Dv) (m : Val)
    (h : fromDict S c d = some m) : Spec.RoundTrips (toDict S) (fromDict S c) m :=
  C18_roundtrip S hS.schemaOk c m (C18_from_dict_wf S hS c d m h)

theorem C18_from_dict_wf_ir (c : String) (d : Dv) (m : Val)
    (h : fromDict Generated.schema c d = some m) : WfMsg Generated.schema c m :=
  C18_from_dict_wf _ Generated.schema_ok_strict c d m h

/-! ### non-vacuity -/

section Examples
open Generated

/-! Rendered texts are compared as character lists (`toJson_eq_of_toList`, `render_eq_of_toList`).
A literal is `String.ofList` of its characters by definition, so `String.toList_ofList` rewrites
`"…".toList` without the kernel decoding or encoding any string (which it does by quadratic array
pushes). -/

/-- `Expression { constant: NumericConstant{ value: "340282366920938463463374607431768211456" (2^128),
source_location: 3:5-3:44 }, type: ExpressionType{ integer: IntegerType{ modulus: "infinity", … } },
source_location: 0:0-0:0^* }` over the regenerated IR schema. -/
def exExpr : Val :=
  .msg "Expression" [
    .msg "NumericConstant" [.str "340282366920938463463374607431768211456", .loc ⟨⟨3, 5⟩, ⟨3, 44⟩, false, false⟩],
    .none, .none, .none, .none, .none,
    .msg "ExpressionType" [.none,
      .msg "IntegerType" [.str "infinity", .str "340282366920938463463374607431768211456", .none, .str ""],
      .none, .none],
    .loc ⟨⟨0, 0⟩, ⟨0, 0⟩, true, true⟩]

example : SchemaOk schema := schema_ok
theorem exExpr_wf : WfMsg schema "Expression" exExpr := by decide +kernel

example : WfMsg schema "Expression" exExpr := exExpr_wf
example : toJson schema exExpr = some
    "{\"constant\": {\"value\": \"340282366920938463463374607431768211456\", \"source_location\": \"3:5-3:44\"}, \"type\": {\"integer\": {\"modulus\": \"infinity\", \"modular_value\": \"340282366920938463463374607431768211456\", \"maximum_value\": \"\"}}, \"source_location\": \"0:0-0:0^*\"}" := by
  refine toJson_eq_of_toList ?_
  rw [String.toList_ofList]
  decide +kernel

/-- Set-but-falsy values: `WriteMethod{physical: False}`, `CanonicalName{module_file: "", object_path: []}`,
`Structure{fields_in_dependency_order: [0]}`. -/
def exFalsy : Val :=
  .msg "Field" [.none, .none, .none,
    .msg "WriteMethod" [.bool false, .none, .none, .none],
    .msg "NameDefinition" [.none, .msg "CanonicalName" [.str "", .list []], .bool false, .none],
    .none, .list [], .list [], .none, .none]

example : WfMsg schema "Field" exFalsy := by decide +kernel
example : toJson schema exFalsy = some
    "{\"write_method\": {\"physical\": false}, \"name\": {\"canonical_name\": {\"module_file\": \"\"}, \"is_anonymous\": false}}" := by
  refine toJson_eq_of_toList ?_
  rw [String.toList_ofList]
  decide +kernel
example : hasField schema (.msg "WriteMethod" [.bool false, .none, .none, .none]) "physical" = true
    ∧ hasField schema (.msg "WriteMethod" [.bool false, .none, .none, .none]) "read_only" = false := by
  decide +kernel

/-- Text layer, non-vacuity: a value with every escape class, a non-BMP character, a number
beyond 64 bits, nesting and an empty list/dict — rendered and read back (evaluated). -/
def exText : Dv :=
  .dict [("k\"\\\n\t", .list [.int (-18446744073709551617), .str "é\u0001😀/", .null, .bool true, .list [], .dict []]),
         ("", .str "")]

example : exText.render =
    "{\"k\\\"\\\\\\n\\t\": [-18446744073709551617, \"\\u00e9\\u0001\\ud83d\\ude00/\", null, true, [], {}], \"\": \"\"}" := by
  refine render_eq_of_toList ?_
  rw [String.toList_ofList]
  decide +kernel
example : parseJson exText.render = .ok exText [] := C18_json_text_roundtrip exText
/-- the reader is strict: trailing text, a lone surrogate, a raw control character are rejected. -/
example : (match parseJson "[1, 2] " with | .err => true | _ => false) = true := by decide +kernel
example : (match parseJson "\"\\ud83d\"" with | .err => true | _ => false) = true := by decide +kernel
example : (match parseJson "\"a\nb\"" with | .err => true | _ => false) = true := by decide +kernel
example : fromJson schema "Expression" ((toJson schema exExpr).getD "") = some exExpr := by
  obtain ⟨t, h1, h2, _⟩ := C18_to_json_idempotent_text_ir "Expression" exExpr exExpr_wf
  simp [h1, h2]

/-- A dict that `to_dict` never produces (two members of oneof `type`, a `null`, an unknown key):
`_from_dict` accepts it, the constructor keeps the later oneof member, and the result is well-formed. -/
def exOddDict : Dv :=
  .dict [("opaque", .dict []), ("boolean", .dict [("value", .bool false)]), ("zzz", .int 1), ("integer", .null)]

example : fromDict schema "ExpressionType" exOddDict
    = some (.msg "ExpressionType" [.none, .none, .msg "BooleanType" [.bool false], .none]) := by rfl
-- an enum member by name, an explicit empty list
example : fromDict schema "Function" (.dict [("function", .str "ADDITION"), ("args", .list [])])
    = some (.msg "Function" [.enum 1, .list [], .none, .none]) := by rfl

/-- All flag combinations, including the falsy `0:0-0:0`. -/
example : (Loc.mk ⟨0, 0⟩ ⟨0, 0⟩ false false).toStr = "0:0-0:0"
    ∧ (Loc.mk ⟨0, 0⟩ ⟨0, 0⟩ true false).toStr = "0:0-0:0^"
    ∧ (Loc.mk ⟨12, 3⟩ ⟨14, 1⟩ false true).toStr = "12:3-14:1*"
    ∧ (Loc.mk ⟨12, 3⟩ ⟨14, 1⟩ true true).toStr = "12:3-14:1^*"
    ∧ (Loc.mk ⟨12, 3⟩ ⟨14, 1⟩ true true).ok = true ∧ (Loc.mk ⟨0, 0⟩ ⟨0, 0⟩ true false).ok = true
    ∧ Loc.fromStr "12:3-14:1^*" = some ⟨⟨12, 3⟩, ⟨14, 1⟩, true, true⟩
    ∧ Loc.fromStr "12:3-14:1*^" = none ∧ Loc.fromStr "14:1-12:3" = none ∧ Loc.fromStr "0:0-1:1" = none := by
  decide +kernel

/-! The hypotheses are needed (tests over literals, not property theorems): with a
non-`None` default on an OPTIONAL field, or two members of a oneof group set, the round
trip fails on the model. -/

def badSchema : Schema :=
  ⟨[⟨"C", [⟨"flag", .bool, .optional, none, .str "x"⟩]⟩,
    ⟨"O", [⟨"a", .bool, .optional, some "g", .none⟩, ⟨"b", .bool, .optional, some "g", .none⟩]⟩], []⟩

example : ¬ SchemaOk badSchema := by decide +kernel
example : WfMsg badSchema "C" (.msg "C" [.none]) := by decide +kernel
example : (toDict badSchema (.msg "C" [.none])).bind (fromDict badSchema "C") = some (.msg "C" [.str "x"]) := by
  rfl
example : ¬ WfMsg badSchema "O" (.msg "O" [.bool true, .bool false]) := by decide +kernel
example : (toDict badSchema (.msg "O" [.bool true, .bool false])).bind (fromDict badSchema "O")
    = some (.msg "O" [.none, .bool false]) := by
  rfl

end Examples

end Emboss.Json
