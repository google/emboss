/-
C01 — Generated views report structure state and values exactly as the .emb defines;
anything reported as known from a prefix of a message keeps its value when more bytes arrive.

Property theorems, their examples, and two lemmas used only here.
Model: Emboss/Model/{Expr,View,ViewObs,Synth}.lean (mirrors header_generator.py +
generated_code_templates + the runtime headers) and Emboss/Model/ViewFrag.lean (the fragment
`reachOK` of the refinement theorems); spec pieces: Emboss/Spec/{View,ViewRef}.lean; lemmas:
Emboss/Lemmas/{ExprMono,ViewStep,ViewMono,Synth,SizeFolds,Equals,Locality}.lean and, for the comparison with
the reference semantics, Emboss/Lemmas/ViewRef{Base,,Complete,Array}.lean.
-/
import Emboss.Lemmas.Locality
import Emboss.Lemmas.ViewRefArray
namespace Emboss.View

section
open Emboss.ViewSpec

/-- `Maybe`-evaluation is monotone in the information order: if every field value, parameter,
presence flag and `$logical_value` known in `e1` is known with the same value in `e2`, then every
expression known in `e1` has the same value in `e2` (strict operators, symmetric `&&`/`||`
short-circuit, `?:`, `$max`, folded constants). -/
theorem C01_expr_monotone {e1 e2 : Env} (h : EnvLe e1 e2) (e : Expr) :
    OLe (eval e1 e) (eval e2 e) :=
  eval_mono h e

/-
Full statement (DESIGN §7 C01): ∀ module, struct, params, buffers b, c: *every* observation known
on b — Ok = true, IsComplete = true, SizeIsKnown + size, has_f known, f.Ok = true + value, array
counts of complete arrays — is identical on b ++ c.

Proved below for: every field value at every path (physical scalars of every kind, virtual
fields incl. `$size_in_*`/`$max…`/`$min…`, aliases, fields of nested structures / bits at any
depth, parameters), every presence flag at every path, SizeIsKnown + size, IsComplete.
Structure-level `Ok() = true` and the contents of complete arrays: `C01_ok_monotone_partial`,
`C01_ok_monotone_arrays_partial`; all of it is also observed on the real outputs by the harness
(`cppdrv.monotone_violations`) on every prefix of every buffer.
-/
theorem C01_prefix_monotone_partial (m : Module) (hm : moduleWF m = true) (sd : StructDef)
    (hsd : structWF m sd = true) (ps : List Val) (b c : List Nat) (n : Nat) :
    (∀ p v, (G m n).read (rootView sd ps b) p = some v → (G m n).read (rootView sd ps (b ++ c)) p = some v) ∧
    (∀ p x, (G m n).has (rootView sd ps b) p = some x → (G m n).has (rootView sd ps (b ++ c)) p = some x) ∧
    (∀ sz, sizeOf? (G m n) (rootView sd ps b) = some sz → sizeOf? (G m n) (rootView sd ps (b ++ c)) = some sz) ∧
    (isComplete (G m n) (rootView sd ps b) = true → isComplete (G m n) (rootView sd ps (b ++ c)) = true) := by
  have hle := rootView_le sd ps (List.prefix_append b c)
  have hg := G_mono hm n
  exact ⟨fun p => (hg _ _ hle hsd p).1, fun p => (hg _ _ hle hsd p).2.1, sizeOf?_mono hg hle hsd,
    isComplete_mono hg hle hsd⟩

/-
The remaining half of the full statement, for the fragment *modules without array fields*
(`moduleNoArrays`: nested structures, `bits`, anonymous bits, conditionals, virtual fields,
aliases, parameters, `[requires]` are all inside the fragment): `Ok() = true` of the structure —
and of the view at every path below it — on `b` stays true on `b ++ c`.  Arrays are excluded
because a truncated array can be Ok while a longer one is not.
-/
theorem C01_ok_monotone_partial (m : Module) (hm : moduleWF m = true) (hna : moduleNoArrays m = true)
    (sd : StructDef) (hsd : structWF m sd = true) (hsn : structNoArrays sd = true)
    (ps : List Val) (b c : List Nat) (n : Nat) (p : List String) :
    (G m n).okAt (rootView sd ps b) p = true → (G m n).okAt (rootView sd ps (b ++ c)) p = true :=
  (G_mono hm n _ _ (rootView_le sd ps (List.prefix_append b c)) hsd p).2.2 hna hsn

/-
`Ok()` with arrays.  `SizeCovers m sd` (Emboss/Lemmas/SizeFolds.lean) is the semantic statement
"whenever a view of `sd` knows its size, every present physical field with a known non-negative
location ends at or before it" — true of the synthesized size expression
(`C01_sizeCovers_of_plain`, via `C01_size_covers_present_fields`); for the *real* IR the size
expression additionally carries the compiler's constant-folding annotations, whose soundness is
C05's subject, hence a hypothesis here (partial).
Under it: a structure that is Ok on `b` is Ok on `b ++ c`, arrays, arrays of structures, nested
structures and aliases into them included; and every present field of a complete view gets
*identical* storage on both buffers (so array element counts and elements are the same).
-/
theorem C01_ok_monotone_arrays_partial (m : Module) (hm : moduleWF m = true) (sd : StructDef)
    (hsd : structWF m sd = true) (hcov : SizeCovers m sd) (ps : List Val) (b c : List Nat) (n : Nat) :
    (G m n).okAt (rootView sd ps b) [] = true → (G m n).okAt (rootView sd ps (b ++ c)) [] = true :=
  G_ok_mono_arr hm (w1 := rootView sd ps b) hcov (rootView_le sd ps (List.prefix_append b c)) hsd n

theorem C01_complete_fields_identical_partial (m : Module) (hm : moduleWF m = true) (sd : StructDef)
    (hsd : structWF m sd = true) (hcov : SizeCovers m sd) (ps : List Val) (b c : List Nat)
    (K : Nat) (sz : Int)
    (hsz : (G m (K + 1)).read (rootView sd ps b) [sd.sizeField] = some (.int sz))
    (hlen : (b.length : Int) ≥ sz)
    (k : Nat) (hk : k ≤ K) (x : String) (f : Field) (start size : Expr) (ty : PType) (bo : ByteOrder)
    (hf : sd.field x = some f) (hkind : f.kind = .phys start size ty bo) (st : Storage)
    (h1 : physStorage (G m k) (rootView sd ps b) f start size = some st) :
    physStorage (G m k) (rootView sd ps (b ++ c)) f start size = some st := by
  have T : Tight m (rootView sd ps b) (rootView sd ps (b ++ c)) sz :=
    Tight.above ⟨hm, VLe.refl _, Or.inr rfl, rfl, hsd, hcov, ⟨_, hsz⟩, hlen⟩ (rootView_le sd ps (List.prefix_append b c))
  rw [← T.phys k (field_mem hf) hkind]
  exact h1

/-- Locality ("an Ok view of size n depends only on its first n bytes"): a view that knows its
size `sz ≤ |b|` and the view over just the first `sz` bytes of `b` agree on *everything* — every
field value, every presence flag, and `Ok()` at every path, the structure's own `Ok()` included. -/
theorem C01_locality_partial (m : Module) (hm : moduleWF m = true) (sd : StructDef)
    (hsd : structWF m sd = true) (hcov : SizeCovers m sd) (ps : List Val) (b : List Nat)
    (K : Nat) (sz : Int)
    (hsz : (G m (K + 1)).read (rootView sd ps b) [sd.sizeField] = some (.int sz))
    (h0 : 0 ≤ sz) (hlen : sz ≤ b.length) (k : Nat) (hk : k ≤ K + 1) :
    Agree (G m k) (rootView sd ps (b.take sz.toNat)) (rootView sd ps b) :=
  (Tight.take hm hsd hcov hsz hlen rfl).agree k

/-- The hypothesis `SizeCovers` holds whenever the size field is the un-folded synthesized
expression. -/
theorem C01_sizeCovers_of_plain (m : Module) (hm : moduleWF m = true) (sd : StructDef)
    (hwf : structWF m sd = true) (hp : plainSize sd) : SizeCovers m sd :=
  sizeCovers_of_foldsExact hm hwf (sizeFoldsExact_of_plain hp)

/-- `SizeCovers` reduced to C05's subject: under `SizeFoldsExact m sd` (Lemmas/SizeFolds.lean, where
its relation to `C05_constant_value_agrees` / `C05_size_bounds` is described) the hypothesis of
`C01_ok_monotone_arrays_partial`, `C01_locality_partial`, `C20_equals_ignores_padding_partial`
holds.  (`SizeCovers` cannot be discharged from `C05_sound` by a Lean theorem across the two
models — different expression types, partial vs. total environments; this is the exact interface.) -/
theorem C01_sizeCovers_of_exact_folds (m : Module) (hm : moduleWF m = true) (sd : StructDef)
    (hwf : structWF m sd = true) (h : SizeFoldsExact m sd) : SizeCovers m sd :=
  sizeCovers_of_foldsExact hm hwf h

/-- … and **discharged** for a decidable class of real IRs: if every constant-folding annotation
in the structure's size expression and in its fields' conditions / locations is a *closed
constant* (`structClosedFolds`, Model/Synth.lean: the annotated node's source expression
evaluates to the literal in the environment that knows nothing — all-static structures and the
static clauses of dynamic ones; not literals derived from a range), then `SizeCovers` holds.  The
driver evaluates `structClosedFolds` on every structure of every real IR (`cov=` in the `IR`
answer); for those structures `C01_ok_monotone_arrays_partial` & co. have no semantic hypothesis
left. -/
theorem C01_sizeCovers_of_closed_folds (m : Module) (hm : moduleWF m = true) (sd : StructDef)
    (hwf : structWF m sd = true) (h : structClosedFolds sd = true) : SizeCovers m sd :=
  sizeCovers_of_foldsExact hm hwf (sizeFoldsExact_of_closed h)

/-- `Ok()` is prefix-monotone, arrays included, for every structure with closed-constant
annotations — all hypotheses decidable and evaluated by the driver on the real IR. -/
theorem C01_ok_monotone_closed_folds (m : Module) (hm : moduleWF m = true) (sd : StructDef)
    (hsd : structWF m sd = true) (hcf : structClosedFolds sd = true) (ps : List Val) (b c : List Nat)
    (n : Nat) :
    (G m n).okAt (rootView sd ps b) [] = true → (G m n).okAt (rootView sd ps (b ++ c)) [] = true :=
  C01_ok_monotone_arrays_partial m hm sd hsd (C01_sizeCovers_of_closed_folds m hm sd hsd hcf) ps b c n

/-- More fuel never changes an answer that was already known (so the fuel the driver uses is
immaterial once `fuelOK` holds). -/
theorem C01_fuel_monotone (m : Module) (hm : moduleWF m = true) (w : SView)
    (hw : structWF m w.sd = true) (n : Nat) :
    (∀ p v, (G m n).read w p = some v → (G m (n + 1)).read w p = some v) ∧
    (∀ p x, (G m n).has w p = some x → (G m (n + 1)).has w p = some x) := by
  have hg := G_le hm (Nat.le_succ n) w w (VLe.refl w) hw
  exact ⟨fun p => (hg p).1, fun p => (hg p).2.1⟩

/-- The synthesized `$size_in_bytes`/`$size_in_bits` expression evaluates to the reference size:
the largest end `start + size` over the present physical fields, `0` if there is none; it is
unknown exactly when a presence, or the location of a present field, is unknown
(`ViewSpec.size`).  (`sizeIsSynth`, checked by the driver on every real IR, says the real
expression is `synthSize` up to folding annotations.) -/
theorem C01_size_is_max_end (env : Env) (fs : List Field) :
    eval env (synthSize fs) = (ViewSpec.size (extents env fs)).map Val.int :=
  eval_synthSize env fs

/-- Consequently a view whose size is known to be `r` has every present, located physical field
inside `[0, r)`: `IsComplete()` (buffer length ≥ `r`) means no present field was clamped — the
fact behind "an Ok view of size n depends only on its first n bytes". -/
theorem C01_size_covers_present_fields (env : Env) (fs : List Field) (r : Int)
    (h : eval env (synthSize fs) = some (.int r)) :
    0 ≤ r ∧ ∀ s z : Int, (some true, some s, some z) ∈ extents env fs → s + z ≤ r :=
  synthSize_covers env fs r h

theorem maybeEq_comm (n : Bool) (a b : Option Val) : maybeEq n a b = maybeEq n b a := by
  rcases a with _ | a | a <;> rcases b with _ | b | b <;> simp only [maybeEq, Bool.beq_comm]

/-- a switch candidate is `discriminant == label`, whichever side the constant stands on -/
theorem eval_switchCandidate {env : Env} {cond discrim : Expr} {label : Int}
    (hc : switchCandidate cond = some (discrim, label)) :
    eval env cond = maybeEq false (eval env discrim) (some (.int label)) := by
  revert hc
  fun_cases switchCandidate cond
  · rename_i a b l hb ha
    intro hc
    cases hc
    rw [← eval_constInt ha, maybeEq_comm]
    rfl
  · rename_i a b l hb ha
    intro hc
    cases hc
    rw [← eval_constInt hb]
    rfl
  · intro hc; cases hc
  · intro hc; cases hc

/-- The switch grouping of `Ok()` is semantics preserving: for every field whose existence
condition is a switch candidate (`discriminant == constant`, either order), the switch-case test
equals the one-`if`-per-field test that the model `G` uses — provided the discriminant is integer
valued whenever it is known (which the front end's type checker guarantees for a candidate).
Fields sharing a case label fall back to the `if` form, which is the naive test itself. -/
theorem C01_ok_switch_eq_naive (env : Env) (cond discrim : Expr) (label : Int) (fieldOk : Bool)
    (hc : switchCandidate cond = some (discrim, label))
    (hint : ∀ b, eval env discrim ≠ some (.bool b)) :
    naiveOkTest (evalBool env cond) fieldOk = switchOkTest (eval env discrim) label fieldOk := by
  rw [evalBool, eval_switchCandidate hc]
  cases eval env discrim with
  | none => rfl
  | some v =>
    cases v with
    | bool q => rfl
    | int x =>
      by_cases hx : x = label
      · simp [maybeEq, naiveOkTest, switchOkTest, hx]
      · simp [maybeEq, naiveOkTest, switchOkTest, hx, beq_false_of_ne hx]

/-- `$next` is the end of the previous physical field. -/
theorem C01_next_is_prev_end (env : Env) (prevStart prevSize : Expr) (s z : Int)
    (hs : evalInt env prevStart = some s) (hz : evalInt env prevSize = some z) :
    evalInt env (synthNext prevStart prevSize) = some (s + z) := by
  have hsum : eval env (synthNext prevStart prevSize) =
      maybeInt2 (fun x y => .int (x + y)) (eval env prevStart) (eval env prevSize) := rfl
  unfold evalInt
  rw [hsum, evalInt_eq_some.mp hs, evalInt_eq_some.mp hz]
  rfl

/-- An alias reads its target: when the alias is present its value is the target's value (at the
previous fuel level), otherwise it is unreadable. -/
theorem C01_alias_reads_target (m : Module) (n : Nat) (w : SView) (f : Field) (t : List String)
    (hf : w.sd.field f.name = some f) (hk : f.kind = .alias t) :
    (G m (n + 1)).read w [f.name] =
      if hasField (G m n) w f = some true then (G m n).read w t else none := by
  simp only [G, step_read_cons m _ w hf, hk, List.append_nil]

/-- The hypothesis `moduleWF` of the monotonicity theorems, as two decidable properties of the IR
that the driver evaluates on **every real IR** (`IR` answer: `wf= csm= dyn=`):
`moduleConstMatch` — a constant-size field holding a fixed-size bit-addressed type (prelude
scalar, enum, `bits`: fixed size ≤ 64 bits by C14's checks) has exactly the type's size — is what
the front end's `constraints.py` enforces (C14 model: `fixedWrongField`), and the harness requires
it of every accepted module; `moduleNoDynFixed` — no such type sits in a field whose size is not a
compile-time constant — is **not** enforced by the front end: that gap is exactly the open
finding `monotone:fixed-size-type-in-dynamically-sized-field`
(`C01_prefix_monotone_counterexample`), and the harness accepts `dyn=0` only for modules in which
its independent IR walk finds such a field. -/
theorem C01_moduleWF_iff (m : Module) :
    moduleWF m = true ↔ (moduleConstMatch m = true ∧ moduleNoDynFixed m = true) := by
  simp only [moduleWF, structWF, moduleConstMatch, moduleNoDynFixed, List.all_eq_true, fieldWF_eq_and,
    Bool.and_eq_true, forall_and]

/-! ### non-vacuity: a tag, a conditional field, a dynamically sized array -/

def exPhys : List Field :=
  [ { name := "tag", anon := false, cond := .const (.bool true),
      kind := .phys (.const (.int 0)) (.const (.int 1)) (.scalar .uint 8 none) .le },
    { name := "a", anon := false,
      cond := .op .eq (.cons (.ref ["tag"]) (.cons (.const (.int 1)) .nil)),
      kind := .phys (.const (.int 1)) (.const (.int 2)) (.scalar .uint 16 none) .le },
    { name := "arr", anon := false, cond := .const (.bool true),
      kind := .phys (.const (.int 3)) (.ref ["tag"]) (.array (.scalar .uint 8 none) 1) .le } ]

def exSd : StructDef :=
  { name := "Ex", unit := 8, params := [], requires := none, sizeField := "$size",
    fields := exPhys ++
      [ { name := "$size", anon := false, cond := .const (.bool true),
          kind := .virt (synthSize exPhys) none },
        { name := "al", anon := false, cond := .has ["a"], kind := .alias ["a"] } ] }

def exM : Module := { structs := [exSd] }

/-- the example meets the hypotheses of `C01_prefix_monotone_partial` and is not trivial:
on `01` the presence of `a` is known (true) but its value is not; on `01 05 00` it is 5 and the
alias reads the same; the size `max(1, 3, 3+tag) = 4` is known from the first byte on, and the
view is complete only with 4 bytes. -/
example :
    moduleWF exM = true ∧ structWF exM exSd = true ∧ sizeIsSynth exSd = true ∧ fuelOK exM 6 exSd = true ∧
    (G exM 6).has (rootView exSd [] []) ["a"] = none ∧
    (G exM 6).has (rootView exSd [] [1]) ["a"] = some true ∧
    (G exM 6).read (rootView exSd [] [1]) ["a"] = none ∧
    (G exM 6).read (rootView exSd [] [1, 5, 0]) ["a"] = some (.int 5) ∧
    (G exM 6).read (rootView exSd [] [1, 5, 0]) ["al"] = some (.int 5) ∧
    (G exM 6).has (rootView exSd [] [2, 5, 0]) ["a"] = some false ∧
    sizeOf? (G exM 6) (rootView exSd [] [1]) = some 4 ∧
    isComplete (G exM 6) (rootView exSd [] [1, 5, 0]) = false ∧
    isComplete (G exM 6) (rootView exSd [] [1, 5, 0, 9]) = true := by
  decide +kernel

/-- non-vacuity of `C01_ok_monotone_arrays_partial`: the example (which has a dynamically sized
array) satisfies `SizeCovers`, is Ok on `01 05 00 09` and stays Ok with more bytes. -/
example : SizeCovers exM exSd :=
  C01_sizeCovers_of_plain exM (by decide +kernel) exSd (by decide +kernel) ⟨_, rfl, rfl⟩

example :
    (G exM 6).okAt (rootView exSd [] [1, 5, 0]) [] = false ∧
    (G exM 6).okAt (rootView exSd [] [1, 5, 0, 9]) [] = true ∧
    (G exM 6).okAt (rootView exSd [] ([1, 5, 0, 9] ++ [7, 7])) [] = true := by
  decide +kernel

/-- non-vacuity of `C01_ok_monotone_partial`: the example without its array is inside the
fragment; `01 05 00` is Ok (and stays Ok with a fourth byte), `01 05` is not. -/
def exSdNA : StructDef :=
  { exSd with fields := exPhys.take 2 ++
      [ { name := "$size", anon := false, cond := .const (.bool true),
          kind := .virt (synthSize (exPhys.take 2)) none } ] }

example :
    moduleWF { structs := [exSdNA] } = true ∧ moduleNoArrays { structs := [exSdNA] } = true ∧
    structNoArrays exSdNA = true ∧
    (G { structs := [exSdNA] } 6).okAt (rootView exSdNA [] [1, 5]) [] = false ∧
    (G { structs := [exSdNA] } 6).okAt (rootView exSdNA [] [1, 5, 0]) [] = true ∧
    (G { structs := [exSdNA] } 6).okAt (rootView exSdNA [] ([1, 5, 0] ++ [9])) [] = true := by
  decide +kernel

/-- non-vacuity of `C01_size_is_max_end` / `C01_next_is_prev_end`: with `tag = 2` field `a` is
absent and the size is `max(0, 1, 3 + 2) = 5`; with an unreadable tag it is unknown. -/
example :
    ViewSpec.size [(some true, some 0, some 1), (some false, some 1, some 2), (some true, some 3, some 2)]
      = some 5 ∧
    ViewSpec.size [(some true, some 0, some 1), (none, some 1, some 2)] = none ∧
    evalInt { read := fun _ => none, param := fun _ => none, has := fun _ => none, lv := none }
      (synthNext (.const (.int 3)) (.const (.int 2))) = some 5 := by
  decide +kernel

end

/-! ### non-vacuity of the closed-folds theorems: an annotated size expression -/

/-- `exSd` with the annotation the compiler puts on the static first clause of its size
expression: `$max(0, ⟨1⟩(true ? 0+1 : 0), tag == 1 ? 1+2 : 0, true ? 3+tag : 0)`. -/
def exFoldSd : StructDef :=
  { exSd with fields := exPhys ++
      [ { name := "$size", anon := false, cond := .const (.bool true),
          kind := .virt (.op .max (.cons (.const (.int 0))
            (.cons (.fold (.int 1) (sizeClause (.const (.bool true)) (.const (.int 0)) (.const (.int 1))))
              (sizeClauses (exPhys.drop 1))))) none } ] }

/-- non-vacuity of `C01_sizeCovers_of_closed_folds` / `C01_ok_monotone_closed_folds`: the
annotated example is in the decidable class (and not `plainSize`: it has an annotation), so
`SizeCovers` holds for it and `Ok()` on `01 05 00 09` persists. -/
example : structClosedFolds exFoldSd = true ∧ moduleWF { structs := [exFoldSd] } = true ∧
    structWF { structs := [exFoldSd] } exFoldSd = true ∧
    (G { structs := [exFoldSd] } 6).okAt (rootView exFoldSd [] [1, 5, 0, 9]) [] = true := by
  decide +kernel

example : SizeCovers { structs := [exFoldSd] } exFoldSd :=
  C01_sizeCovers_of_closed_folds _ (by decide +kernel) _ (by decide +kernel) (by decide +kernel)

section
open Emboss.ViewRef

/-! ### the generated-code model refines the reference semantics R (Spec/ViewRef.lean)

Full statement (DESIGN §7, `C01_G_refines_R`): for every accepted module, structure, parameters
and buffer, every observation of `G` equals what the reference semantics R defines.  R is a Lean
object: `RFact m w`, the least set of facts about a view closed under the documented rules (no
fuel, no storage model).  Proved for the fragment `reachOK` (Model/ViewFrag.lean): byte structures
**and `bits` containers with sub-byte fields** (`Spec.bits o w x` of the container's number,
the spec C02 is proved against), **nested at any depth** (a field of structure type at a dynamic
offset with a dynamic size and run-time arguments: the facts of the inner structure over the
sub-window), `UInt`/`Int`/`Flag`/unsigned-enum scalars in any byte
order, conditional fields, virtual fields, **aliases**, parameters, `[requires]`; structures may
contain arrays of scalars (their presence is inside the theorems, their elements are not reported
through `read` — see `C01_array_refines_R_partial`, `C01_R_array_reported_by_G_partial`).
Constant-folding annotations must be closed constants (`foldFree` is `closedFolds`).  Outside the fragment (BCD/Float/signed-enum leaves, arrays of
structures, annotations that are not closed constants — where R is only a lower bound) the
comparison with R stays in Python (`embref.py`, every random case of every run).  The theorems
are stated for *every* view of the fragment (`viewWF`: a byte window for a `struct`, a number for
a `bits`), the view over a message buffer (`rootView`) being the instance one starts from. -/

/-- **G refines R** (soundness): whatever the generated view reports as known — a readable
field with its value, a presence flag, at any path into nested structures and `bits` — is a
fact of the reference semantics, at every fuel.  Hypothesis `reachOK m d w.sd` (Model/ViewFrag.lean,
decidable, evaluated by the driver on every structure of every real IR: `ref=`): the view's
structure *and every structure reachable from it through fields of structure type* are inside
the fragment — nothing is asked of the rest of the module.  (The lemmas are proved for any family
of structures closed under "type of a field", `Closed`; `closed_of_refModule` is the module-wide
instance.) -/
theorem C01_G_refines_R_partial (m : Module) (w : SView) (d : Nat) (hfr : reachOK m d w.sd = true)
    (hw : viewWF w = true) (n : Nat) :
    (∀ p v, (G m n).read w p = some v → RFact m w (.val p v)) ∧
    (∀ p b, (G m n).has w p = some b → RFact m w (.pres p b)) :=
  have h := G_sound m (closed_reach m) n w ⟨d, hfr⟩ hw
  ⟨h.read, h.has⟩

/-- **R is reported by G** (completeness): every fact of the reference semantics about a view of
the fragment is reported by the generated view once the fuel statically covers the path (`need`,
what `fuelOK` checks on every real IR).  `moduleWF` (decidable, checked by the driver on every
real IR): see `C01_moduleWF_iff`. -/
theorem C01_R_reported_by_G_partial (m : Module) (hwfm : moduleWF m = true) (w : SView) (d : Nat)
    (hfr : reachOK m d w.sd = true) (hw : viewWF w = true) (n : Nat) :
    (∀ p v, RFact m w (.val p v) → need m n w.sd p = true → (G m n).read w p = some v) ∧
    (∀ p b, RFact m w (.pres p b) → need m n w.sd p = true → (G m n).has w p = some b) :=
  G_reports m (closed_reach m) hwfm n w ⟨d, hfr⟩ hw

/-- Together: with enough fuel the generated view and the reference agree exactly, value by
value and presence by presence, at every path; in particular R is *functional* on the fragment (a
field has at most one value, a presence at most one truth value) because `G` is a function. -/
theorem C01_G_equals_R_partial (m : Module) (hwfm : moduleWF m = true) (w : SView) (d : Nat)
    (hfr : reachOK m d w.sd = true) (hw : viewWF w = true) (n : Nat) (p : List String)
    (hn : need m n w.sd p = true) :
    (∀ v, (G m n).read w p = some v ↔ RFact m w (.val p v)) ∧
    (∀ b, (G m n).has w p = some b ↔ RFact m w (.pres p b)) :=
  G_iff m (closed_reach m) hwfm n w ⟨d, hfr⟩ hw hn

/-- "The size is the largest end of any present field", on the reference: if R gives the
synthesised size field (`$size_in_bytes = synthSize fields`, cf. `sizeIsSynth`) of any view — a
nested structure or a `bits` container included — the value `r`, then there is an assignment `ρ`
consisting of R-facts only under which `r` is `ViewSpec.size` of the fields' extents — the largest
`start + size` over the fields R says are present, all of whose presences and locations R knows. -/
theorem C01_R_size_is_max_end_partial (m : Module) (w : SView)
    (fs : List Field) (hfs : fs.all locFoldFree = true) (x : String) (f : Field)
    (hf : w.sd.field x = some f) (hk : f.kind = .virt (synthSize fs) none) (r : Int)
    (h : RFact m w (.val [x] (.int r))) :
    ∃ ρ : Env, (∀ p v, ρ.read p = some v → RFact m w (.val p v)) ∧
      (∀ p c, ρ.has p = some c → RFact m w (.pres p c)) ∧
      ViewSpec.size (extents ρ fs) = some r := by
  cases h with
  | scalar ρ hf' hk' => rw [hf] at hf'; cases hf'; rw [hk] at hk'; cases hk'
  | aliasVal hf' hk' => rw [hf] at hf'; cases hf'; rw [hk] at hk'; cases hk'
  | sub ρ hf' hk' hfind hpres hr hh hp hl hs hz hs0 hz0 hargs hsub hout =>
    rename_i inner; cases inner <;> cases hout
    exact (val_path_ne_nil hsub).elim
  | nullsub hf' hk' hfind hsub hout =>
    rename_i inner; cases inner <;> cases hout
    exact (val_path_ne_nil hsub).elim
  | virt ρ hf' hk' hr hh hp hl hv hreq =>
    rw [hf] at hf'; cases hf'
    rw [hk] at hk'; cases hk'
    -- `locFoldFree` unfolds to `fieldClosedFolds`, which is what `closedFolds_synthSize` asks of `fs`
    rw [evalR_eq_eval (closedFolds_synthSize fs hfs), C01_size_is_max_end] at hv
    exact ⟨ρ, hr, hh, Option.map_injective (fun _ _ => Val.int.inj) hv⟩

/-- **Arrays of scalars** (constant or dynamic size / element count), soundness: every element
the generated view reads (`x()[i].Ok()`, `i < ElementCount()`; also in a truncated array) is an
`elem` fact of R — the value of the element's bytes at `start + i·elementsize` of the message —
and when the accessor's storage was not clamped (the array's whole extent is inside the window)
`ElementCount()` is R's `count` fact `size / elementsize`.  (`arrElem` / `arrCount`,
Model/ViewObs.lean, are the expressions `obsType` prints per element and as `n<count>`.) -/
theorem C01_array_refines_R_partial (m : Module) (w : SView) (d : Nat)
    (hfr : reachOK m d w.sd = true) (hw : viewWF w = true) (n : Nat) (x : String) (f : Field)
    (hf : w.sd.field x = some f) :
    (∀ i v, arrElem (G m n) w f i = some v → RFact m w (.elem x i v)) ∧
    (∀ start size k bits req es bo c st z,
      f.kind = .phys start size (.array (.scalar k bits req) es) bo →
      arrCount (G m n) w f = some c → physStorage (G m n) w f start size = some st →
      evalInt (envOf (G m n) w none) size = some z → st.ok = true ∧ st.size = z.toNat →
      RFact m w (.count x c)) :=
  have href := (closed_reach m).ref _ ⟨d, hfr⟩
  have hfacts := G_sound m (closed_reach m) n w ⟨d, hfr⟩ hw
  ⟨fun _ _ h => arrElem_sound href hw hfacts hf h,
   fun _ _ _ _ _ _ _ _ _ _ hk h hst hz hfull => arrCount_sound href hw hfacts hf hk h hst hz hfull⟩

/-- … and completeness: R's `count` and `elem` facts are what the generated view reports once
the fuel covers the field. -/
theorem C01_R_array_reported_by_G_partial (m : Module) (hwfm : moduleWF m = true) (w : SView) (d : Nat)
    (hfr : reachOK m d w.sd = true) (hw : viewWF w = true) (n : Nat)
    (x : String) (f : Field) (hf : w.sd.field x = some f) (hn : need m (n + 1) w.sd [x] = true) :
    (∀ c, RFact m w (.count x c) → arrCount (G m n) w f = some c) ∧
    (∀ i v, RFact m w (.elem x i v) → arrElem (G m n) w f i = some v) :=
  array_complete m (closed_reach m) hwfm n w ⟨d, hfr⟩ hw hf hn

/-- `$max_size_in_*` / `$min_size_in_*` (and every other virtual field
whose value the compiler folded to a literal, without `[requires]`) read the same constant on
**every** view — any buffer (the empty one included), any parameters, even the null view of an
absent field — at every fuel ≥ 1.  That the constants bracket the run-time size
(`Min ≤ SizeIn… ≤ Max`) is `C05_bounds_functions` (`$upper_bound`/`$lower_bound` are sound) on
the bounds model; here it is checked on every observation of every run
(`harness/corr/C01.py: constants_violations`). -/
theorem C01_constants_partial (m : Module) (o : Oracle) (w : SView) (x : String) (f : Field)
    (hf : w.sd.field x = some f) (c : Val) (orig : Expr) (hk : f.kind = .virt (.fold c orig) none) :
    (step m o).read w [x] = some c ∧ (step m o).okAt w [x] = true := by
  dsimp only [step]
  rw [hf]
  dsimp only
  rw [hk]
  exact ⟨rfl, rfl⟩

def exConstSd : StructDef :=
  { name := "S", unit := 8, params := [], requires := none, sizeField := "$size",
    fields := [ { name := "$max", anon := false, cond := .const (.bool true),
                  kind := .virt (.fold (.int 5) (.op .max (.cons (.ref ["q"]) .nil))) none } ] }

/-- non-vacuity: a `$max_size_in_bytes = 5` field on the empty buffer and on a null view -/
example :
    (G { structs := [exConstSd] } 1).read (rootView exConstSd [] []) ["$max"] = some (.int 5) ∧
    (G { structs := [exConstSd] } 1).read (nullView exConstSd) ["$max"] = some (.int 5) := by
  decide +kernel

/-- `struct Flat(p: UInt:8): 0 [+1] UInt n / if n > 0: n+1 [+1] Int y [requires: this < 100] /
let v = y + p / let $size = …` -/
def exFlatPhys : List Field :=
  [ { name := "n", anon := false, cond := .const (.bool true),
      kind := .phys (.const (.int 0)) (.const (.int 1)) (.scalar .uint 8 none) .le },
    { name := "y", anon := false, cond := .op .gt (.cons (.ref ["n"]) (.cons (.const (.int 0)) .nil)),
      kind := .phys (.op .add (.cons (.ref ["n"]) (.cons (.const (.int 1)) .nil))) (.const (.int 1))
        (.scalar .int 8 (some (.op .lt (.cons .lv (.cons (.const (.int 100)) .nil))))) .le },
    { name := "v", anon := false, cond := .const (.bool true),
      kind := .virt (.op .add (.cons (.ref ["y"]) (.cons (.param "p") .nil))) none } ]

def exFlatSize : Field :=
  { name := "$size", anon := false, cond := .const (.bool true), kind := .virt (synthSize exFlatPhys) none }

def exFlat : StructDef :=
  { name := "Flat", unit := 8, params := ["p"], requires := none, sizeField := "$size",
    fields := exFlatPhys ++ [exFlatSize] }

/-- `bits Bf: 0 [+1] Flag a / 1 [+3] UInt b / 4 [+4] Int c` -/
def exBits : StructDef :=
  { name := "Bf", unit := 1, params := [], requires := none, sizeField := "$size",
    fields :=
      [ { name := "a", anon := false, cond := .const (.bool true),
          kind := .phys (.const (.int 0)) (.const (.int 1)) (.scalar .flag 1 none) .null },
        { name := "b", anon := false, cond := .const (.bool true),
          kind := .phys (.const (.int 1)) (.const (.int 3)) (.scalar .uint 3 none) .null },
        { name := "c", anon := false, cond := .const (.bool true),
          kind := .phys (.const (.int 4)) (.const (.int 4)) (.scalar .int 4 none) .null } ] }

/-- `struct In(p: UInt:8): 0 [+1] UInt k / 1 [+1] Bf fl / let s = k + p / let cc = fl.c / let one = 1 /
`$size_in_bytes = ⟨2⟩ $max(0, true ? 0+1 : 0, true ? 1+1 : 0)` (annotated by the compiler) -/
def exInner : StructDef :=
  { name := "In", unit := 8, params := ["p"], requires := none, sizeField := "$size",
    fields :=
      [ { name := "k", anon := false, cond := .const (.bool true),
          kind := .phys (.const (.int 0)) (.const (.int 1)) (.scalar .uint 8 none) .le },
        { name := "fl", anon := false, cond := .const (.bool true),
          kind := .phys (.const (.int 1)) (.const (.int 1)) (.struct "Bf" 8 .nil) .le },
        { name := "s", anon := false, cond := .const (.bool true),
          kind := .virt (.op .add (.cons (.ref ["k"]) (.cons (.param "p") .nil))) none },
        { name := "cc", anon := false, cond := .const (.bool true), kind := .alias ["fl", "c"] },
        { name := "one", anon := false, cond := .const (.bool true), kind := .virt (.const (.int 1)) none },
        -- the compiler's annotation on an all-static size: a closed constant, inside the fragment
        { name := "$size", anon := false, cond := .const (.bool true),
          kind := .virt (.fold (.int 2) (.op .max (.cons (.const (.int 0))
            (.cons (sizeClause (.const (.bool true)) (.const (.int 0)) (.const (.int 1)))
              (.cons (sizeClause (.const (.bool true)) (.const (.int 1)) (.const (.int 1))) .nil))))) none } ] }

def exOuterN : Field :=
  { name := "n", anon := false, cond := .const (.bool true),
    kind := .phys (.const (.int 0)) (.const (.int 1)) (.scalar .uint 8 none) .le }

/-- `struct Out: 0 [+1] UInt n / if n > 0: n [+2] In(n) in / let v = in.s / n+2 [+n] UInt:8[] arr` -/
def exOuter : StructDef :=
  { name := "Out", unit := 8, params := [], requires := none, sizeField := "$size",
    fields :=
      [ exOuterN,
        { name := "in", anon := false, cond := .op .gt (.cons (.ref ["n"]) (.cons (.const (.int 0)) .nil)),
          kind := .phys (.ref ["n"]) (.const (.int 2)) (.struct "In" 0 (.cons (.ref ["n"]) .nil)) .le },
        { name := "v", anon := false, cond := .const (.bool true), kind := .virt (.ref ["in", "s"]) none },
        { name := "arr", anon := false, cond := .const (.bool true),
          kind := .phys (.op .add (.cons (.ref ["n"]) (.cons (.const (.int 2)) .nil))) (.ref ["n"])
            (.array (.scalar .uint 8 none) 1) .le } ] }

def exNest : Module := { structs := [exOuter, exInner, exBits, exFlat] }

/-- non-vacuity of the refinement theorems: the module (a structure with a conditional nested
parameterised structure at a dynamic offset, which contains a `bits` container with a flag, a
3-bit unsigned and a 4-bit signed field, an alias into it, a virtual field over a parameter; an
array of scalars; and a flat structure) is inside the fragment, fuel 6 covers the
paths, and on `02 ff 07 a5` (n = 2; `in` = `07 a5`: k = 7, fl = 0xa5: a = 1, b = 2, c = -6) the
model computes `in.s = 9 = v`, `in.fl.c = -6 = in.cc`; with `n = 0` the inner structure is absent
but its constant `one` still reads 1 (null view). -/
example :
    reachOK exNest 4 exOuter = true ∧ reachOK exNest 4 exFlat = true ∧ moduleWF exNest = true ∧
    structInFragment exNest exOuter = true ∧
    viewWF (rootView exOuter [] [2, 255, 7, 165]) = true ∧
    need exNest 6 exOuter ["in", "fl", "c"] = true ∧ need exNest 6 exOuter ["v"] = true ∧
    (G exNest 6).read (rootView exOuter [] [2, 255, 7, 165]) ["in", "fl", "c"] = some (.int (-6)) ∧
    (G exNest 6).read (rootView exOuter [] [2, 255, 7, 165]) ["in", "fl", "a"] = some (.bool true) ∧
    (G exNest 6).read (rootView exOuter [] [2, 255, 7, 165]) ["in", "fl", "b"] = some (.int 2) ∧
    (G exNest 6).read (rootView exOuter [] [2, 255, 7, 165]) ["in", "cc"] = some (.int (-6)) ∧
    (G exNest 6).read (rootView exOuter [] [2, 255, 7, 165]) ["v"] = some (.int 9) ∧
    (G exNest 6).read (rootView exOuter [] [2, 255, 7]) ["in", "fl", "c"] = none ∧
    (G exNest 6).read (rootView exOuter [] [2, 255, 7]) ["in", "k"] = some (.int 7) ∧
    (G exNest 6).has (rootView exOuter [] [0]) ["in"] = some false ∧
    (G exNest 6).read (rootView exOuter [] [0]) ["in", "one"] = some (.int 1) ∧
    (G exNest 6).read (rootView exOuter [] [0]) ["in", "k"] = none ∧
    need exNest 6 exOuter ["in", "$size"] = true ∧
    (G exNest 6).read (rootView exOuter [] [0]) ["in", "$size"] = some (.int 2) ∧
    need exNest 4 exFlat ["v"] = true ∧
    (G exNest 4).read (rootView exFlat [.int 7] [1, 0, 254]) ["v"] = some (.int 5) ∧
    (G exNest 4).read (rootView exFlat [.int 7] [1, 0, 254]) ["$size"] = some (.int 3) ∧
    (G exNest 4).has (rootView exFlat [.int 7] [0]) ["y"] = some false ∧
    (G exNest 4).read (rootView exFlat [.int 7] [1, 0]) ["y"] = none := by
  decide +kernel

/-- … hence these are facts of R (derived through the theorem, not by hand) — a sub-byte field of
a `bits` container inside a nested structure at a dynamic offset; a fact below an absent field —
and R's size fact is the largest end of a present field. -/
example : RFact exNest (rootView exOuter [] [2, 255, 7, 165]) (.val ["in", "fl", "c"] (.int (-6))) ∧
    RFact exNest (rootView exOuter [] [0]) (.val ["in", "one"] (.int 1)) ∧
    RFact exNest (rootView exFlat [.int 7] [1, 0, 254]) (.val ["v"] (.int 5)) ∧
    RFact exNest (rootView exFlat [.int 7] [0]) (.pres ["y"] false) ∧
    ∃ ρ : Env, ViewSpec.size (extents ρ exFlatPhys) = some 3 := by
  refine ⟨
    (C01_G_refines_R_partial exNest _ 4 (by decide +kernel) (by decide +kernel) 6).1 _ _
      (by decide +kernel),
    (C01_G_refines_R_partial exNest _ 4 (by decide +kernel) (by decide +kernel) 6).1 _ _
      (by decide +kernel),
    (C01_G_refines_R_partial exNest _ 4 (by decide +kernel) (by decide +kernel) 4).1 _ _
      (by decide +kernel),
    (C01_G_refines_R_partial exNest _ 4 (by decide +kernel) (by decide +kernel) 4).2 _ _
      (by decide +kernel), ?_⟩
  obtain ⟨ρ, _, _, h⟩ := C01_R_size_is_max_end_partial exNest (rootView exFlat [.int 7] [1, 0, 254])
    exFlatPhys (by decide +kernel) "$size" exFlatSize (by rfl) rfl 3
    ((C01_G_refines_R_partial exNest _ 4 (by decide +kernel) (by decide +kernel) 4).1 _ _
      (by decide +kernel))
  exact ⟨ρ, h⟩

/-- and conversely (completeness): an R-fact derived by hand — `n` is present, by the `pres` rule
with the empty assignment — is reported by the model. -/
example : (G exNest 6).has (rootView exOuter [] [2, 255, 7, 165]) ["n"] = some true :=
  (C01_R_reported_by_G_partial exNest (by decide +kernel) _ 4 (by decide +kernel) (by decide +kernel) 6).2 _ _
    (RFact.pres { read := fun _ => none, has := fun _ => none, param := fun _ => none, lv := none }
      (f := exOuterN) (by rfl) (by intro p v h; cases h) (by intro p c h; cases h)
      (by intro n v h; cases h) rfl (by decide +kernel)) (by decide +kernel)

def exOuterArr : Field :=
  { name := "arr", anon := false, cond := .const (.bool true),
    kind := .phys (.op .add (.cons (.ref ["n"]) (.cons (.const (.int 2)) .nil))) (.ref ["n"])
      (.array (.scalar .uint 8 none) 1) .le }

/-- non-vacuity of the array theorems: `arr` (`n+2 [+n] UInt:8[]`, dynamic element count) over
`02 ff 07 a5 0b 0c` has 2 elements 11, 12; over the truncated `02 ff 07 a5 0b` the model still
reads element 0 (= 11, an R fact by the theorem) and reports the clamped count 1, which is *not*
claimed by R (the count hypothesis `st.size = z` fails). -/
example :
    exOuter.field "arr" = some exOuterArr ∧ need exNest 6 exOuter ["arr"] = true ∧
    arrCount (G exNest 5) (rootView exOuter [] [2, 255, 7, 165, 11, 12]) exOuterArr = some 2 ∧
    arrElem (G exNest 5) (rootView exOuter [] [2, 255, 7, 165, 11, 12]) exOuterArr 1 = some (.int 12) ∧
    arrElem (G exNest 5) (rootView exOuter [] [2, 255, 7, 165, 11, 12]) exOuterArr 2 = none ∧
    arrCount (G exNest 5) (rootView exOuter [] [2, 255, 7, 165, 11]) exOuterArr = some 1 ∧
    arrElem (G exNest 5) (rootView exOuter [] [2, 255, 7, 165, 11]) exOuterArr 0 = some (.int 11) := by
  refine ⟨by rfl, ?_⟩
  decide +kernel

example : RFact exNest (rootView exOuter [] [2, 255, 7, 165, 11]) (.elem "arr" 0 (.int 11)) :=
  (C01_array_refines_R_partial exNest _ 4 (by decide +kernel) (by decide +kernel) 5 "arr" exOuterArr (by rfl)).1
    _ _ (by decide +kernel)

end

/-! ### counterexample outside `moduleWF`: a fixed-size scalar in a dynamically sized field -/

/-- `struct Foo:  0 [+1] UInt n   1 [+n] UInt:8 x` — accepted by the compiler (cf.
`testdata/virtual_field.emb`, `4 [+two_x] UInt:32 size_two_x`). -/
def cexSd : StructDef :=
  { name := "Foo", unit := 8, params := [], requires := none, sizeField := "$size",
    fields :=
      [ { name := "n", anon := false, cond := .const (.bool true),
          kind := .phys (.const (.int 0)) (.const (.int 1)) (.scalar .uint 8 none) .le },
        { name := "x", anon := false, cond := .const (.bool true),
          kind := .phys (.const (.int 1)) (.ref ["n"]) (.scalar .uint 8 none) .le } ] }

def cexM : Module := { structs := [cexSd] }

/-- Without the hypothesis `moduleWF` prefix monotonicity fails *in the generated code's own
logic*: `GetOffsetStorage` clamps the requested 5 bytes to the 1 byte that is there, the
`BitBlock<…, 8>` finds exactly 8 bits and `x` reads 7; one more byte and the clamped storage has
2 bytes, the `BitBlock` is not Ok and `x` becomes unreadable.  Replayed on the real code by
harness/corr/C01.py (known finding `monotone:fixed-size-type-in-dynamically-sized-field`). -/
theorem C01_prefix_monotone_counterexample :
    moduleWF cexM = false ∧
    (G cexM 4).read (rootView cexSd [] [5, 7]) ["x"] = some (.int 7) ∧
    (G cexM 4).read (rootView cexSd [] ([5, 7] ++ [9])) ["x"] = none := by
  decide +kernel

/-- non-vacuity of `C01_moduleWF_iff`: C01's example module satisfies both parts; the
counterexample of the open finding satisfies the part the front end enforces and fails only the
other one. -/
example : moduleConstMatch exM = true ∧ moduleNoDynFixed exM = true ∧
    moduleConstMatch cexM = true ∧ moduleNoDynFixed cexM = false := by
  decide +kernel

end Emboss.View
