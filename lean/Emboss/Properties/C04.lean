/-
C04 — Checked view operations never leave the buffer or hit undefined behaviour.

Layer 2 of DESIGN §7 C04 (byte-window contract) for the view model `G` of C01.  The model follows
the code as repaired in /repo by a39ac01 (NullByteOrderer size) and 1e1a793 (unguarded
virtual-field write); the inputs that failed before those fixes are regression `example`s here
and corpus entries of the check.  Layer 1 (arithmetic overflow freedom) is
`Emboss/Properties/C04Arith.lean`, restated here as `C04_arith_no_overflow`.
Layer 3 (sanitized correspondence) is harness/corr/C04.py.  Real memory safety is claimed only as
far as the model and the sanitizers reach (pointer formation, aliasing, the compiler's view of UB
are outside both): level *partial*.

Text layer: `C04_text_buffer_in_bounds` — the scratch array of `WriteIntegerToTextStream`
(emboss_text_util.h) is never indexed outside `[0, size)`, for every value of every integer type,
base and grouping; size formula and offsets regenerated from the header text
(Generated/TextBuf.lean), control flow = `Emboss.Text.writeInt` (tied by C06's correspondence).
-/
import Emboss.Lemmas.Window
import Emboss.Properties.C04Arith
import Emboss.Lemmas.TextBuf
namespace Emboss.View

/-! ### windows: what `GetOffsetStorage` hands out -/

/-- `GetOffsetStorage` clamps: the storage handed to a field view never extends past the storage
it was taken from, whatever offset and size the (possibly garbage) message contains. -/
theorem C04_getOffsetStorage_in_bounds (w : Window) (total offset size : Nat) (h : w.safe total) :
    ∀ i ∈ (w.sub offset size).indices, i < total :=
  (Window.sub_safe h offset size).indices_lt

/-- Every chain of accessors (`view.a().b()[i].c()` …: any sequence of `GetOffsetStorage` calls
with arbitrary offsets and sizes) starting from a view over a buffer of `total` bytes yields a
window whose bytes are all inside the buffer. -/
theorem C04_accesses_in_bounds (total : Nat) (path : List (Nat × Nat)) :
    ∀ i ∈ (path.foldl (fun (w : Window) p => w.sub p.1 p.2) ({ off := 0, len := total } : Window)).indices,
      i < total :=
  (Window.foldl_sub_safe path (Or.inr (Nat.le_of_eq (Nat.zero_add total)))).indices_lt

/-- The list-slice storage of the view model `G` *is* the pointer window.  With `d = (buf.drop w.off).take w.len`
the bytes of `w`, the right-hand side is the payload of `Storage.sub (.bytes (some d)) offset size` (Model/View.lean);
the left-hand side is the bytes of the buffer in the window `w.sub offset size`. -/
theorem C04_window_is_slice (buf : List Nat) (w : Window) (offset size : Nat) :
    (buf.drop (w.sub offset size).off).take (w.sub offset size).len =
      (((buf.drop w.off).take w.len).drop offset).take size := by
  unfold Window.sub
  simp only
  rw [List.drop_take, List.drop_drop, List.take_take]
  split
  · rename_i h
    have : min size (w.len - offset) = 0 := by omega
    rw [this]
  · rfl

/-- non-vacuity of the window theorems: a 4-byte buffer, field at offset 2 of size 5 (clamped to
2 bytes), then element 1 of size 1 inside it; a field at offset 9 yields an empty window. -/
example :
    ((({ off := 0, len := 4 } : Window).sub 2 5).sub 1 1) = { off := 3, len := 1 } ∧
    (({ off := 0, len := 4 } : Window).sub 9 2) = { off := 9, len := 0 } ∧
    (([10, 11, 12, 13].drop 3).take 1 = [13]) := by
  decide

/-! ### byte orderers: what `BitBlock<Orderer<buffer>, 8·k>` reads -/

/-- A `BitBlock` that is Ok reads inside the buffer, for every byte orderer (little-endian,
big-endian, and the null orderer of one-byte fields without a byte order).  Until fix a39ac01
the null orderer answered `SizeInBytes() = 1` over an empty window and this failed for it
(regression input: corpus/C04/null_order_truncated.emb, `OBS Foo 01`). -/
theorem C04_bitblock_reads_in_bounds (bo : ByteOrder) (k total : Nat) (w : Window)
    (h : w.safe total) : ∀ i ∈ bitBlockReads bo k w, i < total := by
  intro i hi
  unfold bitBlockReads ordererSize at hi
  split at hi
  · next hk => subst hk; exact h.indices_lt i hi
  · cases hi

/-- non-vacuity, and the input that failed before fix a39ac01 as a regression test:
`struct Foo: 0 [+1] UInt x 1 [+1] UInt y` (null byte order) over a 1-byte buffer: `y()`'s storage is the empty window at
offset 1 and the `BitBlock` is *not* Ok — nothing is read; over 2 bytes it reads index 1. -/
example :
    bitBlockReads .null 1 (({ off := 0, len := 1 } : Window).sub 1 1) = [] ∧
    bitBlockReads .null 1 (({ off := 0, len := 2 } : Window).sub 1 1) = [1] := by decide

/-! ### virtual-field writes: range check first, then the inverse transform -/

/-- `CouldWriteValue` / `TryToWrite` of an arithmetic virtual field (`let v = x - 10`,
`x : UInt:8`: `lo = -10`, `hi = 245`, inverse transform `v + 10`): since fix 1e1a793 the argument
is compared with the field's inferred range *before* the inverse transform is computed, so for
**every** argument of the accessor's value type (garbage, `INT32_MAX`, …) the addition is either
not executed or cannot overflow, provided the transform is overflow-free on the inferred range
itself (which is `C04_arith_no_overflow`'s subject: the range of `v + 10` is the range of `x`). -/
theorem C04_virtual_write_checked_no_overflow (lo hi k : Int)
    (hlo : -2147483648 ≤ lo + k) (hhi : hi + k ≤ 2147483647) (v : Int) :
    virtWriteI32 lo hi k v = some (decide (lo ≤ v ∧ v ≤ hi)) := by
  unfold virtWriteI32 addI32
  by_cases h : v < lo ∨ v > hi
  · rw [if_pos h, decide_eq_false (by omega)]
  · rw [if_neg h, if_pos (by omega), decide_eq_true (by omega)]; rfl

/-- non-vacuity + the input that failed before fix 1e1a793 (finding F3,
`ubsan:virtual-field-CouldWriteValue-extreme-argument`) as a regression test: the unguarded sum
overflows for `INT32_MAX`; the guarded one answers "not writable" without computing it. -/
example :
    addI32 2147483647 10 = none ∧ virtWriteI32 (-10) 245 10 2147483647 = some false ∧
    virtWriteI32 (-10) 245 10 245 = some true := by decide

/-! ### arithmetic (layer 1) -/

/-- Layer 1, restated from `Emboss.Properties.C04Arith` (model
`Emboss/Model/CppArith.lean`): for every expression whose annotated tree passes the 64-bit gate
of `constraints.py` (and whose referenced virtual fields pass it too), with leaves holding values
of their physical types, the generated fixed-width C++ evaluation (operands cast to
`IntermediateT`, result cast to `ResultT`, types chosen by `_cpp_integer_type_for_range`) never
overflows, never truncates and yields the unbounded-ℤ value the view model `G` computes with —
or the header does not compile (`Choice` static_assert).  `Emboss.Bounds.nodeTypes` repeats the
computation of `IntermediateT/ResultT` that `cppOp` does at a node; what it answers (`model_c04 NODE`,
`CPPTYPE`) is compared with the types literally present in every generated header by harness/corr/C04.py
(carrier-type tie).  Restated here so that this file and Audit/C04.lean show every layer of C04. -/
theorem C04_arith_no_overflow (ρ : Emboss.Bounds.Env) (e : Emboss.Bounds.Expr)
    (t : Emboss.Bounds.ATree) (v : Emboss.Bounds.CVal)
    (hann : Emboss.Bounds.annot e = some t) (hgate : Emboss.Bounds.gate t = some [])
    (henv : Emboss.Bounds.EnvOk ρ e) (hev : Emboss.Bounds.eval ρ e = some v)
    (hvref : Emboss.Bounds.vrefsGated e = true) :
    Emboss.Bounds.cppEval ρ e = .ok v ∨ Emboss.Bounds.cppEval ρ e = .staticAssert :=
  Emboss.Bounds.C04_no_overflow ρ e t v hann hgate henv hev hvref

/-- non-vacuity of `C04_arith_no_overflow` on the shape seeded change C04-m2 targets:
`0 - x` over `Int:32 x` holding `INT32_MIN`: range `-(2^31-1) .. 2^31` needs `int64_t`; the model
picks it (`opTypes`) and the evaluation is exact. -/
example :
    let e : Emboss.Bounds.Expr := .bin .sub (.const 0) (.ileaf 0 .sint (some 32))
    let ρ : Emboss.Bounds.Env := ⟨fun _ => -2147483648, fun _ => false, fun _ => 0⟩
    (∃ t, Emboss.Bounds.annot e = some t ∧ Emboss.Bounds.gate t = some []) ∧
      Emboss.Bounds.cppEval ρ e = .ok (.int 2147483648) ∧
      Emboss.Bounds.opTypes e = some [(some .i64, some .i64)] := by
  refine ⟨⟨_, rfl, by decide +kernel⟩, by decide +kernel, by decide +kernel⟩

end Emboss.View

/-! ### text layer: the scratch array of `WriteIntegerToTextStream` -/

namespace Emboss.Text
open Emboss.Generated.TextBuf

/-- The trace really is what the C++ does with `next_char`: NUL store at `size - 1`, then exactly
one store per character of `writeInt` at `size - 2, size - 3, …`, then the read start. -/
theorem C04_text_buffer_trace_is_writeInt (size : Nat) (T : IntTy) (x : Int) (base : Base)
    (grouping : Bool) :
    writeIntTrace size T x base grouping =
      ((size : Int) - 1) ::
        ((List.range (writeInt T x base grouping).length).map
            (fun (k : Nat) => (size : Int) - 2 - (k : Int)) ++
          [1 + ((size : Int) - 2 - ((writeInt T x base grouping).length : Int))]) := by
  have hn : nulBack = 1 := by decide
  have hf : firstBack = 2 := by decide
  rw [writeIntTrace_eq, hn, hf]
  rfl

/-- `WriteIntegerToTextStream<T>(x, stream, base, grouping)` (runtime/cpp/emboss_text_util.h)
fills `char buffer[buffer_size]` from the right through `next_char` and hands
`buffer + 1 + next_char` to `stream->Write`.  For **every** integer type `T` the function is
instantiated with, every value `x` of that type, every base and both grouping settings, every
index the function touches — the `'\0'` store, each `buffer[next_char] = c` (so also each
`EMBOSS_DCHECK_GE(next_char, 0)`), and the start of the final read — lies in `[0, buffer_size)`.

* `bufferSize`, the NUL index and the initial `next_char` are **regenerated from the header text**
  on every run (harness/translate/textbuf.py → Generated/TextBuf.lean): shrinking the formula
  (seeded change C04-m1: `+ 3` → `+ 2`) makes this proof fail and re-opens the obligation.
* `writeIntTrace` (Model/TextBuf.lean) mirrors the index arithmetic statement by statement;
  `writeIntTrace_eq` shows it is `(writeInt T x base grouping).length` consecutive stores, and
  `writeInt` is compared with the real function on every run of C06 (`model_c06`).
* Assumes `CHAR_BIT = 8` (`T.bits = sizeof(T) * CHAR_BIT`) and that `int` holds the size (≤ 75). -/
theorem C04_text_buffer_in_bounds (T : IntTy) (x : Int) (base : Base) (grouping : Bool)
    (hx : T.InRange x) :
    ∀ i ∈ writeIntTrace (bufferSize T.bits) T x base grouping,
      0 ≤ i ∧ i < (bufferSize T.bits : Int) := by
  have hlen := writeInt_length_succ_le_bufferSize T x base grouping hx
  intro i hi
  rw [C04_text_buffer_trace_is_writeInt] at hi
  generalize bufferSize T.bits = size at *
  generalize (writeInt T x base grouping).length = n at *
  simp only [List.mem_cons, List.mem_append, List.mem_map, List.mem_range, List.mem_nil_iff,
    or_false] at hi
  rcases hi with rfl | ⟨k, hk, rfl⟩ | rfl <;> omega

/-- non-vacuity / tests (by evaluation, concrete inputs): the hypotheses are met by the extreme value
of every width; the bound is **attained** — `-0b10000000` needs all 12 chars of the `int8_t`
array, first store at index 10, last at 0, read from 0; for `int64_t` 75 of 75. -/
example :
    IntTy.i8.InRange (-128) ∧ IntTy.u64.InRange 18446744073709551615 ∧
    bufferSize IntTy.i8.bits = 12 ∧ bufferSize IntTy.i64.bits = 75 ∧
    writeIntTrace 12 .i8 (-128) .b2 true = [11, 10, 9, 8, 7, 6, 5, 4, 3, 2, 1, 0, 0] ∧
    writeIntTrace 12 .i8 0 .b10 false = [11, 10, 10] ∧
    writeIntTrace 12 .u8 255 .b16 true = [11, 10, 9, 8, 7, 7] ∧
    (writeIntTrace 75 .i64 (-9223372036854775808) .b2 true).getLast? = some 0 ∧
    (writeIntTrace 75 .i64 (-9223372036854775808) .b2 true).length = 76 := by decide +kernel

/-- Witness (a test by evaluation, labelled as such) that the size is tight: with an array one
char shorter — what seeded change C04-m1 produces — `int8_t`, `-128`, base 2, grouping stores
`'-'` at index −1 (the real code: `EMBOSS_DCHECK_GE(next_char, 0)` abort, or a stack write out of
bounds in NDEBUG builds). -/
theorem C04_text_buffer_tight_counterexample :
    (-1 : Int) ∈ writeIntTrace (bufferSize IntTy.i8.bits - 1) .i8 (-128) .b2 true ∧
    IntTy.i8.InRange (-128) := by decide +kernel

end Emboss.Text
