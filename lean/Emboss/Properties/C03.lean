/-
C03 — Field writes are range-checked, read back exactly, touch only their own bits.

Property theorems (helper lemmas: Emboss/Lemmas/ScalarWrite, WriteInference).  Model:
Emboss/Model/{Bits,Scalar,WriteInference}.lean.  Spec: Emboss/Spec/{Scalar,WriteInference}.lean.
All theorems are for an arbitrary placement `Placed bb o w` (any container
c ∈ {8,…,64}, any width, any offset with o + w ≤ c, any byte order, either code path, any
contents) and both kinds of view buffer (`direct`: field of a struct; otherwise field of a bits).
The last part is about write inference and the generated virtual-field write methods (model
Emboss/Model/WriteInference.lean, fixed-width types from Emboss/Model/CppInt.lean with the lemmas
of Emboss/Lemmas/CppInt.lean).  The two parts speak of a C++ integer type in two vocabularies,
`Scalar.IntT` with `Bits.wrap/toSigned/ofInt` and `CppInt.IntTy` with `CppInt.wrap`; no theorem
relates them.
-/
import Emboss.Properties.C02
import Emboss.Lemmas.ScalarWrite
import Emboss.Lemmas.WriteInference
namespace Emboss.Scalar
open Emboss.Bits Emboss.Scalar.Spec

variable {bb : BitBlock} {o w : Nat}

/-- **UIntView::CouldWriteValue** (the two-step shift expression, with integer promotion, for
every argument type up to 64 bits) accepts exactly the representable values `0 ≤ x < 2^w`. -/
theorem C03_could_write_iff_representable_uint (h : Placed bb o w) (direct : Bool) (t : IntT)
    (x : Int) (ha : ArgOk .uint w t x) :
    (fieldView .uint direct bb o w).couldWrite t x = true ↔ Representable .uint w x :=
  could_iff_representable h direct .uint trivial t x ha

example : (fieldView .uint false exBB 9 5).couldWrite ⟨true, 32⟩ 31 = true ∧
    (fieldView .uint false exBB 9 5).couldWrite ⟨true, 32⟩ 32 = false ∧
    (fieldView .uint false exBB 9 5).couldWrite ⟨true, 32⟩ (-1) = false := by decide

/-- **IntView::CouldWriteValue** (the piecewise expression incl. `kBits == 1`; the lower
bound is skipped for unsigned argument types) accepts exactly `-2^(w-1) ≤ x < 2^(w-1)`. -/
theorem C03_could_write_iff_representable_int (h : Placed bb o w) (direct : Bool) (t : IntT)
    (x : Int) (ha : ArgOk .int w t x) :
    (fieldView .int direct bb o w).couldWrite t x = true ↔ Representable .int w x :=
  could_iff_representable h direct .int trivial t x ha

example : (fieldView .int false exBB 9 5).couldWrite ⟨false, 64⟩ 15 = true ∧
    (fieldView .int false exBB 9 5).couldWrite ⟨false, 64⟩ 16 = false ∧
    (fieldView .int false exBB 9 5).couldWrite ⟨true, 8⟩ (-16) = true ∧
    (fieldView .int false exBB 9 5).couldWrite ⟨true, 8⟩ (-17) = false := by decide

/-- **BcdView::CouldWriteValue** (`value <= MaxBcd(kBits)`) accepts exactly the values some
`w`-bit pattern with decimal nibbles denotes. -/
theorem C03_could_write_iff_representable_bcd (h : Placed bb o w) (direct : Bool) (t : IntT)
    (x : Int) (ha : ArgOk .bcd w t x) :
    (fieldView .bcd direct bb o w).couldWrite t x = true ↔ Representable .bcd w x :=
  could_iff_representable h direct .bcd trivial t x ha

example : (fieldView .bcd false exBB 9 5).couldWrite ⟨false, 8⟩ 19 = true ∧
    (fieldView .bcd false exBB 9 5).couldWrite ⟨false, 8⟩ 20 = false := by decide

/-- **FlagView::CouldWriteValue**: both booleans are accepted and representable (a conjunction,
not an equivalence: nothing is refused). -/
theorem C03_could_write_iff_representable_flag (direct : Bool) (t : IntT)
    (x : Int) (ha : ArgOk .flag 1 t x) :
    (fieldView .flag direct bb o 1).couldWrite t x = true ∧ Representable .flag 1 x := by
  refine ⟨rfl, ?_⟩
  rcases ha with rfl | rfl
  · exact ⟨0, by decide, rfl⟩
  · exact ⟨1, by decide, rfl⟩

example : ArgOk .flag 1 ⟨false, 8⟩ 1 ∧ (fieldView .flag false exBB 10 1).couldWrite ⟨false, 8⟩ 1 = true :=
  ⟨Or.inr rfl, rfl⟩

/-- **EnumView::CouldWriteValue**, unsigned enums (any underlying type `uw ≥ w`, any buffer
value type): accepts exactly `x < 2^w`. -/
theorem C03_could_write_iff_representable_enum (h : Placed bb o w) (direct : Bool) (uw : Nat)
    (huw : w ≤ uw) (t : IntT) (x : Int) (ha : ArgOk (.enum uw false) w t x) :
    (fieldView (.enum uw false) direct bb o w).couldWrite t x = true ↔
      Representable (.enum uw false) w x :=
  could_iff_representable h direct (.enum uw false) huw t x ha

example : (fieldView (.enum 64 false) false exBB 9 5).couldWrite ⟨false, 64⟩ 31 = true ∧
    (fieldView (.enum 64 false) false exBB 9 5).couldWrite ⟨false, 64⟩ 32 = false := by decide

/-
Full statement (false on the real code, see the counterexample below):
  ∀ uw ≥ w, couldWrite x = true ↔ Representable (.enum uw true) w x
-/
/-- **EnumView::CouldWriteValue**, signed enums, partial: when the field has the width of the
underlying type (`w = uw`; the buffer's value type may be wider — an `int8_t` enum at bit 4 of
a 16-bit `bits` — because the value is converted through the unsigned underlying type) exactly
the representable values, i.e. every
value of the enum type, are accepted.  Missing: fields narrower than the underlying type
(open finding `signed-enum-in-field-narrower-than-underlying-type`, see
`C03_could_write_enum_signed_actual`). -/
theorem C03_could_write_enum_signed_partial (h : Placed bb o w) (direct : Bool)
    (t : IntT) (x : Int) (ha : ArgOk (.enum w true) w t x) :
    ((fieldView (.enum w true) direct bb o w).couldWrite t x = true ↔
      Representable (.enum w true) w x) ∧
    (fieldView (.enum w true) direct bb o w).couldWrite t x = true :=
  have hc := could_iff_representable h direct (.enum w true) rfl t x ha
  ⟨hc, hc.mpr ((representable_signed (.enum w true) rfl h.w_pos x).mpr ha)⟩

-- non-vacuity: an `int8_t` enum occupying one byte of a struct (`w = uw = W = 8`), and the
-- pinned input of the fixed finding: the same enum at bit 4 of a 16-bit `bits` (`W = 16`)
example : exBB8.W = 8 ∧ (fieldView (.enum 8 true) true exBB8 0 8).couldWrite ⟨true, 8⟩ (-128) = true := by
  decide
def exBB16 : BitBlock := { order := .little, path := .opt, c := 16, bytes := [0, 0] }
example : exBB16.W = 16 ∧
    (fieldView (.enum 8 true) false exBB16 4 8).couldWrite ⟨true, 8⟩ (-1) = true ∧
    (∃ v', (fieldView (.enum 8 true) false exBB16 4 8).tryToWrite ⟨true, 8⟩ (-1) = .written v' ∧
      v'.buf.bytes = [0xf0, 0x0f] ∧ v'.read = some (-1)) := ⟨by decide, by decide, _, rfl, by decide, by decide⟩

/-- **EnumView::CouldWriteValue of a signed enum, the behaviour of the code for every
`(w, uw, W)`** (`w ≤ uw`, any buffer value type): a field as wide as the underlying type
accepts every value; a narrower field accepts exactly `0 ≤ x < 2^w`.  Compared with the
documented two's-complement range `-2^(w-1) ≤ x < 2^(w-1)` the narrow field wrongly refuses
the negative half and wrongly accepts `2^(w-1) ≤ x < 2^w` — the open finding. -/
theorem C03_could_write_enum_signed_actual (h : Placed bb o w) (direct : Bool) (uw : Nat)
    (huw : w ≤ uw) (t : IntT) (x : Int) (ha : ArgOk (.enum uw true) w t x) :
    ((fieldView (.enum uw true) direct bb o w).couldWrite t x = true ↔
      (w = uw ∨ (0 ≤ x ∧ x < ((2 ^ w : Nat) : Int)))) ∧
    (w < uw → (((fieldView (.enum uw true) direct bb o w).couldWrite t x = true ↔
        Representable (.enum uw true) w x) ↔
      ((0 ≤ x ∧ x < ((2 ^ (w - 1) : Nat) : Int)) ∨ x < -((2 ^ (w - 1) : Nat) : Int) ∨
        ((2 ^ w : Nat) : Int) ≤ x))) := by
  have hc : (fieldView (.enum uw true) direct bb o w).couldWrite t x = true ↔ _ :=
    (enum_could h.w_pos huw (by rw [fieldBuf_W]; exact placed_w_le_W h) ha).trans
      (enum_signed_fit huw ha.1 ha.2)
  refine ⟨hc, fun hlt => ?_⟩
  rw [hc, representable_signed (.enum uw true) rfl h.w_pos]
  -- linear arithmetic in `x`, `2^w = 2·2^(w-1)`, with `w ≠ uw`
  have hd := Nat.two_pow_pred_mul_two h.w_pos
  omega

/-- **Counterexample**: a 4-bit field of an `int8_t` enum refuses `-1` (representable in
4-bit two's complement) and accepts `15` (not representable). -/
theorem C03_enum_signed_narrow_counterexample :
    (fieldView (.enum 8 true) false exBB8 0 4).couldWrite ⟨true, 8⟩ (-1) = false ∧
    Representable (.enum 8 true) 4 (-1) ∧
    (fieldView (.enum 8 true) false exBB8 0 4).couldWrite ⟨true, 8⟩ 15 = true ∧
    ¬ Representable (.enum 8 true) 4 15 := by
  refine ⟨by decide, ⟨15, by decide, by decide⟩, by decide, ?_⟩
  rw [representable_signed (.enum 8 true) rfl (by decide)]
  decide

/-- **Write then read**: whenever `CouldWriteValue(x)` holds (the view being complete),
`TryToWrite(x)` succeeds, the buffer stays a well-formed container, and `Read()` then
returns exactly `x`.  For every view type meeting `TypeFits` (signed
enums: `w = uw`; the narrow signed enum fields are covered, with the behaviour the code has,
by `C03_enum_signed_write_then_read_actual`). -/
theorem C03_write_then_read (h : Placed bb o w) (direct : Bool)
    (hd : direct = true → o = 0 ∧ w = bb.c) (ty : Ty) (hty : TypeFits ty w)
    (t : IntT) (x : Int) (ha : ArgOk ty w t x)
    (hc : (fieldView ty direct bb o w).couldWrite t x = true) :
    ∃ bytes', (fieldView ty direct bb o w).tryToWrite t x =
        .written (fieldView ty direct { bb with bytes := bytes' } o w) ∧
      Placed { bb with bytes := bytes' } o w ∧
      (fieldView ty direct { bb with bytes := bytes' } o w).read = some x := by
  obtain ⟨bytes', hw, hp, _, hrd⟩ := write_spec h direct hd ty hty t x ha hc
  exact ⟨bytes', hw, hp, hrd⟩

example : ∃ v', (fieldView .int false exBB 9 5).tryToWrite ⟨true, 8⟩ (-3) = .written v' ∧
    v'.read = some (-3) ∧ v'.buf.bytes = [0x12, 0x3a, 0x56] := ⟨_, rfl, by decide, by decide⟩

/-- **Signed enum, write then read, for every `(w, uw, W)`**: whatever value the code accepts
(`C03_could_write_enum_signed_actual`) is stored in the field's own bits only and read back
exactly — also in the narrow fields of the open finding, where the accepted values are
`0 … 2^w − 1` and `Read()` zero-extends.  So the finding is confined to *which* values are
accepted / how a given bit pattern is interpreted; write/read round trips and the frame
condition hold unconditionally. -/
theorem C03_enum_signed_write_then_read_actual (h : Placed bb o w) (direct : Bool)
    (hd : direct = true → o = 0 ∧ w = bb.c) (uw : Nat) (huw : w ≤ uw) (t : IntT) (x : Int)
    (ha : ArgOk (.enum uw true) w t x)
    (hc : (fieldView (.enum uw true) direct bb o w).couldWrite t x = true) :
    ∃ bytes', (fieldView (.enum uw true) direct bb o w).tryToWrite t x =
        .written (fieldView (.enum uw true) direct { bb with bytes := bytes' } o w) ∧
      Placed { bb with bytes := bytes' } o w ∧
      (fieldView (.enum uw true) direct { bb with bytes := bytes' } o w).read = some x ∧
      ∀ o' w', o' + w' ≤ o ∨ o + w ≤ o' →
        fieldBits { bb with bytes := bytes' } o' w' = fieldBits bb o' w' := by
  -- the unsigned image fits the field, so the conversion to the value type keeps it
  have hfit : ofInt uw x < 2 ^ w :=
    (enum_could h.w_pos huw (by rw [fieldBuf_W]; exact placed_w_le_W h) ha).mp hc
  have henc := fieldView_enum_encode h direct true hfit
  obtain ⟨bytes', hw, hp, hu, hfb⟩ :=
    tryToWrite_written h direct hd (.enum uw true) t x hc (henc ▸ hfit)
  refine ⟨bytes', hw, hp, ?_, bits_disjoint_of_updated hu⟩
  rw [(C02_enum_read_signed_actual hp uw huw direct hd).2.1, hfb, henc,
    toSigned_ofInt (by have := h.w_pos; omega) ha.1 ha.2]

-- non-vacuity (test): the 4-bit field of an `int8_t` enum accepts 15, stores 0xF in the low
-- nibble only, and reads 15 back
example : ∃ v', (fieldView (.enum 8 true) false exBB8 0 4).tryToWrite ⟨true, 8⟩ 15 = .written v' ∧
    v'.buf.bytes = [0x8f] ∧ v'.read = some 15 := ⟨_, rfl, by decide, by decide⟩

/-- **Frame**: a successful write changes the container value only in bits `[o, o+w)`
(`Updated`: every other bit is the old one), writes back exactly the container's `c/8`
bytes, and therefore every disjoint field of the same container reads the same bits as
before.  Bytes outside the container are not part of the store at all (`storeLE/BE` produce
`c/8` bytes; the sanitizer-instrumented tie checks the real code never touches others). -/
theorem C03_write_frame (h : Placed bb o w) (direct : Bool)
    (hd : direct = true → o = 0 ∧ w = bb.c) (ty : Ty) (hty : TypeFits ty w)
    (t : IntT) (x : Int) (ha : ArgOk ty w t x)
    (hc : (fieldView ty direct bb o w).couldWrite t x = true) :
    ∃ bytes', (fieldView ty direct bb o w).tryToWrite t x =
        .written (fieldView ty direct { bb with bytes := bytes' } o w) ∧
      bytes'.length = bb.bytes.length ∧
      Updated o w (containerValue bb.order bb.bytes) (fieldBits { bb with bytes := bytes' } o w)
        (containerValue bb.order bytes') ∧
      ∀ o' w', o' + w' ≤ o ∨ o + w ≤ o' →
        fieldBits { bb with bytes := bytes' } o' w' = fieldBits bb o' w' := by
  obtain ⟨bytes', hw, hp, hu, _⟩ := write_spec h direct hd ty hty t x ha hc
  refine ⟨bytes', hw, ?_, hu, bits_disjoint_of_updated hu⟩
  have h1 := hp.len; have h2 := h.len
  simp only at h1; omega

-- non-vacuity (test): writing -3 into bits 9..13 of `12 34 56` (big endian) changes only those
-- bits: 0x123456 → 0x123a56; the neighbouring fields (bits 0..8 and 14..23) read as before
example : ∃ v', (fieldView .int false exBB 9 5).tryToWrite ⟨true, 8⟩ (-3) = .written v' ∧
    fieldBits v'.buf.bitBlock 0 9 = fieldBits exBB 0 9 ∧
    fieldBits v'.buf.bitBlock 14 10 = fieldBits exBB 14 10 ∧
    fieldBits v'.buf.bitBlock 9 5 = 29 := ⟨_, rfl, by decide, by decide, by decide⟩

/-- **Frame at the level of the structure's buffer.**  The field's `c`-bit container occupies
bytes `[p, p + c/8)` of the structure's backing store (the sub-buffer handed to the view
aliases them).  A write the view accepts yields a store of the same length in which **every
byte outside `[p, p + c/8)` is the old byte**, the container's bytes are the ones of
`C03_write_frame` (so inside the container only bits `[o, o+w)` changed) and the field then
reads `x`.  (A buffer too short for the container, or a refused value: `C03_store_refused`.) -/
theorem C03_write_frame_store (store : List Nat) (p : Nat) (order : ByteOrder) (path : Path)
    (c : Nat) (hfit : p + c / 8 ≤ store.length)
    (h : Placed { order := order, path := path, c := c, bytes := (store.drop p).take (c / 8) } o w)
    (direct : Bool) (hd : direct = true → o = 0 ∧ w = c) (ty : Ty) (hty : TypeFits ty w)
    (t : IntT) (x : Int) (ha : ArgOk ty w t x)
    (hc : (fieldView ty direct
      { order := order, path := path, c := c, bytes := (store.drop p).take (c / 8) } o w).couldWrite t x = true) :
    ∃ store' bytes', storeTryToWrite store p order path c ty direct o w t x = .written store' ∧
      store'.length = store.length ∧
      (∀ i, i < p ∨ p + c / 8 ≤ i → store'[i]? = store[i]?) ∧
      containerOf store' p (c / 8) = some bytes' ∧
      (fieldView ty direct { order := order, path := path, c := c, bytes := bytes' } o w).read = some x ∧
      Updated o w (containerValue order ((store.drop p).take (c / 8)))
        (fieldBits { order := order, path := path, c := c, bytes := bytes' } o w)
        (containerValue order bytes') := by
  obtain ⟨bytes', hw, hp, hu, hrd⟩ := write_spec h direct hd ty hty t x ha hc
  have hl : bytes'.length = c / 8 := by
    have h1 := hp.len; have h2 := h.c_mult
    simp only at h1 h2
    omega
  have hfit' : p + bytes'.length ≤ store.length := by omega
  refine ⟨storeAfter store p bytes', bytes', ?_, storeAfter_length store p bytes' hfit',
    fun i hi => storeAfter_outside store p bytes' hfit' i (by omega), ?_, hrd, hu⟩
  · unfold storeTryToWrite containerOf
    rw [if_pos hfit]
    simp only [hw]
    congr 2
    cases direct <;> rfl
  · rw [← hl]; exact storeAfter_container store p bytes' hfit'

/-- Too short a buffer, or a refused value: the store is not written. -/
theorem C03_store_refused (store : List Nat) (p : Nat) (order : ByteOrder) (path : Path) (c : Nat)
    (ty : Ty) (direct : Bool) (o w : Nat) (t : IntT) (x : Int)
    (hf : store.length < p + c / 8 ∨ ∀ bytes, (fieldView ty direct
      { order := order, path := path, c := c, bytes := bytes } o w).couldWrite t x = false) :
    storeTryToWrite store p order path c ty direct o w t x = .refused := by
  unfold storeTryToWrite containerOf
  rcases hf with hf | hf
  · rw [if_neg (by omega)]
  · split
    · rfl
    · rw [tryToWrite_refused_of_not_could _ t x (hf _)]

-- non-vacuity (test): the container `12 34 56` of `exBB` at byte 2 of a 7-byte store
example : storeTryToWrite [0xaa, 0xbb, 0x12, 0x34, 0x56, 0xcc, 0xdd] 2 .big .opt 24 .int false 9 5
      ⟨true, 8⟩ (-3) = .written [0xaa, 0xbb, 0x12, 0x3a, 0x56, 0xcc, 0xdd] ∧
    storeTryToWrite [0xaa, 0xbb, 0x12, 0x34] 2 .big .opt 24 .int false 9 5 ⟨true, 8⟩ (-3) = .refused := by
  decide

/-- **Failed write**: if `CouldWriteValue(x)` is false or the view is incomplete,
`TryToWrite(x)` returns false without calling `WriteUInt` (the buffer is not touched). -/
theorem C03_failed_write_no_change (v : View) (t : IntT) (x : Int)
    (hf : v.couldWrite t x = false ∨ v.isComplete = false) : v.tryToWrite t x = .refused := by
  rcases hf with hf | hf
  · exact tryToWrite_refused_of_not_could v t x hf
  · exact tryToWrite_refused_of_incomplete v t x hf

example : (fieldView .uint false exBB 9 5).tryToWrite ⟨true, 32⟩ 32 = .refused ∧
    (fieldView .uint false { exBB with bytes := [1, 2] } 9 5).tryToWrite ⟨true, 32⟩ 3 = .refused :=
  ⟨rfl, rfl⟩

end Emboss.Scalar

/-! ## Write inference (`compiler/front_end/write_inference.py`) -/
namespace Emboss.WInf
open Emboss.WInf.Spec

/-- `2 + ((3 - x) - 10)`, the example in the source comment of `_invert_expression`. -/
def exExpr : Expr :=
  .bin .add (.const 2) (.bin .sub (.bin .sub (.const 3) (.ref 7)) (.const 10))

/-- **The synthesised inverse is correct, and exists exactly on the documented fragment.**
(1) If `_invert_expression e` returns `(r, inv)` then `r` is a field reference `x` and for
every target value `v` (over ℤ) at which `inv` evaluates (an opaque reference-free operand makes
it evaluate nowhere): storing `inv[$logical_value := v]` in `x` makes `e` evaluate to `v`,
whatever the other fields hold; `inv` mentions no field.
(2) `_invert_expression e` succeeds iff `e` is an ADD/SUB chain over exactly one field
reference whose other operands are reference-free — it fails exactly outside that fragment. -/
theorem C03_inverse_correct (e : Expr) :
    (∀ r inv, invert e = some (r, inv) →
      refCount inv = 0 ∧
      ∃ x, r = .ref x ∧ ∀ (env : Nat → Int) (v a : Int), eval env v inv = some a →
        eval (update env x a) v e = some v) ∧
    ((∃ x inv, invert e = some (.ref x, inv)) ↔ ∃ x, Invertible e x) := by
  refine ⟨fun r inv h => ?_, invert_isSome_iff e⟩
  obtain ⟨x, hx, _, hfree, hcorrect⟩ := invert_spec h
  exact ⟨hfree, x, hx, hcorrect⟩

-- non-vacuity (tests): the inverse of `2 + ((3 - x) - 10)` is `3 - (($lv - 2) + 10)`;
-- writing 100 stores -105 and 2 + ((3 - -105) - 10) = 100; `x * 2`, `x + y`, `x - x` fail.
example : invert exExpr = some (.ref 7,
    .bin .sub (.const 3) (.bin .add (.bin .sub .logical (.const 2)) (.const 10))) := by decide
example : eval (fun _ => 0) 100 (.bin .sub (.const 3) (.bin .add (.bin .sub .logical (.const 2)) (.const 10)))
      = some (-105) ∧ eval (update (fun _ => 0) 7 (-105)) 100 exExpr = some 100 := by decide
example : invert (.bin .mul (.ref 1) (.const 2)) = none ∧
    invert (.bin .add (.ref 1) (.ref 2)) = none ∧ invert (.bin .sub (.ref 1) (.ref 1)) = none := by
  decide

/-- The generated range check alone: exact for every value of the parameter type. -/
theorem C03_virtual_range_check_exact (lv : Rng) (t : Emboss.CppInt.IntTy)
    (ht : logicalType lv = some t) (hle : lv.lo ≤ lv.hi) (v : Int) (hv : t.holds v = true) :
    rangeCheck lv t v = some (decide (lv.lo ≤ v ∧ v ≤ lv.hi)) := by
  obtain ⟨h4, hin⟩ := Emboss.CppInt.typeForRange_sound ht
  obtain ⟨tlo, htlo, hbelow, _⟩ := cppLt_literal h4 (hin (Int.le_refl _) hle) hv
  obtain ⟨thi, hthi, _, habove⟩ := cppLt_literal h4 (hin hle (Int.le_refl _)) hv
  -- the omitted lower comparison (`lo == 0`, unsigned parameter) is vacuous
  have hskip : (if lv.lo ≠ 0 ∨ t.signed = true then decide (v < lv.lo) else false) =
      decide (v < lv.lo) := by
    split
    · rfl
    · rename_i hn
      have h0 := ((CppInt.holds_unsigned t v (Bool.eq_false_iff.mpr fun h => hn (.inr h))).mp hv).1
      have hl0 : lv.lo = 0 := Classical.not_not.mp fun h => hn (.inl h)
      exact (decide_eq_false (by omega)).symm
  unfold rangeCheck
  simp only [htlo, hthi, hbelow, habove, hskip, Option.some.injEq]
  by_cases h1 : v < lv.lo <;> by_cases h2 : lv.hi < v <;> simp [h1, h2] <;> omega

/-- The generated inverse is exact inside the field's range (no wrap, no overflow). -/
theorem C03_inverse_cpp_exact (lv : Rng) (v : Int) (hv : lv.lo ≤ v ∧ v ≤ lv.hi) (body : Expr)
    (r : Rng) (hr : rangeOf lv body = some r) (hty : typesExist lv body = true) :
    ∃ u, cppEval lv v body = .ok u ∧ eval (fun _ => 0) v body = some u ∧ r.lo ≤ u ∧ u ≤ r.hi := by
  -- the cases of `rangeOf`: literal, `$logical_value`, constant node, ADDITION, SUBTRACTION, no range
  fun_induction rangeOf lv body generalizing r with
  | case1 c =>
    cases hr
    exact ⟨c, literal_ok hty, rfl, Int.le_refl _, Int.le_refl _⟩
  | case2 => cases hr; exact ⟨v, rfl, rfl, hv⟩
  | case3 op a b c hcv =>
    cases hr
    simp only [typesExist, hcv] at hty
    refine ⟨c, ?_, constVal_eval hcv _ _, Int.le_refl _, Int.le_refl _⟩
    simp only [cppEval, hcv, literal_ok hty]
  | case4 a b ra rb hrb hra hcv iha ihb | case5 a b ra rb hrb hra hcv iha ihb =>
    cases hr
    simp only [typesExist, hcv, rangeOf, hra, hrb, Bool.and_eq_true, Option.isSome_iff_exists] at hty
    obtain ⟨⟨hta, htb⟩, ⟨it, hit⟩, ⟨rt, hrt⟩⟩ := hty
    obtain ⟨ua, hca, hea, ha⟩ := iha ra hra hta
    obtain ⟨ub, hcb, heb, hb⟩ := ihb rb hrb htb
    simp only [cppEval, hcv, hca, hcb, rangeOf, hra, hrb]
    refine ⟨_, cppOp_exact hit hrt ha hb rfl ⟨?lo, ?hi⟩, ?ev, ?lo, ?hi⟩
    case ev => simp [eval, hea, heb]
    case lo => simp; omega
    case hi => simp; omega
  | case6 | case7 => cases hr

/-- **Transform write.**  The model evaluates `function_body` the way the generated C++ does —
per node the bounds of `expression_bounds`, `IntermediateT` /
`ResultT` chosen by `_cpp_integer_type_for_range`, `MaybeDo`'s conversions, signed overflow =
undefined — after the range check of the field's own value range that the generated
`CouldWriteValue` performs first (rendered literals compared under the usual arithmetic
conversions).  For **every** value `v` of the C++ parameter type:

* the generated code has defined behaviour (no overflow, no value-changing conversion);
* `TryToWrite(v)` succeeds **exactly when** `[requires]` holds, `v` lies in the virtual
  field's own range, the destination is complete and accepts the exact (ℤ) inverse image;
* then the destination holds the value for which `read_transform` evaluates to `v`
  (whatever the other fields hold), inside the range the front end inferred for it;
* otherwise the destination is untouched.

Side conditions: `lv`/`t` are the range and C++ type of the virtual field, the inverse lies in
the fragment `_invert_expression` emits with constant-typed operands the model can evaluate
(`rangeOf … = some r`), and every node has a C++ type (otherwise the header does not
compile).  Without the range check the inverse of `let v = f0 + 1` over a 32-bit `UInt` wraps
at `v = 0` to `0xFFFFFFFF`, which the destination accepts (see the `example` below; finding
`virtual-write-inverse-wraps-in-unsigned-destination-type`, fixed in the repository). -/
theorem C03_transform_write (rt body : Expr) (x : Nat) (hinv : invert rt = some (.ref x, body))
    (lv r : Rng) (t : Emboss.CppInt.IntTy) (ht : logicalType lv = some t) (hle : lv.lo ≤ lv.hi)
    (hr : rangeOf lv body = some r) (hty : typesExist lv body = true)
    (valueIsOk : Int → Bool) (d : Dest) (v : Int) (hv : t.holds v = true) (env : Nat → Int) :
    ∃ ok d', virtualTryToWrite lv t body valueIsOk d v = some (ok, d') ∧
      (ok = true ↔ valueIsOk v = true ∧ lv.lo ≤ v ∧ v ≤ lv.hi ∧ d.complete = true ∧
        ∃ u, eval (fun _ => 0) v body = some u ∧ d.could u = true) ∧
      (ok = true → eval (update env x d'.value) v rt = some v ∧ d.could d'.value = true ∧
        r.lo ≤ d'.value ∧ d'.value ≤ r.hi) ∧
      (ok = false → d' = d) := by
  obtain ⟨x', hx', _, hfree, hcorrect⟩ := invert_spec hinv
  cases hx'
  have hrc := C03_virtual_range_check_exact lv t ht hle v hv
  -- a refusal returns `false` and leaves the destination as it is
  have refuse : ∀ {Q : Prop}, ¬ Q → ∃ ok d', some (false, d) = some (ok, d') ∧ (ok = true ↔ Q) ∧
      (ok = true → eval (update env x d'.value) v rt = some v ∧ d.could d'.value = true ∧
        r.lo ≤ d'.value ∧ d'.value ≤ r.hi) ∧ (ok = false → d' = d) :=
    fun hQ => ⟨false, d, rfl, ⟨nofun, fun h => absurd h hQ⟩, nofun, fun _ => rfl⟩
  unfold virtualTryToWrite virtualCould
  cases hok : valueIsOk v with
  | false =>
    simp only [Bool.not_false, if_true]
    exact refuse (fun h => absurd h.1 nofun)
  | true =>
    by_cases hin : lv.lo ≤ v ∧ v ≤ lv.hi
    · obtain ⟨u, hcu, heu, hu1, hu2⟩ := C03_inverse_cpp_exact lv v hin body r hr hty
      have heq := hcorrect env v u (eval_env_irrel hfree heu env)
      simp only [Bool.not_true, Bool.false_eq_true, if_false, hrc, decide_eq_true hin, hcu]
      cases hcd : d.could u with
      | false =>
        simp only
        refine refuse (fun h => ?_)
        obtain ⟨_, _, _, _, u', hu', hcu'⟩ := h
        rw [heu] at hu'; cases hu'; rw [hcd] at hcu'; cases hcu'
      | true =>
        simp only [Dest.tryToWrite, hcd, Bool.true_and]
        cases hcp : d.complete with
        | false =>
          simp only [Bool.false_eq_true, if_false]
          exact refuse (fun h => nomatch h.2.2.2.1)
        | true =>
          simp only [if_true]
          exact ⟨true, _, rfl, ⟨fun _ => ⟨trivial, hin.1, hin.2, trivial, u, heu, hcd⟩, fun _ => rfl⟩,
            fun _ => ⟨heq, hcd, hu1, hu2⟩, nofun⟩
    · simp only [Bool.not_true, Bool.false_eq_true, if_false, hrc, decide_eq_false hin]
      exact refuse (fun h => hin ⟨h.2.1, h.2.2.1⟩)

/-- An 8-bit unsigned destination holding 5, complete; `let v = f + 100`: range `[100, 355]`. -/
def exDest : Dest := { could := fun u => decide (0 ≤ u ∧ u < 256), complete := true, value := 5 }
def exLv : Rng := ⟨100, 355⟩
def exBody : Expr := .bin .sub .logical (.const 100)
example : invert (.bin .add (.ref 0) (.const 100)) = some (.ref 0, exBody) ∧
    logicalType exLv = some Emboss.CppInt.i32 ∧ rangeOf exLv exBody = some ⟨0, 255⟩ ∧
    typesExist exLv exBody = true := by decide
/-- Observable part of a `TryToWrite` outcome: (returned value, destination value afterwards). -/
def obs (r : Option (Bool × Dest)) : Option (Bool × Int) := r.map fun p => (p.1, p.2.value)
example : obs (virtualTryToWrite exLv Emboss.CppInt.i32 exBody (fun _ => true) exDest 130) = some (true, 30) ∧
    obs (virtualTryToWrite exLv Emboss.CppInt.i32 exBody (fun _ => true) exDest 99) = some (false, 5) ∧
    obs (virtualTryToWrite exLv Emboss.CppInt.i32 exBody (fun _ => true) exDest 356) = some (false, 5) := by
  decide

-- the pinned input of the fixed finding: `let v0 = f0 + 1` over `0 [+4] UInt f0`:
-- range [1, 2^32], parameter type int64_t, inverse `$logical_value - 1` computed with
-- IntermediateT = int64_t, ResultT = uint32_t.  Outside the range the C++ expression wraps
-- (0 ↦ 0xFFFFFFFF) — without the range check `CouldWriteValue(0)` is true; with it 0 is
-- refused before the inverse is computed.
def exLv32 : Rng := ⟨1, 4294967296⟩
def exBody1 : Expr := .bin .sub .logical (.const 1)
def exDest32 : Dest :=
  { could := fun u => decide (0 ≤ u ∧ u < 4294967296), complete := true, value := 5 }
example : logicalType exLv32 = some Emboss.CppInt.i64 ∧
    cppTypes exLv32 exBody1 = [(some Emboss.CppInt.i64, some Emboss.CppInt.u32,
      some Emboss.CppInt.i64, some Emboss.CppInt.i32)] ∧
    cppEval exLv32 0 exBody1 = .ok 4294967295 ∧
    rangeCheck exLv32 Emboss.CppInt.i64 0 = some false ∧
    obs (virtualTryToWrite exLv32 Emboss.CppInt.i64 exBody1 (fun _ => true) exDest32 0) =
      some (false, 5) ∧
    obs (virtualTryToWrite exLv32 Emboss.CppInt.i64 exBody1 (fun _ => true) exDest32 4294967296) =
      some (true, 4294967295) := by decide

/-- **Alias write**: a virtual field gets an `alias` write method only when it is exactly a
reference (without `[requires]`) to a writable field of the structure, and a `transform` only
with the inverse computed above onto a writable field.  This is one step of an alias /
transform chain; no theorem here follows a whole chain down to its physical field.  (In the
generated C++ an alias returns the
target's own view object: writing the alias *is* writing the target.) -/
theorem C03_alias_write (fields : List Field) (fuel i : Nat) :
    (∀ x, writeMethod fields (fuel + 1) i = .alias x →
      fields[i]? = some (.virtual (.ref x) false) ∧ x < fields.length ∧
      writeMethod fields fuel x ≠ .readOnly ∧ writeMethod fields fuel x ≠ .outOfFuel) ∧
    (∀ x body, writeMethod fields (fuel + 1) i = .transform x body →
      ∃ rt rq, fields[i]? = some (.virtual rt rq) ∧ invert rt = some (.ref x, body) ∧
        x < fields.length ∧ writeMethod fields fuel x ≠ .readOnly ∧
        writeMethod fields fuel x ≠ .outOfFuel) := by
  simp only [writeMethod]
  cases fields[i]? with
  | none => exact ⟨fun _ => nofun, fun _ _ => nofun⟩
  | some f =>
    cases f with
    | physical => exact ⟨fun _ => nofun, fun _ _ => nofun⟩
    | «virtual» rt rq =>
      simp only
      split
      · refine ⟨fun x h => ?_, fun x body h => ?_⟩
        · obtain ⟨he, hrest⟩ := viaTarget_eq h (by simp) (by simp)
          cases he; exact ⟨rfl, hrest⟩
        · cases (viaTarget_eq h (by simp) (by simp)).1
      · split
        · rename_i hinv
          refine ⟨fun x h => ?_, fun x body h => ?_⟩
          · cases (viaTarget_eq h (by simp) (by simp)).1
          · obtain ⟨he, hrest⟩ := viaTarget_eq h (by simp) (by simp)
            cases he; exact ⟨rt, rq, rfl, hinv, hrest⟩
        · exact ⟨fun _ => nofun, fun _ _ => nofun⟩

-- fields: 0 physical; 1 = alias of 0; 2 = alias of 1; 3 = field 2 + 1; 4 = alias of parameter 9;
-- 5 = field 0 with [requires] (transform with the identity body)
def exFields : List Field :=
  [.physical, .virtual (.ref 0) false, .virtual (.ref 1) false,
   .virtual (.bin .add (.ref 2) (.const 1)) false, .virtual (.ref 9) false, .virtual (.ref 0) true]
example : writeMethod exFields 5 2 = .alias 1 ∧
    writeMethod exFields 5 3 = .transform 2 (.bin .sub .logical (.const 1)) ∧
    writeMethod exFields 5 4 = .readOnly ∧ writeMethod exFields 5 5 = .transform 0 .logical := by
  decide

end Emboss.WInf
