/-
C16 — The compiler is total: any input yields output or well-formed located errors.

Property theorems, with their test vectors and two auxiliary facts: `format_at_trailing_dedent`
(one evaluation behind the F16 example and the counterexample for the old code) and
`parseEmbossFile_ir_or_errors` (behind `C16_embossc_end_to_end`).  Model: Emboss/Model/Pipeline.lean
(mirrors glue.process_ir, glue.only_parse_emboss_file, glue.parse_emboss_file,
error.split_errors, error._Message.format, error.format_errors,
error.make_error_from_parse_error) and Emboss/Model/PipelineDriver.lean (`_find_in_dirs_and_read`,
the executables, source locations).  Spec: Emboss/Spec/Pipeline.lean, Spec/PipelineDriver.lean.
Python exceptions are explicit `Crash` results in the model, so "defined" = "is `.ok`".

What is NOT here: totality of the passes themselves (module_ir, symbol_resolver,
type_check, expression_bounds, constraints, attribute checkers, write_inference, the
C++ back end).  They are abstract (`Pass.run`, `parse`) in these theorems and are
covered by exploration only (harness/corr/C16.py).
-/
import Emboss.Lemmas.Pipeline
namespace Emboss.Pipeline

/-- **Result is IR xor a non-empty list of (non-empty) groups.**  Whatever the passes and
the per-file parser do: if `parse_emboss_file` reports errors the list is non-empty, and
its groups are non-empty provided no stage ever returns an empty group.  (`Outcome.ir` and
`Outcome.errors` are distinct constructors: never both.) -/
theorem C16_errors_nonempty {σ : Type} (parse : String → Parsed) (mk : List String → σ)
    (passes : List (Pass σ)) (stop : Option String) (fuel : Nat) (root : String) (es : Errors)
    (h : parseEmbossFile parse mk passes stop fuel root = .errors es) :
    es ≠ [] ∧
    ((∀ f, ∀ g ∈ (parse f).errors, g ≠ []) →
     (∀ p ∈ passes, ∀ s, ∀ g ∈ (p.run s).2, g ≠ []) → WellFormed es) := by
  unfold parseEmbossFile at h
  split at h
  · cases h
  · rename_i es' f before hq
    cases h
    obtain ⟨he, hne, _⟩ := queueLoop_exit (QInv.init parse root) hq
    exact ⟨hne, fun hp _ => ⟨hne, he ▸ hp f⟩⟩
  · rename_i files hq
    obtain ⟨_, hrun⟩ | ⟨_, ⟨⟩⟩ := processIr_cases h
    obtain ⟨hne, hfrom, _⟩ := processLoop_errors (deferred := []) hrun nofun
    refine ⟨hne, fun _ hpass => ⟨hne, fun g hg => ?_⟩⟩
    obtain ⟨r, hr, hgr⟩ := (hfrom g hg).resolve_left nofun
    obtain ⟨p, hp, s', rfl⟩ := results_from_pass hr
    exact hpass p hp s' g hgr

/-- Non-vacuity: a pipeline whose second pass reports one user group. -/
example :
    let p1 : Pass Nat := ⟨"a", fun s => (s + 1, [])⟩
    let p2 : Pass Nat := ⟨"b", fun s => (s, [[⟨"m", ⟨1, 1, 1, 2, false⟩, .error, ['x']⟩]])⟩
    (match parseEmbossFile (fun _ => ⟨[], []⟩) (fun _ => 0) [p1, p2] none 5 "m" with
     | .errors es => es.length == 1
     | _ => false) = true := by decide +kernel

/-- **A group shown while any non-synthetic group exists is non-synthetic; synthetic
groups surface only if no pass produced a user group.**  `process_ir` either shows only
non-synthetic groups (all from one pass), or only synthetic ones, and then every group any
pass produced was synthetic. -/
theorem C16_user_errors_not_synthetic {σ : Type} (passes : List (Pass σ)) (stop : Option String)
    (s : σ) (es : Errors) (h : processIr passes stop s = .errors es) :
    ((∀ g ∈ es, g.isSynthetic = false) ∧ ∃ r ∈ results passes s, ∀ g ∈ es, g ∈ r) ∨
    ((∀ g ∈ es, g.isSynthetic = true) ∧
      ∀ r ∈ results passes s, ∀ g ∈ r, g.isSynthetic = true) := by
  obtain ⟨_, hrun⟩ | ⟨_, ⟨⟩⟩ := processIr_cases h
  exact (processLoop_errors (deferred := []) hrun nofun).2.2

/-- Non-vacuity (both branches): a synthetic group from pass 1 is hidden by the user group
of pass 2; alone it is shown. -/
example :
    let syn : Group := [⟨"m", ⟨1, 1, 1, 1, true⟩, .error, ['s']⟩]
    let usr : Group := [⟨"m", ⟨2, 1, 2, 3, false⟩, .error, ['u']⟩]
    let p1 : Pass Unit := ⟨"a", fun s => (s, [syn])⟩
    let p2 : Pass Unit := ⟨"b", fun s => (s, [usr])⟩
    let p3 : Pass Unit := ⟨"c", fun s => (s, [])⟩
    (match processIr [p1, p2] none (), processIr [p1, p3] none () with
     | .errors a, .errors b => a == [usr] && b == [syn]
     | _, _ => false) = true := by decide +kernel

/-- The only assertion of `process_ir` an input can trip is the first one (unknown
`stop_before_step`); the closing `assert stop_before_step is None` is unreachable. -/
theorem C16_process_ir_asserts {σ : Type} (passes : List (Pass σ)) (stop : Option String) (s : σ)
    (c : Crash) (h : processIr passes stop s = .crash c) :
    c = .badStopStep ∧ ∃ n, stop = some n ∧ n ∉ passes.map (·.name) := by
  obtain ⟨hstop, hrun⟩ | ⟨hstop, ⟨⟩⟩ := processIr_cases h
  · exact absurd hrun (processLoop_no_crash hstop)
  · exact ⟨rfl, hstop⟩

example : (match processIr ([⟨"a", fun s => (s, [])⟩] : List (Pass Unit)) (some "zz") () with
    | .crash .badStopStep => true | _ => false) = true := by decide +kernel

/-- **`format msg sources` is defined for every location and every source text.**  With the
guard `1 ≤ line ≤ #lines` (fix 0ced081) the list access cannot be out of range. -/
theorem C16_format_total (m : Msg) (sources : List (String × Text)) :
    ∃ pieces, formatMsg m sources = .ok pieces :=
  formatMsg_ok sources m

/-- `format_errors` is defined exactly when no group is empty (its own assertion). -/
theorem C16_format_errors_total (es : Errors) (sources : List (String × Text)) (color : Bool) :
    ((∀ g ∈ es, g ≠ []) → ∃ t, formatErrors es sources color = .ok t) ∧
    ([] ∈ es → formatErrors es sources color = .error .emptyGroup) := by
  constructor
  · intro h
    obtain ⟨r, hr⟩ := formatGroups_ok color sources es h
    exact ⟨joinLines r, by simp [formatErrors, hr]⟩
  · intro h
    simp [formatErrors, formatGroups_empty_group color sources es h]

/-- End to end: whatever `parse_emboss_file` reports renders, with any sources. -/
theorem C16_reported_errors_render {σ : Type} (parse : String → Parsed) (mk : List String → σ)
    (passes : List (Pass σ)) (stop : Option String) (fuel : Nat) (root : String) (es : Errors)
    (h : parseEmbossFile parse mk passes stop fuel root = .errors es)
    (hparse : ∀ f, ∀ g ∈ (parse f).errors, g ≠ [])
    (hpass : ∀ p ∈ passes, ∀ s, ∀ g ∈ (p.run s).2, g ≠ [])
    (sources : List (String × Text)) (color : Bool) :
    ∃ t, formatErrors es sources color = .ok t :=
  (C16_format_errors_total es sources color).1
    ((C16_errors_nonempty parse mk passes stop fuel root es h).2 hparse hpass).2

/-- The F16 input on the current code and on the code before fix 0ced081, evaluated together. -/
theorem format_at_trailing_dedent :
    (match formatMsg ⟨"m", ⟨4, 1, 4, 1, false⟩, .error, "Syntax error".toList⟩
        [("m", "struct Foo:\n  0 [+1] UInt x\n  if true:\n".toList)] with
     | .ok ps => ps.length == 3
     | .error _ => false) = true ∧
    (formatMsgUnguarded ⟨"m", ⟨4, 1, 4, 1, false⟩, .error, "Syntax error".toList⟩
        [("m", "struct Foo:\n  0 [+1] UInt x\n  if true:\n".toList)]
      matches .error .indexError) = true := by
  -- the kernel decodes a literal's UTF-8 form slowly, so the characters are given by
  -- `String.toList_ofList`
  have h₁ : "Syntax error".toList = _ := String.toList_ofList
  have h₂ : "struct Foo:\n  0 [+1] UInt x\n  if true:\n".toList = _ := String.toList_ofList
  rw [h₁, h₂]
  decide +kernel

/-- Non-vacuity: the F16 situation — an error at the trailing Dedent (line n+1) of a
three-line file renders (header only, no snippet). -/
example :
    (match formatMsg ⟨"m", ⟨4, 1, 4, 1, false⟩, .error, "Syntax error".toList⟩
        [("m", "struct Foo:\n  0 [+1] UInt x\n  if true:\n".toList)] with
     | .ok ps => ps.length == 3
     | .error _ => false) = true :=
  format_at_trailing_dedent.1

/-- Before fix 0ced081 (unguarded `source_lines[line - 1]`) the same message raised
`IndexError`: the totality theorem is false for the old code. -/
theorem C16_format_total_before_fix_counterexample :
    formatMsgUnguarded ⟨"m", ⟨4, 1, 4, 1, false⟩, .error, "Syntax error".toList⟩
        [("m", "struct Foo:\n  0 [+1] UInt x\n  if true:\n".toList)] = .error .indexError := by
  -- `Except` has no decidable equality: the evaluated conjunct is the Boolean `matches`
  have key (r : Except Crash (List (Color × Text))) (h : (r matches .error .indexError) = true) :
      r = .error .indexError := by
    split at h
    · rfl
    · cases h
  exact key _ format_at_trailing_dedent.2

/-- `make_error_from_parse_error` returns exactly one group of exactly one message, located
at the token (or at the default location when the token has none — the empty-input case),
never synthetic unless the token is. -/
theorem C16_parse_error_group (file : String) (code : Option Text) (tt ts : Text)
    (loc : Option Loc) (exp : List Text) :
    ∃ m, makeErrorFromParseError file code tt ts loc exp = [m] ∧ m.file = file ∧
      m.loc = locOrDefault loc ∧ m.sev = .error ∧
      (m.loc.synthetic = true → ∃ l, loc = some l ∧ l.synthetic = true) := by
  refine ⟨_, rfl, rfl, rfl, rfl, ?_⟩
  intro hs
  cases loc with
  | none => simp [locOrDefault] at hs
  | some l =>
    refine ⟨l, rfl, ?_⟩
    simp only [locOrDefault] at hs
    split at hs <;> simp_all

/-- **The import work queue terminates on every finite import graph (cyclic or not), and
each file is parsed at most once.**  `U` is any finite list containing every file reachable
from the root; with fuel `> |U|` the loop does not run out of fuel, and its result lists
distinct files. -/
theorem C16_import_queue_terminates (parse : String → Parsed) (root : String) (U : List String)
    (hU : ∀ f, Reach parse root f → f ∈ U) (fuel : Nat) (hfuel : U.length < fuel) :
    onlyParse parse fuel root ≠ .outOfFuel ∧
    (∀ files, onlyParse parse fuel root = .done files → files.Nodup) ∧
    (∀ es f before, onlyParse parse fuel root = .errors es f before → (before ++ [f]).Nodup) := by
  refine ⟨fun h => ?_, fun files h => ?_, fun es f before h => ?_⟩ <;>
    have hx := queueLoop_exit (QInv.init parse root) h
  · -- out of fuel: `fuel` distinct reachable files have been parsed
    obtain ⟨q', seen', acc', inv, h1⟩ := hx
    have hlen : seen'.length ≤ U.length :=
      inv.nodup.length_le_of_subset fun x hx => hU x (inv.reach x hx)
    rw [inv.split, List.length_append, List.length_reverse, h1, List.length_nil,
      Nat.zero_add] at hlen
    exact absurd (Nat.le_trans (Nat.le_add_right _ _) hlen) (Nat.not_le_of_gt hfuel)
  · exact hx.2.nodup
  · obtain ⟨_, _, q', seen', inv⟩ := hx
    have hnd := inv.nodup
    rw [inv.split, List.reverse_reverse, List.append_cons] at hnd
    exact (List.nodup_append.1 hnd).1

/-- The modules of the IR are exactly the files reachable from the root through imports
(breadth-first from the root, which comes first), each parsed without errors. -/
theorem C16_import_queue_result (parse : String → Parsed) (root : String) (fuel : Nat)
    (files : List String) (h : onlyParse parse fuel root = .done files) :
    files.head? = some root ∧ (∀ x, x ∈ files ↔ Reach parse root x) ∧
    (∀ f ∈ files, (parse f).errors = []) := by
  -- at the exit `seen` is the result, and it began as `[root]`
  obtain ⟨⟨t, rfl⟩, inv⟩ := queueLoop_exit (QInv.init parse root) h
  refine ⟨rfl, fun x => ⟨inv.reach x, ?_⟩, fun f hf => inv.ok f (List.mem_reverse.2 hf)⟩
  exact reach_mem_of_closed List.mem_cons_self
    (fun f hf => inv.closed f (List.mem_reverse.2 hf)) x

/-- Non-vacuity: a cyclic graph with a self-import and a duplicated import; three files,
each parsed once, breadth-first. -/
example :
    let parse : String → Parsed := fun f =>
      if f = "a" then ⟨[], ["", "b", "c", "b"]⟩ else if f = "b" then ⟨[], ["", "a", "b"]⟩
      else if f = "c" then ⟨[], ["", "a"]⟩ else ⟨[], []⟩
    (match onlyParse parse 5 "a" with
     | .done fs => fs == ["a", "", "b", "c"]
     | _ => false) = true := by decide +kernel

/-- **Every location the tokenizer and `merge_source_locations` can produce lies inside the
file.**  `Produced lines` = a token inside a line, the end-of-file `Dedent`, or a merge of
produced locations (`start` of the first, `end` of the last), possibly marked synthetic; the
real `merge_source_locations` only ever returns such a location (or raises the constructor's
`assert start <= end`, or returns `None`). -/
theorem C16_locations_in_file (lines : List Text) :
    (∀ l, Produced lines l → InFile l lines) ∧
    (∀ ls l, (∀ x ∈ ls, x.sl ≠ 0 → Produced lines x) → mergeLocs ls = .ok (some l) →
      Produced lines l) :=
  ⟨produced_inFile lines, mergeLocs_produced lines⟩

/-- Non-vacuity: the location of `$next [+1]` (tokens `$next` … `]` of line 2) is produced,
and `merge_source_locations` of its tokens yields it. -/
example : mergeLocs [tokLoc 2 2 5, ⟨0, 0, 0, 0, false⟩, tokLoc 2 8 1, tokLoc 2 11 1] =
    .ok (some ⟨2, 3, 2, 13, false⟩) := by rfl

/-- **`module_ir`'s hand-built locations stay inside the file.**  Every location `module_ir`
constructs by hand is `SourceLocation(a.<start|end>, b.<start|end>)` for locations `a`, `b` of
nodes it already holds.  For produced `a`, `b` and any choice of endpoints: if the
constructor's assertions hold the result is `Produced` (hence `InFile`, hence rendered with a
caret inside its line — `C16_caret_in_line`); and the assertions hold exactly when the chosen
endpoints are in order (the "both or neither missing" assertion cannot fail: produced
locations have no missing endpoint).  That the real constructions have this shape, on real
arguments, is the `SPAN` tie (every `SourceLocation(...)` call `module_ir` makes while the
explored inputs are parsed) plus the oracle "every location of every IR node is `InFile`". -/
theorem C16_module_ir_locations (lines : List Text) (a b : Loc) (ea eb : End)
    (ha : Produced lines a) (hb : Produced lines b) :
    (∀ l, spanLoc a ea b eb = .ok l → Produced lines l ∧ InFile l lines) ∧
    (posLe (a.pos ea).1 (a.pos ea).2 (b.pos eb).1 (b.pos eb).2 = true ↔
      ∃ l, spanLoc a ea b eb = .ok l) := by
  refine ⟨fun l h => ?_, ?_⟩
  · have hp := spanLoc_produced ha hb h
    exact ⟨hp, produced_inFile lines l hp⟩
  · -- produced locations have no missing endpoint, so only the order is asserted
    rw [spanLoc_of_ne_zero (ha.pos_ne_zero ea) (hb.pos_ne_zero eb)]
    split <;> simp [*]

/-- Non-vacuity: `-x` on line 2 (tokens `-` at offset 10 and `x` at offset 11): the phantom zero
`SourceLocation(op.start, op.start)` and the whole expression `SourceLocation(op.start, x.end)`;
the empty `[]` of `UInt[]` (`SourceLocation(open.end, close.start)`); and an out-of-order pair
trips the constructor's assertion. -/
example :
    spanLoc (tokLoc 2 10 1) .start (tokLoc 2 10 1) .start = .ok ⟨2, 11, 2, 11, false⟩ ∧
    spanLoc (tokLoc 2 10 1) .start (tokLoc 2 11 1) .stop = .ok ⟨2, 11, 2, 13, false⟩ ∧
    spanLoc (tokLoc 2 14 1) .stop (tokLoc 2 15 1) .start = .ok ⟨2, 16, 2, 16, false⟩ ∧
    spanLoc (tokLoc 2 11 1) .stop (tokLoc 2 10 1) .start = .error () := ⟨rfl, rfl, rfl, rfl⟩

/-- **Caret line.**  For every produced location whose first line is shown, the
indicator is `column − 1` blanks followed by one caret per located character (at least one;
exactly one when the span continues on a later line), and it never extends past the
position just after the last character of the shown line (not past the last character when
the span is a non-empty part of that line).  That the location lies inside the file is not
assumed: it follows from how locations are produced.  What remains outside Lean: that every location on a real message
is `Produced` — tokens are tied by the `TOKLOC` op, `merge_source_locations` by `MERGE`,
and the exploration oracle checks `InFile` on every real message. -/
theorem C16_caret_in_line (lines : List Text) (l : Loc) (line : Text) (h : Produced lines l)
    (hl : lines[l.sl - 1]? = some line) :
    indicator l = List.replicate (l.sc - 1) ' ' ++
      List.replicate (if l.sl = l.el then max 1 (l.ec - l.sc) else 1) '^' ∧
    (indicator l).length ≤ line.length + 1 ∧
    (l.sl = l.el → l.sc < l.ec → (indicator l).length ≤ line.length) :=
  ⟨indicator_eq l, indicator_length_le (produced_inFile lines l h) hl⟩

/-- Non-vacuity: the token `$next` at columns 3–8 of the second line. -/
example : Produced ["struct Foo:".toList, "  $next [+1]  UInt  x".toList] (tokLoc 2 2 5) := by
  repeat rw [String.toList_ofList]
  exact Produced.tok 2 2 5 _ (by decide) rfl (by decide)

/-- The caret line for a location given inside one line (`InLine`). -/
theorem C16_caret_in_line_inline (l : Loc) (line : Text) (h : InLine l line) :
    indicator l = List.replicate (l.sc - 1) ' ' ++ List.replicate (max 1 (l.ec - l.sc)) '^' ∧
    (indicator l).length ≤ line.length + 1 ∧
    (l.sc < l.ec → (indicator l).length ≤ line.length) := by
  obtain ⟨h1, h2, h3, h4⟩ := h
  have hi := indicator_eq l
  have hn := indicator_length l
  rw [if_pos h1] at hi hn
  rw [hn]
  exact ⟨hi, caret_width_le l.sc l.ec line.length h2 (Nat.le_trans h3 h4) h4⟩

example : InLine ⟨2, 3, 2, 7, false⟩ "  0 [+1] UInt x".toList := by
  rw [String.toList_ofList]
  unfold InLine
  decide

/-- **`_find_in_dirs_and_read` never raises on file-system faults.**  When opening the file
fails in a directory with an `OSError` (missing, directory, path through a file, name too
long, permission, symlink loop …), a `UnicodeError`, or any other `ValueError` (`open()`
rejecting the name itself: "embedded null byte" — caught since 9d2590a), the search goes on; the
result is the text of the first directory where the file can be read (every earlier directory failed), or
`(None, errors)` with one detail per directory plus the import path — a non-empty list, so
`glue.parse_module` takes its "Unable to read file." branch. -/
theorem C16_find_and_read_total (probes : List (Text × Probe))
    (h : ∀ p ∈ probes, ∀ n, p.2 ≠ .otherError n) :
    (∃ t pre d post, findAndRead probes = .found t ∧ probes = pre ++ (d, .text t) :: post ∧
        ∀ q ∈ pre, q.2.isText = false) ∨
    (∃ es, findAndRead probes = .notFound es ∧ es.length = probes.length + 1 ∧
        (∀ q ∈ probes, q.2.isText = false) ∧
        ∃ g, parseModuleRead "f" (.notFound es) = some (.ok g) ∧ g.length = probes.length + 2) := by
  rcases findLoop_spec (probes.map (·.1)) probes [] h with h1 | ⟨es, h1, h2, h3⟩
  · exact .inl h1
  · rw [List.length_nil, Nat.zero_add] at h2
    have hne : es.isEmpty = false :=
      List.isEmpty_eq_false_iff.2 (List.ne_nil_of_length_eq_add_one h2)
    refine .inr ⟨es, h1, h2, h3, unreadableGroup "f" es, by simp [parseModuleRead, hne], ?_⟩
    rw [unreadableGroup, List.length_cons, List.length_map, h2]

/-- Non-vacuity: a directory in the first import dir, undecodable bytes in the second, the
file in the third. -/
example : findAndRead [("a".toList, .osError "Is a directory".toList),
      ("b".toList, .unicodeError "invalid start byte".toList), ("c".toList, .text ['x'])] =
    .found ['x'] := by
  repeat rw [String.toList_ofList]
  decide +kernel

/-- A file name with an embedded NUL: `open()` raises a plain `ValueError` in every directory;
reported as unreadable (one detail per directory + the import path), not raised. -/
example : findAndRead [("a".toList, .valueError "embedded null byte".toList),
      ("b".toList, .valueError "embedded null byte".toList)] =
    .notFound ["embedded null byte".toList, "embedded null byte".toList, "import path a:b".toList] := by
  repeat rw [String.toList_ofList]
  decide +kernel

/-- If only `FileNotFoundError` were caught, a directory in the way would be the situation
`otherError`: with a class of failure that is not caught the call raises. -/
example : findAndRead [("a".toList, .otherError "IsADirectoryError"), ("c".toList, .text ['x'])] =
    .raised "IsADirectoryError" := by
  repeat rw [String.toList_ofList]
  decide +kernel

/-- **An unreadable file is one well-formed group**: the error "Unable to read file."
followed by one note per detail, all at `1:1` of the named file, none synthetic — and it
renders. -/
theorem C16_unreadable_file_group (file : String) (details : List Text) :
    unreadableGroup file details ≠ [] ∧
    (∀ m ∈ unreadableGroup file details, m.file = file ∧ m.loc = ⟨1, 1, 1, 1, false⟩) ∧
    (unreadableGroup file details).head?.map (·.sev) = some .error ∧
    ∀ sources color, ∃ t, formatErrors [unreadableGroup file details] sources color = .ok t := by
  refine ⟨List.cons_ne_nil _ _, ?_, rfl, fun sources color => ?_⟩
  · intro m hm
    rcases List.mem_cons.1 hm with rfl | hm
    · exact ⟨rfl, rfl⟩
    · obtain ⟨d, _, rfl⟩ := List.mem_map.1 hm
      exact ⟨rfl, rfl⟩
  · exact (C16_format_errors_total _ sources color).1
      (List.forall_mem_singleton.2 (List.cons_ne_nil _ _))

/-- **`embossc` exits 0 or 1, never with a traceback** — provided the front end returned an
IR or well-formed errors, the back end's groups are non-empty, and the output location is
writable.  Exit 1 happens exactly when the front end or the back end reported errors, and
then stderr is those errors rendered (front-end errors without source snippets: the IR is
`None`); exit 0 exactly when both succeeded, and then the header is written to
`join(output_path, output_file or input + ".h")`. -/
theorem C16_embossc_exit {σ : Type} (front : FrontResult σ) (back : σ → Text × Errors)
    (color : Bool) (op ofile : Option Text) (input : Text) (fs : OutFs)
    (hfront : ∀ es, front = .errors es → WellFormed es)
    (hback : ∀ s src, front = .ir s src → ∀ g ∈ (back s).2, g ≠ [])
    (hdir : dirname (embosscOutput op ofile input) ≠ [])
    (hmk : fs.makedirs (dirname (embosscOutput op ofile input)) = true)
    (hwr : fs.openWrite (embosscOutput op ofile input) = true) :
    (∃ es t, front = .errors es ∧ showErrors es [] color = .ok t ∧
        embosscMain front back color op ofile input fs = .exit 1 t none) ∨
    (∃ s src t, front = .ir s src ∧ (back s).2 ≠ [] ∧ showErrors (back s).2 src color = .ok t ∧
        embosscMain front back color op ofile input fs = .exit 1 t none) ∨
    (∃ s src, front = .ir s src ∧ (back s).2 = [] ∧
        embosscMain front back color op ofile input fs =
          .exit 0 [] (some (embosscOutput op ofile input, (back s).1))) := by
  cases front with
  | errors es =>
    obtain ⟨hne, hg⟩ := hfront es rfl
    obtain ⟨t, ht⟩ := showErrors_ok color [] es hg
    have hemp := List.isEmpty_eq_false_iff.2 hne
    exact .inl ⟨es, t, rfl, ht, by simp [embosscMain, hemp, ht]⟩
  | ir s src =>
    by_cases hb : (back s).2 = []
    · have hd := List.isEmpty_eq_false_iff.2 hdir
      exact .inr (.inr ⟨s, src, rfl, hb, by simp [embosscMain, hb, hd, hmk, hwr]⟩)
    · obtain ⟨t, ht⟩ := showErrors_ok color src (back s).2 (hback s src rfl)
      have hemp := List.isEmpty_eq_false_iff.2 hb
      exact .inr (.inl ⟨s, src, t, rfl, hb, ht, by simp [embosscMain, hemp, ht]⟩)

/-- Non-vacuity, and the two command-line quirks: the default output lands in
`./<input>.h`; an empty `--output-path` with a bare file name makes `os.makedirs("")` raise. -/
example :
    embosscMain (σ := Unit) (.ir () []) (fun _ => ("H".toList, [])) false none none "m.emb".toList
      ⟨fun _ => true, fun _ => true⟩ = .exit 0 [] (some ("./m.emb.h".toList, "H".toList)) ∧
    embosscMain (σ := Unit) (.ir () []) (fun _ => ("H".toList, [])) false (some []) none "m.emb".toList
      ⟨fun _ => true, fun _ => true⟩ = .raised "FileNotFoundError" := by
  repeat rw [String.toList_ofList]
  decide +kernel

/-- With `stop_before_step = None` and fuel beyond the number of reachable files,
`parse_emboss_file` answers with an IR or with errors: it neither trips an assertion nor runs out
of fuel. -/
theorem parseEmbossFile_ir_or_errors {σ : Type} (parse : String → Parsed) (mk : List String → σ)
    (passes : List (Pass σ)) (root : String) (U : List String)
    (hU : ∀ f, Reach parse root f → f ∈ U) (fuel : Nat) (hfuel : U.length < fuel) :
    (∃ s, parseEmbossFile parse mk passes none fuel root = .ir s) ∨
    (∃ es, parseEmbossFile parse mk passes none fuel root = .errors es) := by
  unfold parseEmbossFile
  split
  · rename_i hq
    exact absurd hq (C16_import_queue_terminates parse root U hU fuel hfuel).1
  · exact .inr ⟨_, rfl⟩
  · rename_i files _
    cases hp : processIr passes none (mk files) with
    | ir s => exact .inl ⟨s, rfl⟩
    | errors es => exact .inr ⟨es, rfl⟩
    | crash c => exact absurd hp (processLoop_no_crash nofun)
    | outOfFuel => exact absurd hp processLoop_no_fuel

/-- **End to end: `embossc` on the modelled pipeline.**  For any per-file parser and passes
that never return an empty group, any finite import graph (fuel beyond the number of reachable
files), `stop_before_step = None` (the executables never set it), a back end that never returns
an empty group and a writable output location: the run is `exit 0` with the header written, or
`exit 1` with the rendered errors on stderr — never a traceback, never out of fuel.  The passes,
the per-file parser and the back end are abstract: this is the plumbing half of the property;
that they do not raise themselves is the exploration's half. -/
theorem C16_embossc_end_to_end {σ : Type} (parse : String → Parsed) (mk : List String → σ)
    (passes : List (Pass σ)) (root : String) (U : List String)
    (hU : ∀ f, Reach parse root f → f ∈ U) (fuel : Nat) (hfuel : U.length < fuel)
    (hparse : ∀ f, ∀ g ∈ (parse f).errors, g ≠ [])
    (hpass : ∀ p ∈ passes, ∀ s, ∀ g ∈ (p.run s).2, g ≠ [])
    (sources : σ → List (String × Text)) (back : σ → Text × Errors)
    (hback : ∀ s, ∀ g ∈ (back s).2, g ≠ [])
    (color : Bool) (op ofile : Option Text) (input : Text) (fs : OutFs)
    (hdir : dirname (embosscOutput op ofile input) ≠ [])
    (hmk : fs.makedirs (dirname (embosscOutput op ofile input)) = true)
    (hwr : fs.openWrite (embosscOutput op ofile input) = true) :
    ∃ front, frontOf (parseEmbossFile parse mk passes none fuel root) sources = .ok front ∧
      ((∃ t, embosscMain front back color op ofile input fs = .exit 1 t none) ∨
       (∃ h, embosscMain front back color op ofile input fs =
          .exit 0 [] (some (embosscOutput op ofile input, h)))) := by
  have exit (front : FrontResult σ) (hfront : ∀ es, front = .errors es → WellFormed es)
      (hb : ∀ s src, front = .ir s src → ∀ g ∈ (back s).2, g ≠ []) :
      (∃ t, embosscMain front back color op ofile input fs = .exit 1 t none) ∨
      (∃ h, embosscMain front back color op ofile input fs =
        .exit 0 [] (some (embosscOutput op ofile input, h))) := by
    rcases C16_embossc_exit front back color op ofile input fs hfront hb hdir hmk hwr with
      ⟨_, t, _, _, h⟩ | ⟨_, _, t, _, _, _, h⟩ | ⟨_, _, _, _, h⟩
    · exact .inl ⟨t, h⟩
    · exact .inl ⟨t, h⟩
    · exact .inr ⟨_, h⟩
  rcases parseEmbossFile_ir_or_errors parse mk passes root U hU fuel hfuel with
    ⟨s, hout⟩ | ⟨es, hout⟩
  · exact ⟨.ir s (sources s), by rw [hout]; rfl,
      exit _ nofun fun s' src h => by cases h; exact hback _⟩
  · have hwf := (C16_errors_nonempty parse mk passes none fuel root es hout).2 hparse hpass
    exact ⟨.errors es, by rw [hout]; rfl, exit _ (fun es' h => by cases h; exact hwf) nofun⟩

/-- Non-vacuity: a two-file project whose import is unreadable ends in exit 1 with the
"Unable to read file." group on stderr. -/
example :
    let parse : String → Parsed := fun f =>
      if f = "top.emb" then ⟨[], ["", "dep.emb"]⟩
      else if f = "" then ⟨[], []⟩ else ⟨[unreadableGroup f ["import path .".toList]], []⟩
    (match frontOf (parseEmbossFile parse (fun _ => ()) ([] : List (Pass Unit)) none 9 "top.emb")
        (fun _ => []) with
     | .ok front =>
       (match embosscMain front (fun _ => ([], [])) false none none "top.emb".toList
          ⟨fun _ => true, fun _ => true⟩ with
        | .exit 1 t none => t.take 35 == "dep.emb:1:1: error: Unable to read ".toList
        | _ => false)
     | .error _ => false) = true := by
  repeat rw [String.toList_ofList]
  decide +kernel

end Emboss.Pipeline
