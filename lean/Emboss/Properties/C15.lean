/-
C15 — Dependency cycles are always rejected; field order respects dependencies.

Property theorems only; lemmas: Lemmas/{Deps,Tarjan*,GroupsCanon}.lean.
Models: Model/{Deps,Tarjan}.lean (mirror dependency_checker.py).
-/
import Emboss.Lemmas.Deps
import Emboss.Lemmas.TarjanMain
import Emboss.Lemmas.GroupsCanon
namespace Emboss.Deps

/-! ## Field ordering (`_find_dependency_ordering_for_fields_in_structure`) -/

/-- Every field of `fields_in_dependency_order` comes after all fields (or runtime
parameters) its location, condition or value mentions.  Unconditional: holds for
whatever prefix the loop manages to emit. -/
theorem C15_order_topological (deps : DepFn) (params fields : List Nat) :
    TopoFrom deps params (order deps params fields) :=
  orderAux_topo deps _ _ _

/-- The ordering is the source order whenever the source order already has the
property. -/
theorem C15_order_identity_if_sorted (deps : DepFn) (params fields : List Nat)
    (h : TopoFrom deps params fields) : order deps params fields = fields := by
  induction fields generalizing params with
  | nil => rfl
  | cons f rest ih =>
    have hr : ready deps params f = true := ready_iff.mpr h.1
    simp only [order, List.length_cons, orderAux, pickFirst_head_ready hr]
    exact congrArg (f :: ·) (ih _ h.2)

/-- When the Python `assert len(order) == len(structure.field)` passes, the ordering
is a permutation of the structure's fields. -/
theorem C15_order_perm (deps : DepFn) (params fields o : List Nat)
    (h : orderChecked deps params fields = some o) : o.Perm fields := by
  unfold orderChecked at h
  simp only at h
  split at h
  · rename_i hl
    cases h
    obtain ⟨left, hperm⟩ := orderAux_perm_append deps fields.length params fields
    have hlen := hperm.length_eq
    rw [List.length_append, ← order, hl] at hlen
    rw [List.eq_nil_of_length_eq_zero (Nat.left_eq_add.mp hlen), List.append_nil] at hperm
    exact hperm.symm
  · cases h

/-- The assert cannot fire on a structure whose fields admit *any* dependency-respecting
arrangement (that an acyclic field graph which mentions only the structure's own fields and
parameters admits one is the content of `C15_assert_cannot_fire`). -/
theorem C15_order_complete (deps : DepFn) (params fields p : List Nat)
    (hp : p.Perm fields) (ht : TopoFrom deps params p) :
    ∃ o, orderChecked deps params fields = some o := by
  refine ⟨_, orderChecked_of_length ?_⟩
  refine orderAux_induction (motive := fun added needed out => ∀ p : List Nat, p.Perm needed →
    TopoFrom deps added p → out.length = needed.length) deps ?_ ?_ params fields (Nat.le_refl _)
    p hp ht
  · intro added needed hno p hp ht
    cases p with
    | nil => rw [hp.symm.eq_nil]
    | cons q p' =>
      have := hno q (hp.subset (List.mem_cons_self ..))
      rw [ready_iff.mpr ht.1] at this
      cases this
  · intro added needed f rest out hpick ih p hp ht
    have h1 : (p.erase f).Perm rest := by simpa using (hp.trans (pickFirst_perm hpick)).erase f
    rw [List.length_cons, ih _ h1 (TopoFrom_erase ht), pickFirst_length hpick]

/-- Field 0 mentions field 2, which mentions parameter 7. -/
def exDeps : DepFn := fun f => if f = 0 then [2] else if f = 2 then [7] else []

/-- Non-vacuity: the source order `[0, 1, 2]` is not topological and is reordered to
`[1, 2, 0]`; the hypotheses of `C15_order_complete` are met by the arrangement `[2, 0, 1]`. -/
example :
    order exDeps [7] [0, 1, 2] = [1, 2, 0] ∧ TopoFrom exDeps [7] [2, 0, 1] ∧
      ¬ TopoFrom exDeps [7] [0, 1, 2] := by
  decide +kernel

/-- Among all dependency-respecting arrangements of the fields the
produced order is the lexicographically least w.r.t. source positions (fields numbered in
source order) — "each field moves back only as far as its dependencies force it". -/
theorem C15_order_least (deps : DepFn) (params fields p : List Nat)
    (hs : fields.Pairwise (· < ·)) (hp : p.Perm fields) (ht : TopoFrom deps params p) :
    LexLe (order deps params fields) p := by
  refine orderAux_induction (motive := fun added needed out => needed.Pairwise (· < ·) →
    ∀ p : List Nat, p.Perm needed → TopoFrom deps added p → LexLe out p) deps
    (fun _ _ _ _ p _ _ => .nil p) ?_ params fields (Nat.le_refl _) hs p hp ht
  intro added needed f rest out hpick ih hs p hp ht
  have hperm := hp.trans (pickFirst_perm hpick)
  cases p with
  | nil => exact nomatch hperm.length_eq
  | cons q p' =>
    have hle := pickFirst_min hs hpick q (hp.subset (List.mem_cons_self ..))
      (ready_iff.mpr ht.1)
    rcases Nat.lt_or_eq_of_le hle with hlt | rfl
    · exact .lt _ _ hlt
    · exact .eq _ (ih (hs.sublist (pickFirst_sublist hpick)) p' hperm.cons_inv ht.2)

example : order exDeps [7] [0, 1, 2] = [1, 2, 0] ∧ TopoFrom exDeps [7] [2, 0, 1] ∧
    LexLe [1, 2, 0] [2, 0, 1] := ⟨by decide +kernel, by decide +kernel, .lt _ _ (by decide)⟩

/-! ## Cycle detection (`_find_cycles`, Tarjan as written in dependency_checker.py) -/

/-- Recursion depth (the model's fuel) never exceeds the number of keys:
`_find_cycles` returns for every graph (or raises `KeyError` when a destination is not a
key; that the graphs `_find_dependencies` builds have no such destination is not proved here). -/
theorem C15_terminates (g : Graph) : findCycles g ≠ .outOfFuel := by
  rw [findCycles_eq]
  cases closed g <;> nofun

/-- The components reported by `_find_cycles`
are exactly the strongly connected components that contain a cycle — each reported list is
duplicate-free, is a class of mutual reachability, and consists of nodes that depend on
themselves; every node that depends on itself is in some reported component; and
reported components are pairwise disjoint (no SCC is reported twice).  The statement does
not mention the order in which keys or successors are iterated: the *set* of components
is independent of Python's set/dict iteration order (`C15_order_independent`). -/
theorem C15_tarjan_sccs (g : Graph) (cs : List (List Nat)) (h : findCycles g = .ok cs) :
    (∀ C ∈ cs, C.Nodup ∧ IsSCC g C ∧ ∀ a ∈ C, cyclic g a) ∧
    (∀ a, cyclic g a → ∃ C ∈ cs, a ∈ C) ∧
    cs.Pairwise (fun C D => ∀ a ∈ C, a ∉ D) := by
  rw [findCycles_eq] at h
  split at h
  · rename_i hc
    obtain ⟨hinv, hstk, hall⟩ := tarjan_final g hc (Nat.le_refl _)
    cases h
    refine ⟨fun C hC => ?_, fun a ha => ?_, hinv.compsDisj⟩
    · obtain ⟨_, h2, h3, h4⟩ := hinv.compsOk C hC
      exact ⟨h3, h2, h4⟩
    · obtain ⟨b, he, _⟩ := ReachP.head ha
      exact hinv.compsAll a (hall a (edge_src_key he)) (by rw [hstk]; exact List.not_mem_nil) ha
  · cases h

/-- The same in the wording of the code ("components of size 1 without a self-edge are not
included"): the result is, as a set of sets, `{C | C SCC of g ∧ (|C| > 1 ∨ self-edge)}`. -/
theorem C15_tarjan_sccs_literal (g : Graph) (cs : List (List Nat)) (h : findCycles g = .ok cs) :
    (∀ C ∈ cs, C.Nodup ∧ IsSCC g C ∧ (C.length > 1 ∨ ∃ a, C = [a] ∧ Edge g a a)) ∧
    (∀ C, C.Nodup → IsSCC g C → (C.length > 1 ∨ ∃ a, C = [a] ∧ Edge g a a) →
      ∃ C' ∈ cs, ∀ x, x ∈ C ↔ x ∈ C') := by
  obtain ⟨h1, h2, _⟩ := C15_tarjan_sccs g cs h
  constructor
  · intro C hC
    obtain ⟨hnd, hscc, hcyc⟩ := h1 C hC
    obtain ⟨a, ha⟩ := List.exists_mem_of_ne_nil C hscc.1
    exact ⟨hnd, hscc, hscc.nontrivial_of_cyclic ha (hcyc a ha)⟩
  · intro C hnd hscc hnt
    obtain ⟨a, haC⟩ := List.exists_mem_of_ne_nil C hscc.1
    obtain ⟨C', hC', haC'⟩ := h2 a (hscc.cyclic_of_nontrivial hnd hnt a haC)
    refine ⟨C', hC', fun x => ?_⟩
    rw [hscc.2 a haC x, (h1 C' hC').2.1.2 a haC' x]

/-- A "Dependency cycle" error is produced exactly when some definition
depends on itself through references. -/
theorem C15_cycle_iff (g : Graph) (cs : List (List Nat)) (h : findCycles g = .ok cs) :
    cs ≠ [] ↔ ∃ a, cyclic g a := by
  obtain ⟨h1, h2, _⟩ := C15_tarjan_sccs g cs h
  constructor
  · intro hne
    obtain ⟨C, hC⟩ := List.exists_mem_of_ne_nil cs hne
    obtain ⟨_, hscc, hcyc⟩ := h1 C hC
    obtain ⟨a, ha⟩ := List.exists_mem_of_ne_nil C hscc.1
    exact ⟨a, hcyc a ha⟩
  · intro ⟨a, ha⟩ hnil
    obtain ⟨C, hC, _⟩ := h2 a ha
    rw [hnil] at hC
    cases hC

/-- The only other outcome is the `KeyError` of `graph[destination]`. -/
theorem C15_ok_iff_closed (g : Graph) : (∃ cs, findCycles g = .ok cs) ↔ closed g = true := by
  rw [findCycles_eq]
  cases closed g <;> simp

/-- Iteration order of `graph` and of each `graph[node]` (Python dict/set order) does not
matter: two dicts with the same edges yield the same set of components. -/
theorem C15_order_independent (g g' : Graph) (cs cs' : List (List Nat))
    (he : ∀ a b, Edge g a b ↔ Edge g' a b)
    (h : findCycles g = .ok cs) (h' : findCycles g' = .ok cs') :
    ∀ C ∈ cs, ∃ C' ∈ cs', ∀ x, x ∈ C ↔ x ∈ C' := by
  intro C hC
  obtain ⟨h1, _, _⟩ := C15_tarjan_sccs g cs h
  obtain ⟨h1', h2', _⟩ := C15_tarjan_sccs g' cs' h'
  obtain ⟨_, hscc, hcyc⟩ := h1 C hC
  have to' : ∀ x y, Edge g x y → Edge g' x y := fun x y => (he x y).mp
  have from' : ∀ x y, Edge g' x y → Edge g x y := fun x y => (he x y).mpr
  obtain ⟨a, haC⟩ := List.exists_mem_of_ne_nil C hscc.1
  obtain ⟨C', hC', haC'⟩ := h2' a ((hcyc a haC).mono to')
  refine ⟨C', hC', fun x => ?_⟩
  rw [hscc.2 a haC x, (h1' C' hC').2.1.2 a haC' x]
  exact ⟨fun m => ⟨m.1.mono to', m.2.mono to'⟩, fun m => ⟨m.1.mono from', m.2.mono from'⟩⟩

/-- Non-vacuity (tests by evaluation): two SCCs joined by a bridge plus a self-loop and an
acyclic tail; the self-loop alone; an acyclic chain (no component); a dangling edge. -/
example : findCycles [(0, [1]), (1, [2]), (2, [0, 3]), (3, [4]), (4, [3]), (5, [5]), (6, [5])]
    = .ok [[4, 3], [2, 1, 0], [5]] := by decide +kernel
example : findCycles [(0, [1]), (1, [2]), (2, [])] = .ok [] := by decide +kernel
example : findCycles [(0, [1])] = .keyError := by decide +kernel
example : cyclic [(0, [1]), (1, [0])] 0 :=
  .step (b := 1) (by decide) (.single (by decide))

/-! ## The link between the two halves -/

/-- The two halves together: if cycle detection reported nothing for the graph `g` and
every reference of a field of the structure goes to a field or parameter of the same
structure, then the Python `assert len(order) == len(structure.field)` cannot fire, and
the order is a permutation of the fields. -/
theorem C15_assert_cannot_fire (g : Graph) (params fields : List Nat)
    (hcyc : findCycles g = .ok [])
    (hdeps : ∀ f ∈ fields, ∀ d ∈ succs g f, d ∈ fields ∨ d ∈ params) :
    ∃ o, orderChecked (succs g) params fields = some o ∧ o.Perm fields := by
  have hac : ∀ a, ¬ cyclic g a := fun a ha =>
    ((C15_cycle_iff g [] hcyc).mpr ⟨a, ha⟩) rfl
  have hoc := orderChecked_of_length (deps := succs g) (params := params) (fields := fields) <| by
    refine orderAux_induction (motive := fun added needed out =>
      (∀ x ∈ needed, ∀ d ∈ succs g x, d ∈ needed ∨ d ∈ added) → out.length = needed.length)
      (succs g) ?_ ?_ params fields (Nat.le_refl _) hdeps
    · intro added needed hno hd
      cases needed with
      | nil => rfl
      | cons a t =>
        -- nothing is ready: every needed field mentions a needed field, so there is a cycle
        obtain ⟨c, hc⟩ := cycle_of_no_sink (List.cons_ne_nil a t) fun x hx => by
          obtain ⟨d, hds, hda⟩ := List.all_eq_false.mp (hno x hx)
          exact ⟨d, (hd x hx d hds).resolve_right fun h => hda (List.contains_iff_mem.mpr h),
            .single hds⟩
        exact absurd hc (hac c)
    · intro added needed f rest out hpick ih hd
      have hperm := pickFirst_perm hpick
      rw [List.length_cons, pickFirst_length hpick, ih fun x hx d hdx => ?_]
      rcases hd x (hperm.symm.subset (List.mem_cons_of_mem _ hx)) d hdx with h | h
      · exact (List.mem_cons.mp (hperm.subset h)).elim (fun e => .inr (e ▸ List.mem_cons_self ..)) .inl
      · exact .inr (List.mem_cons_of_mem _ h)
  exact ⟨_, hoc, C15_order_perm _ _ _ _ hoc⟩

example : findCycles [(0, [2]), (1, []), (2, [7]), (7, [])] = .ok [] ∧
    orderChecked (succs [(0, [2]), (1, []), (2, [7]), (7, [])]) [7] [0, 1, 2] = some [1, 2, 0] := by
  decide +kernel

/-! ## Error construction, edge extraction, import graph -/

/-- The error groups are emitted in sorted order (`sorted(cycles, key=sorted)`), each
group lists its component in sorted order (`sorted(cycle)`), and nothing is lost.  That the
result is a function of the *set* of components is `C15_output_order_independent`. -/
theorem C15_groups_sorted (comps : List (List Nat)) :
    (cycleGroups comps).Pairwise (fun a b => lexLe a b = true) ∧
    (∀ G ∈ cycleGroups comps, G.Pairwise (· ≤ ·) ∧ ∃ C ∈ comps, G.Perm C) ∧
    (cycleGroups comps).length = comps.length := by
  refine ⟨(isort_lexLe_sorted _).imp (lexLe_iff_le _ _).mpr, fun G hG => ?_, ?_⟩
  · have hG' := (isort_perm lexLe _).subset hG
    obtain ⟨C, hC, rfl⟩ := List.mem_map.mp hG'
    exact ⟨isort_natLe_sorted C, C, hC, isort_perm _ _⟩
  · have := (isort_perm lexLe (comps.map (isort fun a b => decide (a ≤ b)))).length_eq
    simpa [cycleGroups] using this

example : cycleGroups [[4, 3], [2, 1, 0], [5]] = [[0, 1, 2], [3, 4], [5]] := by decide +kernel

/-- End to end: the emitted error groups (what the user sees, in order) do not depend on
Python's dict/set iteration order — two dicts with the same edges give the same groups. -/
theorem C15_output_order_independent (g g' : Graph) (cs cs' : List (List Nat))
    (he : ∀ a b, Edge g a b ↔ Edge g' a b)
    (h : findCycles g = .ok cs) (h' : findCycles g' = .ok cs') :
    cycleGroups cs = cycleGroups cs' := by
  obtain ⟨h1, _, h3⟩ := C15_tarjan_sccs g cs h
  obtain ⟨h1', _, h3'⟩ := C15_tarjan_sccs g' cs' h'
  exact cycleGroups_canonical cs cs'
    (fun C hC => ⟨(h1 C hC).1, (h1 C hC).2.1.1⟩) (fun C hC => ⟨(h1' C hC).1, (h1' C hC).2.1.1⟩) h3 h3'
    (C15_order_independent g g' cs cs' he h h')
    (C15_order_independent g' g cs' cs (fun a b => (he a b).symm) h' h)

example : cycleGroups [[4, 3], [2, 1, 0], [5]] = cycleGroups [[5], [0, 2, 1], [3, 4]] := by decide +kernel

/-- Non-vacuity of the order-independence theorems: the same edges in two dict/set orders;
Tarjan discovers the components in different orders and with different member orders, the
emitted groups coincide. -/
example :
    let g : Graph := [(0, [1, 3]), (1, [0]), (2, [2]), (3, [4]), (4, [3])]
    let g' : Graph := [(4, [3]), (2, [2]), (3, [4]), (1, [0]), (0, [3, 1])]
    findCycles g = .ok [[4, 3], [1, 0], [2]] ∧ findCycles g' = .ok [[3, 4], [2], [0, 1]] ∧
    cycleGroups [[4, 3], [1, 0], [2]] = cycleGroups [[3, 4], [2], [0, 1]] := by decide +kernel

/-- `_find_dependencies`: `a` gets an edge to `b` exactly when some reference below `a`
that is outside attributes — and, for bare references (enum constants), outside atomic
types — has head `b`. -/
theorem C15_dependency_edges (defs : List Defn) (hnd : (defs.map (·.name)).Nodup)
    (d : Defn) (hd : d ∈ defs) (b : Nat) :
    Edge (findDependencies defs).1 d.name b ↔
      ∃ r ∈ d.refs, r.counts = true ∧ r.target = some b := by
  unfold Edge findDependencies
  simp only
  rw [succs_map hnd hd, mem_dedup, List.mem_filterMap]
  simp only [List.mem_filter, and_assoc]

example : (findDependencies [⟨1, [⟨some 2, 0, true, false, true⟩, ⟨some 3, 0, false, false, true⟩,
    ⟨some 4, 0, true, true, false⟩]⟩]).1 = [(1, [2])] := by decide +kernel

/-- `_find_module_import_dependencies`: every import is an edge, except the prelude's
import of itself. -/
theorem C15_import_edges (mods : List ModuleImports) (hnd : (mods.map (·.name)).Nodup)
    (m : ModuleImports) (hm : m ∈ mods) (i : Nat) :
    Edge (importGraph mods) m.name i ↔ i ∈ m.imports ∧ (i ≠ 0 ∨ m.name ≠ 0) := by
  unfold Edge importGraph
  rw [succs_map hnd hm, mem_dedup, List.mem_filter]
  simp

/-- A module other than the prelude that imports itself is an import cycle; the
prelude's self-import is not. -/
theorem C15_self_import (mods : List ModuleImports) (hnd : (mods.map (·.name)).Nodup) :
    (∀ m ∈ mods, m.name ≠ 0 → m.name ∈ m.imports → cyclic (importGraph mods) m.name) ∧
    ¬ Edge (importGraph mods) 0 0 := by
  refine ⟨fun m hm h0 hi => .single ((C15_import_edges mods hnd m hm _).mpr ⟨hi, .inl h0⟩), ?_⟩
  intro he
  obtain ⟨ds, hm, h0⟩ := edge_mem he
  obtain ⟨m, _, hme⟩ := List.mem_map.mp hm
  injection hme with hname hds
  rw [← hds, mem_dedup, List.mem_filter, hname] at h0
  simp at h0

example : findModuleDependencyCycles [⟨0, [0]⟩, ⟨1, [0, 1]⟩, ⟨2, [0, 3]⟩, ⟨3, [0, 2]⟩] =
    .cycles [[1], [2, 3]] := by decide +kernel

end Emboss.Deps
