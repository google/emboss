/-
C06 — Text format output reads back to the same structure.

The property theorems with their non-vacuity examples and counterexamples.  Models:
Emboss/Model/Text.lean (integer codec, tokenizer), Emboss/Model/TextTree.lean (value/struct/array writer),
Emboss/Model/TextRead.lean (reader), Emboss/Model/TextStruct.lean, TextLayout.lean (abstract structure
round trip); spec: Emboss/Spec/Text*.lean; helper lemmas: Emboss/Lemmas/TextInt, TextIntWrite, TextTok,
TextWrite, TextCursor, TextRoundScalar, TextRound, TextStruct, TextLayout (TextBuf is C04's; TextIntWrite takes
`writeBody_eq` from it).
-/
import Emboss.Lemmas.TextLayout
import Emboss.Lemmas.TextRound
namespace Emboss.Text
open Spec Emboss.Deps

/-! ## Integer text encoding and decoding are mutually inverse -/

/-- For each of the eight integer types, every value of the type, every base the writer
supports and both grouping settings: `DecodeInteger` applied to what
`WriteIntegerToTextStream` wrote yields the value.  (All values: induction over the
writer's digit recursion, `writeLoop_body`; includes `lowest()`.) -/
theorem C06_int_roundtrip (T : IntTy) (x : Int) (base : Base) (grouping : Bool)
    (hx : T.InRange x) : decodeInt T (writeInt T x base grouping) = some x :=
  decodeInt_writeInt_any T T x base grouping hx

/-- Non-vacuity / tests (`decide` over literals): INT64_MIN in decimal with grouping, INT8_MIN in
binary, hexadecimal grouped by four digits. -/
example : IntTy.i64.InRange (-9223372036854775808) ∧
    String.ofList (writeInt .i64 (-9223372036854775808) .b10 true) = "-9_223_372_036_854_775_808" ∧
    String.ofList (writeInt .i8 (-128) .b2 true) = "-0b10000000" ∧
    String.ofList (writeInt .u16 65535 .b16 true) = "0xffff" ∧
    String.ofList (writeInt .u32 65536 .b16 true) = "0x1_0000" := by
  refine ⟨by decide, ?_, ?_, ?_, ?_⟩
  all_goals apply congrArg String.ofList (by decide +kernel)

/-! ## Malformed numbers are rejected rather than wrapped -/

/-- Whatever `DecodeInteger` accepts, it returns the mathematical value denoted by the
text's digits (`Spec.textValue`: sign, base prefix, digits most-significant first,
`_` ignored), and that value is in the range of the type: no wrap-around. -/
theorem C06_decode_no_wrap (T : IntTy) (s : List Char) (v : Int)
    (h : decodeInt T s = some v) : textValue T.signed s = some v ∧ T.InRange v :=
  (decodeInt_eq_some.mp h).2

/-- Texts that are not numbers (`textValue = none`: nothing after sign/prefix, a
character that is not a digit of the base, a `-` for an unsigned type) and numbers
outside the range of the type are rejected. -/
theorem C06_decode_rejects (T : IntTy) (s : List Char)
    (h : textValue T.signed s = none ∨ ∃ v, textValue T.signed s = some v ∧ ¬ T.InRange v) :
    decodeInt T s = none := by
  cases hd : decodeInt T s with
  | none => rfl
  | some w =>
    obtain ⟨_, hv, hw⟩ := decodeInt_eq_some.mp hd
    rcases h with h | ⟨v, h, hr⟩
    · rw [h] at hv; cases hv
    · rw [h] at hv; cases hv; exact absurd hw hr

/-- Conversely every in-range number text is accepted, unless its very first character
is `_` (the only placement of `_` the code refuses). -/
theorem C06_decode_accepts (T : IntTy) (s : List Char) (v : Int)
    (h : textValue T.signed s = some v) (hr : T.InRange v) (h0 : s.head? ≠ some '_') :
    decodeInt T s = some v :=
  decodeInt_eq_some.mpr ⟨h0, h, hr⟩

/-- Non-vacuity / tests: one past the range, sign on an unsigned type, empty after the
prefix, foreign digit, leading `_` are rejected; odd but harmless `_` placements and
upper-case prefixes are accepted with the exact value (observed leniency). -/
example :
    decodeInt .u8 "256".toList = none ∧ decodeInt .i8 "-129".toList = none ∧
    decodeInt .u8 "-1".toList = none ∧ decodeInt .u8 "0x".toList = none ∧
    decodeInt .i8 "-".toList = none ∧ decodeInt .u8 "0b12".toList = none ∧
    decodeInt .u8 "_1".toList = none ∧ decodeInt .u64 "18446744073709551616".toList = none ∧
    decodeInt .u8 "0x_".toList = some 0 ∧ decodeInt .i8 "-_".toList = some 0 ∧
    decodeInt .u8 "1__2_".toList = some 12 ∧
    decodeInt .i8 "-_1".toList = some (-1) ∧ decodeInt .u8 "0XfF".toList = some 255 ∧
    decodeInt .i8 "-128".toList = some (-128) ∧
    textValue true "-128".toList = some (-128) ∧ textValue false "-1".toList = none := by
  -- the kernel decodes a literal's UTF-8 form slowly: the characters are given by `String.toList_ofList`
  repeat rw [String.toList_ofList]
  decide +kernel

/-! ## The writer's output is read back token for token -/

/-- For every value tree (structs, arrays, integers, enums, booleans, float texts; read-only
fields as comments) and every *re-readable* option set (`Opts.Rereadable`: single-line with comments off,
or multi-line with comments on or off), any base, any digit grouping, any blank indentation —
`ReadToken` applied repeatedly to `WriteToString`'s text yields exactly the tokens the writer
emitted (names, `:`, `{`, `}`, `[`, `]`, `,`, numbers, enum names, …), comments and white
space dropped.  Single-line output *with* comments is excluded (`Opts.Rereadable`): a `#`
comment swallows the rest of the line, see `C06_single_line_comments_counterexample`.
The value tree may hold unreadable atomic fields / elements (`skip` nodes: the text of a view
that is not `Ok`, written with `allow_partial_output`): they contribute no tokens, only
`UNREADABLE` comments. -/
theorem C06_tokens_roundtrip (o : Opts) (v : TVal) (ho : o.Rereadable) (hv : v.WF) :
    tokens (writeToString o v) = some (toks (writeVal o v)) := by
  have := tokens_of_wellSep (writeVal o v) .other ((render (writeVal o v)).length + 1)
    (wellSep_val v o ho hv).1 (Nat.lt_succ_self _)
  simpa [tokens, writeToString] using this

def exTree : TVal :=
  .struct (.cons "n".toList false (.scalar (.int .u8 2))
    (.cons "v".toList true (.scalar (.int .u32 4))
    (.cons "e".toList false (.scalar (.enumV (some "RED".toList) .u8 1))
    (.cons "xs".toList false (.arr true (.cons (.scalar (.int .u8 72)) (.cons (.scalar (.int .u8 105)) .nil)))
    (.cons "f".toList false (.scalar (.bool true)) .nil)))))

def exOptsML : Opts := ⟨true, true, .b10, true, "  ".toList, []⟩
def exOptsSL : Opts := ⟨false, false, .b16, false, [], []⟩
def exOptsBad : Opts := ⟨false, true, .b10, false, [], []⟩

example : exOptsML.Rereadable ∧ exOptsSL.Rereadable ∧ exTree.WF := by
  exact ⟨⟨by decide, by decide, by decide⟩, ⟨by decide, by decide, by decide⟩, by decide +kernel⟩

example : String.ofList (writeToString exOptsSL exTree) =
    "{ n: 0x2, e: RED, xs: { [0x0]: 0x48, 0x69 }, f: true }" := by
  unfold exTree
  repeat rw [String.toList_ofList]
  apply congrArg String.ofList (by decide +kernel)

example : String.ofList (writeToString exOptsML exTree) =
    "{\n  n: 2  # 0x2\n  # v: 4  # 0x4\n  e: RED  # 1\n  xs: {\n    # Hi\n    [0]: 72  # 0x48\n    [1]: 105  # 0x69\n  }\n  f: true\n}" := by
  unfold exTree exOptsML
  repeat rw [String.toList_ofList]
  apply congrArg String.ofList (by decide +kernel)

theorem C06_single_line_comments_counterexample :
    ¬ exOptsBad.Rereadable ∧
      tokens (writeToString exOptsBad exTree) ≠ some (toks (writeVal exOptsBad exTree)) := by
  constructor
  · intro h; exact absurd (h.comments_need_multiline rfl) (by decide)
  · unfold exTree
    repeat rw [String.toList_ofList]
    decide +kernel

/-! ## Reader ∘ tokenizer ∘ writer at the text level

`updateFromText` (= `ReadToken`/`DiscardWhitespace` + the integer/enum/boolean/array/struct
readers) applied to `writeToString`'s characters.  Composition of `C06_tokens_roundtrip`'s two
halves (the writer's pieces are well separated, `wellSep_val`; well separated pieces are read
token by token, here step by step: `At.word`, `At.punct`, `At.skip`), of `C06_int_roundtrip`
(every number token decodes to the value written, also through the enum reader's
`uint64_t`/`int64_t` detour) and of the reader model, by mutual structural induction over the
value tree along the reader's path (`reads_val`, `read_elemsSL`, `reads_elemsML`,
`reads_fields`, summed up in `updateFromText_reads`, Emboss/Lemmas/TextRound.lean). -/

/-- FULL STATEMENT (false, see `C06_array_multiline_counterexample`): for every value tree `v`
of static shape `s` (struct of integers / enums / booleans / float texts / nested structs /
fixed-size arrays; `Matches s v`) and every re-readable option set, `UpdateFromText` applied to
`WriteToString`'s text succeeds, and its `TryToWrite` calls are exactly the emitted leaves of
`v` — each path with its own value, in text order (`writesVal`); only white space and comments
are left unread.
Proved here under `noMultilineArray o v`: in multi-line mode no array has two or more elements
(open finding `multiline-array-elements-not-comma-separated`: the multi-line writer puts no `,`
between elements, the array reader insists on one).  Single-line arrays of any length, and
multi-line arrays with at most one written element, are covered; nothing else is excluded.
Trees with unreadable atomic leaves (`skip` nodes; `allow_partial_output` on a view that is not
`Ok`) are included: their text is re-read too and yields exactly the *readable* leaves, each at
its own path — an array element after a skipped one keeps its index because the single-line
writer then emits an explicit `[i]:` (`skipped_unreadable`), the multi-line writer always. -/
theorem C06_text_roundtrip_partial (o : Opts) (v : TVal) (s : RShape) (ho : o.Rereadable)
    (hv : v.WF) (hm : Matches s v) (hml : noMultilineArray o v) :
    ∃ rest, updateFromText s (writeToString o v) = .ok (writesVal [] v) rest ∧
      discardWs false rest = [] :=
  (updateFromText_reads o v s ho hv hm).of_good hml

/-- The hypothesis of `C06_text_roundtrip_partial` is exact, and outside it the failure is a
clean rejection: for a well-formed tree of static shape and re-readable options the reader model
applied to the writer model's text either returns the emitted leaves (iff `noMultilineArray o v`)
or *fails* (`UpdateFromText` returns false: iff some array with two or more elements is written
in multi-line mode) — it never returns other values and never runs out of fuel.  The failing
side is the open finding `multiline-array-elements-not-comma-separated`; the same induction as
the positive part, up to the first element of the first such array, where `afterElem` meets the
`[` of the next index marker (`updateFromText_reads`: the rejecting half of `Reads`). -/
theorem C06_text_roundtrip_hypothesis_exact (o : Opts) (v : TVal) (s : RShape) (ho : o.Rereadable)
    (hv : v.WF) (hm : Matches s v) :
    (noMultilineArray o v ↔
      ∃ rest, updateFromText s (writeToString o v) = .ok (writesVal [] v) rest ∧
        discardWs false rest = []) ∧
    (¬ noMultilineArray o v ↔ updateFromText s (writeToString o v) = .fail) := by
  obtain ⟨hpos, hneg⟩ := updateFromText_reads o v s ho hv hm
  constructor
  · constructor
    · exact hpos
    · intro ⟨rest, h, _⟩
      apply Classical.byContradiction
      intro hn
      rw [hneg hn] at h
      cases h
  · constructor
    · exact hneg
    · intro h hml
      obtain ⟨rest, h', _⟩ := hpos hml
      rw [h] at h'
      cases h'

/-! Non-vacuity: `exTree` (integer, read-only virtual field, enum by name, two-element `UInt:8`
array, boolean) has the static shape `exShape`; single-line, base 16: the hypotheses hold and the
reader model returns the five emitted leaves.  `exTreeML`: an enum by number (negative, signed
16-bit type), a one-element array and a nested struct, multi-line with comments. -/
def exShape : RShape :=
  .struct (.cons "f".toList (.scalar .bool)
    (.cons "xs".toList (.arr 2 (.scalar (.int .u8 0 255)))
    (.cons "e".toList (.scalar (.enumR [("RED".toList, 1), ("BLUE".toList, 2)] .u8 0 255))
    (.cons "n".toList (.scalar (.int .u8 0 255)) .nil))))

example : exOptsSL.Rereadable ∧ exTree.WF ∧ Matches exShape exTree ∧ noMultilineArray exOptsSL exTree := by
  refine ⟨⟨by decide, by decide, by decide⟩, ?_, ?_, by intro h; cases h⟩
  · decide +kernel
  · exact ⟨⟨_, rfl, rfl, by decide, by decide, by decide⟩,
      ⟨_, rfl, rfl, ⟨by decide, by decide⟩, rfl, by decide, by decide⟩,
      ⟨_, rfl, rfl, by decide, ⟨rfl, by decide, by decide, by decide⟩,
        ⟨rfl, by decide, by decide, by decide⟩, trivial⟩,
      ⟨_, rfl, trivial⟩, trivial⟩

example : updateFromText exShape (writeToString exOptsSL exTree) =
    .ok [("n".toList, .int 2), ("e".toList, .int 1), ("xs[0]".toList, .int 72),
      ("xs[1]".toList, .int 105), ("f".toList, .bool true)] [] ∧
    writesVal [] exTree = [("n".toList, .int 2), ("e".toList, .int 1), ("xs[0]".toList, .int 72),
      ("xs[1]".toList, .int 105), ("f".toList, .bool true)] := by
  unfold exTree exShape
  repeat rw [String.toList_ofList]
  decide +kernel

def exTreeML : TVal :=
  .struct (.cons "k".toList false (.scalar (.enumV none .i16 (-5)))
    (.cons "xs".toList false (.arr true (.cons (.scalar (.int .u8 72)) .nil))
    (.cons "s".toList false (.struct (.cons "b".toList false (.scalar (.bool false)) .nil)) .nil)))
def exShapeML : RShape :=
  .struct (.cons "k".toList (.scalar (.enumR [("POS".toList, 7)] .i16 (-32768) 32767))
    (.cons "xs".toList (.arr 1 (.scalar (.int .u8 0 255)))
    (.cons "s".toList (.struct (.cons "b".toList (.scalar .bool) .nil)) .nil)))

example : exOptsML.Rereadable ∧ exTreeML.WF ∧ Matches exShapeML exTreeML ∧
    noMultilineArray exOptsML exTreeML := by
  refine ⟨⟨by decide, by decide, by decide⟩, ?_, ?_, ?_⟩
  · decide +kernel
  · exact ⟨⟨_, rfl, rfl, by decide, by decide, by decide⟩,
      ⟨_, rfl, rfl, by decide, ⟨rfl, by decide, by decide, by decide⟩, trivial⟩,
      ⟨_, rfl, ⟨_, rfl, trivial⟩, trivial⟩, trivial⟩
  · intro _
    exact ⟨trivial, ⟨by decide, trivial, trivial⟩, ⟨trivial, trivial⟩, trivial⟩

/-! Non-vacuity with unreadable leaves (a view that is not `Ok`, written with
`allow_partial_output`): `exTreeP` = `{ n, bad (unreadable), xs = [1, unreadable, 3, unreadable] }`.
Single-line: the element after a skipped one carries its index, the text is re-read and yields
exactly the readable leaves at their own paths.  Multi-line with comments: the unreadable
element / field are mentioned in comments only. -/
def exTreeP : TVal :=
  .struct (.cons "n".toList false (.scalar (.int .u8 2))
    (.skip "bad".toList
    (.cons "xs".toList false (.arr false (.cons (.scalar (.int .u16 1)) (.skip
      (.cons (.scalar (.int .u16 3)) (.skip .nil))))) .nil)))
def exShapeP : RShape :=
  .struct (.cons "n".toList (.scalar (.int .u8 0 255))
    (.cons "bad".toList (.scalar (.int .u8 0 9))
    (.cons "xs".toList (.arr 4 (.scalar (.int .u16 0 65535))) .nil)))

example : exOptsSL.Rereadable ∧ exTreeP.WF ∧ Matches exShapeP exTreeP ∧
    noMultilineArray exOptsSL exTreeP ∧ ¬ noMultilineArray exOptsML exTreeP := by
  refine ⟨⟨by decide, by decide, by decide⟩, ?_, ?_, (by intro h; cases h), ?_⟩
  · decide +kernel
  · exact ⟨⟨_, rfl, rfl, by decide, by decide, by decide⟩,
      ⟨_, rfl, rfl, by decide, ⟨rfl, by decide, by decide, by decide⟩,
        ⟨rfl, by decide, by decide, by decide⟩, trivial⟩, trivial⟩
  · intro h
    have h2 : (2 : Nat) ≤ 1 := (h rfl).2.1.1
    exact absurd h2 (by decide)

example : String.ofList (writeToString exOptsSL exTreeP) = "{ n: 0x2, xs: { [0x0]: 0x1, [0x2]: 0x3, } }" ∧
    updateFromText exShapeP (writeToString exOptsSL exTreeP) =
      .ok [("n".toList, .int 2), ("xs[0]".toList, .int 1), ("xs[2]".toList, .int 3)] [] ∧
    String.ofList (writeToString exOptsML exTreeP) =
      "{\n  n: 2  # 0x2\n  # bad: UNREADABLE\n  xs: {\n    [0]: 1  # 0x1\n    # [1]: UNREADABLE\n    [2]: 3  # 0x3\n    # [3]: UNREADABLE\n  }\n}" := by
  unfold exTreeP exShapeP exOptsML
  repeat rw [String.toList_ofList]
  refine ⟨?_, by decide +kernel, ?_⟩
  all_goals apply congrArg String.ofList (by decide +kernel)

example : String.ofList (writeToString exOptsML exTreeML) =
      "{\n  k: -5\n  xs: {\n    # H\n    [0]: 72  # 0x48\n  }\n  s: {\n    b: false\n  }\n}" ∧
    updateFromText exShapeML (writeToString exOptsML exTreeML) =
      .ok [("k".toList, .int (-5)), ("xs[0]".toList, .int 72), ("s.b".toList, .bool false)] [] := by
  unfold exTreeML exShapeML exOptsML
  repeat rw [String.toList_ofList]
  refine ⟨?_, by decide +kernel⟩
  apply congrArg String.ofList (by decide +kernel)

/-! The writer model on the two views the repository's own tests pin for `allow_partial_output`
(compiler/back_end/cpp/testcode/requires_test.cc, `WriteToString.NotOkFieldsAreNotWritten` and
`NotOkArrayElementsAreNotWritten`; tests over literals): the model's text is the pinned text. -/
def exPinnedFields : TVal :=
  .struct (.cons "zero_through_nine".toList false (.scalar (.int .u8 0))
    (.skip "ten_through_twenty".toList
    (.cons "disjoint".toList false (.scalar (.int .u8 0))
    (.skip "ztn_plus_ttt".toList
    (.skip "alias_of_zero_through_nine".toList
    (.cons "zero_through_nine_plus_five".toList false (.scalar (.int .i32 5)) .nil))))))
def exPinnedElems : TVal :=
  .struct (.cons "xs".toList false (.arr false
    (.cons (.struct (.skip "x".toList .nil))
    (.cons (.struct (.cons "x".toList false (.scalar (.int .u8 0)) .nil))
    (.cons (.struct (.skip "x".toList .nil))
    (.cons (.struct (.cons "x".toList false (.scalar (.int .u8 5)) .nil)) .nil))))) .nil)
def exOptsDefault : Opts := ⟨false, false, .b10, false, [], []⟩

example :
    String.ofList (writeToString exOptsML exPinnedFields) =
      "{\n  zero_through_nine: 0  # 0x0\n  # ten_through_twenty: UNREADABLE\n  disjoint: 0  # 0x0\n  # ztn_plus_ttt: UNREADABLE\n  # alias_of_zero_through_nine: UNREADABLE\n  zero_through_nine_plus_five: 5  # 0x5\n}" ∧
    String.ofList (writeToString exOptsDefault exPinnedFields) =
      "{ zero_through_nine: 0, disjoint: 0, zero_through_nine_plus_five: 5 }" ∧
    String.ofList (writeToString exOptsML exPinnedElems) =
      "{\n  xs: {\n    [0]: {\n      # x: UNREADABLE\n    }\n    [1]: {\n      x: 0  # 0x0\n    }\n    [2]: {\n      # x: UNREADABLE\n    }\n    [3]: {\n      x: 5  # 0x5\n    }\n  }\n}" ∧
    String.ofList (writeToString exOptsDefault exPinnedElems) =
      "{ xs: { [0]: { }, { x: 0 }, { }, { x: 5 } } }" := by
  unfold exPinnedFields exPinnedElems exOptsML
  repeat rw [String.toList_ofList]
  refine ⟨?_, ?_, ?_, ?_⟩
  all_goals apply congrArg String.ofList (by decide +kernel)

/-! ## The array reader refuses the multi-line writer's own output (open finding) -/

def exArrShape : RShape := .struct (.cons "xs".toList (.arr 2 (.scalar (.int .u8 0 255))) .nil)
def exArrVal : TVal :=
  .struct (.cons "xs".toList false
    (.arr true (.cons (.scalar (.int .u8 1)) (.cons (.scalar (.int .u8 2)) .nil))) .nil)
def exArrML : Opts := ⟨true, false, .b10, false, "  ".toList, []⟩
def exArrSL : Opts := ⟨false, false, .b10, false, [], []⟩

/-- The boundary of `C06_text_roundtrip_partial`: `struct Foo: 0 [+2] UInt:8[2] xs`, buffer
01 02.  Every hypothesis of the round-trip theorem holds except `noMultilineArray` (re-readable
options, well-formed tree of the static shape), and the conclusion fails: the multi-line text
`{\n  xs: {\n    [0]: 1\n    [1]: 2\n  }\n}` is rejected by the reader model
(`ReadArrayFromTextStream` wants `,` or `}` after an element; the multi-line writer puts a
line break), although its tokens are read back exactly (`C06_tokens_roundtrip`); the
single-line text is accepted and yields the values.  Replayed on the real code on every run
(finding `multiline-array-elements-not-comma-separated`). -/
theorem C06_array_multiline_counterexample :
    exArrML.Rereadable ∧ exArrVal.WF ∧ Matches exArrShape exArrVal ∧
    ¬ noMultilineArray exArrML exArrVal ∧
    updateFromText exArrShape (writeToString exArrML exArrVal) = .fail ∧
    updateFromText exArrShape (writeToString exArrSL exArrVal) =
      .ok [("xs[0]".toList, .int 1), ("xs[1]".toList, .int 2)] [] := by
  unfold exArrShape exArrVal exArrML
  repeat rw [String.toList_ofList]
  refine ⟨⟨by decide, by decide, by decide⟩, ?_, ?_, ?_, by decide +kernel, by decide +kernel⟩
  · decide +kernel
  · exact ⟨⟨_, rfl, rfl, by decide, ⟨rfl, by decide, by decide, by decide⟩,
      ⟨rfl, by decide, by decide, by decide⟩, trivial⟩, trivial⟩
  · intro h
    have h2 : (2 : Nat) ≤ 1 := (h rfl).1.1
    exact absurd h2 (by decide)

/-! ## Structure round trip, emission order, Skip / Emit -/

/-- FULL STATEMENT (false, see `C06_struct_roundtrip_counterexample`): for every field list
and every buffer, `update zeroBuf (writeText fs b)` succeeds and every emitted field reads
back equal.  Proved here under `DepOk [] fs`: the fields are in dependency order and no
skipped (or otherwise unwritten) field determines the location of an emitted one. -/
theorem C06_struct_roundtrip_partial (fs : List FieldSem) (b : Buf) (h : DepOk [] fs) :
    ∃ b1, update zeroBuf (writeText fs b) = some b1 ∧
      ∀ f ∈ fs, f.emitted = true → ∀ l, f.loc b = some l →
        f.loc b1 = some l ∧ l.map b1 = l.map b := by
  obtain ⟨b1, h1, h2⟩ := update_roundtrip fs [] b zeroBuf h (by intro g hg; cases hg)
  refine ⟨b1, h1, ?_⟩
  intro f hf hem l hl
  have h2' : AgreeOn fs b b1 := by simpa using h2
  constructor
  · rw [depOk_loc fs [] h f hf hem b b1 (by simpa using h2), hl]
  · exact List.map_congr_left (fun a ha => h2' f hf hem l hl a ha)

/-! Non-vacuity: `n` (8 bits, emitted) sizes `data` (present iff n ≠ 0): the hypothesis holds. -/
def exN (emitted : Bool) : FieldSem := ⟨fun _ => some [0, 1, 2, 3, 4, 5, 6, 7], emitted⟩
def exData : FieldSem :=
  ⟨fun b => if (b 0 || b 1 || b 2 || b 3 || b 4 || b 5 || b 6 || b 7) then some [8, 9, 10, 11, 12, 13, 14, 15] else none, true⟩
/-- n = 2, data[0] = 7 -/
def exBuf : Buf := fun a => a == 1 || a == 8 || a == 9 || a == 10

example : DepOk [] [exN true, exData] := by
  refine ⟨fun _ _ _ _ => rfl, ?_, trivial⟩
  intro _ b b' hag
  have h := hag (exN true) (by simp) rfl [0, 1, 2, 3, 4, 5, 6, 7] rfl
  simp only [exData]
  rw [h 0 (by simp), h 1 (by simp), h 2 (by simp), h 3 (by simp), h 4 (by simp), h 5 (by simp),
    h 6 (by simp), h 7 (by simp)]

/-- The excluded case is a real failure (finding `skip-field-determines-layout-of-emitted-field`):
with `n` marked Skip the text holds only `data`, and updating a zeroed buffer fails because
`data` does not exist there (`n` reads 0). -/
theorem C06_struct_roundtrip_counterexample :
    update zeroBuf (writeText [exN false, exData] exBuf) = none ∧ ¬ DepOk [] [exN false, exData] := by
  constructor
  · decide
  · intro h
    have := h.2.1 rfl exBuf zeroBuf (by
      intro g hg hge
      simp at hg; subst hg; cases hge)
    simp [exData, exBuf, zeroBuf] at this

/-- The round trip for *described* structures — leaves with layout expressions
(Emboss/Model/TextLayout.lean): conditional fields (`present`), dynamically placed fields and
arrays with a dynamic element count (one leaf per index, present iff the index is below the
count), `let` fields inlined.  If the syntactic check `depCheck` passes (everything an emitted
leaf's condition / location reads lies in bytes covered by emitted, unconditional, statically
placed leaves that stand earlier in the text), then for every buffer of `size` bits
`UpdateFromText(WriteToString(·))` into the zeroed buffer succeeds and every emitted leaf that
exists in the original exists at the same place with the same bits afterwards.  The same
`update`/`writeText` on the same descriptions is compared with the real code byte for byte
on every run (driver op `SRT`). -/
theorem C06_struct_roundtrip_described (size : Nat) (ls : List Leaf) (b : Buf)
    (h : depCheck size [] ls = true) :
    ∃ b1, update zeroBuf (writeText (ls.map (Leaf.sem size)) b) = some b1 ∧
      ∀ l ∈ ls, l.emitted = true → ∀ a, l.loc size b = some a →
        l.loc size b1 = some a ∧ a.map b1 = a.map b := by
  have hd : DepOk [] (ls.map (Leaf.sem size)) := by simpa using depCheck_sound size ls [] h
  obtain ⟨b1, h1, h2⟩ := C06_struct_roundtrip_partial (ls.map (Leaf.sem size)) b hd
  exact ⟨b1, h1, fun l hl hem a ha => h2 (Leaf.sem size l) (List.mem_map_of_mem hl) hem a ha⟩

/-! Non-vacuity: `struct Foo: let big = n > 1; let at = n * 2; if big: 1 [+1] UInt flag;
3+at [+n] UInt:8[] data (≤ 2 elements shown); 0 [+1] UInt n` in the text order `n, flag, data[0],
data[1]`, buffer of 9 bytes. -/
def exLeaves (nEmitted : Bool) : List Leaf :=
  [ ⟨.const 1, .const 0, 8, nEmitted⟩,
    ⟨.gt (.byte 0) (.const 1), .const 8, 8, true⟩,
    ⟨.gt (.byte 0) (.const 0), .mul (.const 8) (.add (.const 3) (.mul (.byte 0) (.const 2))), 8, true⟩,
    ⟨.gt (.byte 0) (.const 1), .mul (.const 8) (.add (.const 4) (.mul (.byte 0) (.const 2))), 8, true⟩ ]

/-- n = 2, flag = 9, data at 3 + 4 = 7: 5, 6 -/
def exBytes : List Nat := [2, 9, 0, 0, 0, 0, 0, 5, 6]

example : depCheck 72 [] (exLeaves true) = true ∧
    structRoundTrip (exLeaves true) exBytes = some exBytes := by decide +kernel

/-- With `n` not written (Skip) the check fails — and so does the update of the zeroed buffer
(open finding `skip-field-determines-layout-of-emitted-field`). -/
example : depCheck 72 [] (exLeaves false) = false ∧
    structRoundTrip (exLeaves false) exBytes = none := by decide +kernel

/-- Emission order, presence and absence: the write clauses are the fields of
`fields_in_dependency_order`, in that order, minus those whose `text_output` attribute is
present and different from `"Emit"`; so `Skip` ⇒ absent, `Emit` or no attribute ⇒ present.
At run time the names in the text are those clauses whose field exists, read-only ones
excepted (comments). -/
theorem C06_emission_order (decl : Nat → FieldDecl) (present : Nat → Bool) (order : List Nat) :
    (writeClauses decl order).Sublist order ∧
    (∀ i, i ∈ writeClauses decl order ↔
      i ∈ order ∧ ((decl i).textOutput = none ∨ (decl i).textOutput = some "Emit")) ∧
    (∀ i, (decl i).textOutput = some "Skip" → i ∉ writeClauses decl order) ∧
    (textNames decl present order).Sublist (writeClauses decl order) := by
  refine ⟨List.filter_sublist, fun i => ?_, fun i hi hmem => ?_, List.filter_sublist⟩
  · rw [writeClauses, List.mem_filter, FieldDecl.hasWriteClause_iff]
  · have := (FieldDecl.hasWriteClause_iff _).mp (List.mem_filter.mp hmem).2
    rw [hi] at this
    exact absurd this (by decide)

/-- Fields are emitted after the fields they depend on: with the ordering of C15
(`C15_order_topological`), every dependency of a field `f` is a runtime parameter or stands
before `f` in the order, and the text lists names in that order — so a dependency that is
written at all is written before `f`. -/
theorem C06_emission_after_dependencies (deps : DepFn) (params order l1 l2 : List Nat) (f : Nat)
    (decl : Nat → FieldDecl) (present : Nat → Bool)
    (h : TopoFrom deps params order) (hs : order = l1 ++ f :: l2) :
    textNames decl present order =
        textNames decl present l1 ++ (textNames decl present [f] ++ textNames decl present l2) ∧
      ∀ d ∈ deps f, d ∈ params ∨ d ∈ l1 := by
  subst hs
  refine ⟨?_, topoFrom_split deps l1 params f l2 h⟩
  have hcons : f :: l2 = [f] ++ l2 := rfl
  simp only [textNames, writeClauses]
  rw [hcons, List.filter_append, List.filter_append, List.filter_append, List.filter_append]

/-- The same for dependencies *through other fields* (`DependsOn` = transitive closure of the
mention relation, virtual fields included — they hold no data, so a physical field located
through `let off = n * 2` really depends on `n`): in the ordering of C15 every field `d` that
`f` depends on, directly or indirectly, is a runtime parameter or stands before `f`, hence is
written before `f` if it is written at all (`textNames` keeps the order, first conjunct of
`C06_emission_after_dependencies`).  An ordering that treats virtual fields as always available
(`seeded/C06-m2`) is not `TopoFrom` and is refuted by the harness on the real code. -/
theorem C06_emission_after_transitive_dependencies (deps : DepFn) (params order l1 l2 : List Nat)
    (f d : Nat) (h : TopoFrom deps params order) (hp : ∀ p ∈ params, deps p = [])
    (hs : order = l1 ++ f :: l2) (hd : DependsOn deps f d) : d ∈ params ∨ d ∈ l1 := by
  subst hs
  exact topoFrom_transitive deps params hp hd l1 l2 h

/-- Non-vacuity: field 0 (`payload`) is located through the virtual field 1 (`let off = n * 2`),
whose input is field 2 (`n`), declared last; parameter 7 has no dependencies.  C15's ordering
puts `n`, `off`, `payload`; `payload` depends on `n` only through `off`. -/
def exVDeps : DepFn := fun f => if f = 0 then [1] else if f = 1 then [2, 7] else []
example : order exVDeps [7] [0, 1, 2] = [2, 1, 0] ∧ TopoFrom exVDeps [7] [2, 1, 0] ∧
    (∀ p ∈ [7], exVDeps p = []) ∧ DependsOn exVDeps 0 2 ∧ 2 ∉ exVDeps 0 ∧
    ¬ TopoFrom exVDeps [7] [0, 2, 1] := by
  refine ⟨by decide, by decide, by decide, ?_, by decide, by decide⟩
  exact .step (m := 1) (by decide) (.direct (by decide))

end Emboss.Text
