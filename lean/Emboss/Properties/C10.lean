/-
C10 — Tokenization is lossless, position-accurate and classifies as documented.

Property theorems only.  Models: Emboss/Model/Regex.lean (Python `re.match` on the
fragment used), Emboss/Model/Tok.lean (`_tokenize_line`, `tokenize`).  Specs:
Emboss/Spec/Regex.lean (`Lang`), Emboss/Spec/Tok.lean (`IsBest`, `Covers`, `IndentStep`,
`FileCover`), Emboss/Spec/TokClass.lean (names and numbers), Emboss/Spec/TokFail.lean
(`FileFails`).  Lemmas: Emboss/Lemmas/Regex*.lean, Emboss/Lemmas/Tok*.lean; six notions of the
statements are defined there: `WordRun` (TokTable), `Token.shift` (TokLineSpec), `joinWith`,
`joinToks`, `GoodPiece` (TokBlankJoin), `isBreakChar` (TokSplit).

Theorems that do not mention `Generated.tokTable` hold for *every* pattern list.
-/
import Emboss.Lemmas.TokFile
import Emboss.Lemmas.TokNumbers
import Emboss.Lemmas.TokBoundary
import Emboss.Lemmas.TokLongest
import Emboss.Lemmas.TokSplit
import Emboss.Lemmas.TokLineSpec
import Emboss.Lemmas.TokFileSpec
import Emboss.Lemmas.TokBlankJoin
import Emboss.Generated.TokTable
namespace Emboss.Tok
open Emboss.Regex Emboss.Generated

/-! ## The regex engine model -/

/-- The fuel given to repetitions (input length + 1) is never exhausted. -/
theorem C10_regex_fuel_sufficient (r : Regex) (s : List Char) : matchLen r s ≠ .fuel :=
  matchLen_no_fuel r s

/-- What the backtracking matcher reports is a match of the pattern's language, no
longer than the input. -/
theorem C10_regex_sound (r : Regex) (s : List Char) (n : Nat) (h : matchLen r s = .ok n) :
    n ≤ s.length ∧ Lang r (s.take n) (s.drop n) :=
  matchLen_sound r s n h

/-- Backtracking: on `abbc` the star of `[a-z]*b` gives one `b` back. -/
example : matchLen (.seq (.rep (.chr ⟨false, [.range 97 122]⟩) 0 none) (.chr ⟨false, [.range 98 98]⟩))
    "abbc".toList = .ok 3 := by decide

/-! ## Table-level obligations (re-elaborated whenever the table is regenerated)

The other table facts and the test vectors are evaluated on `docPats`, literals through
`String.toList_ofList` (the kernel decodes a literal's UTF-8 form slowly). -/

/-- The token table printed in doc/grammar.md is, row by row, the pattern list the
tokenizer uses (literals first, then the regexes). -/
theorem C10_doc_table_is_code_table : docPats = tokTable.pats := by
  -- 42 literal rows (those of the keywords through their characters), then the regexes verbatim
  have hlit : docPats.take 42 = punctLiterals.map mkLit ++ keywordChars.map litRow := by
    decide +kernel
  have hre : docPats.drop 42 = tokRegexes := rfl
  rw [← List.take_append_drop 42 docPats, hlit, hre, ← keyword_rows, ← List.map_append,
    ← tokLiterals_eq]
  rfl

/-- No repetition in the table has a body that can match the empty string (so the
zero-width-iteration corner of sre is never exercised). -/
theorem C10_table_wf : tokTable.pats.all (fun p => wf p.re) = true := by
  rw [← C10_doc_table_is_code_table]; decide +kernel

/-- No pattern of the table can produce the symbols reserved for the indentation /
end-of-line logic: the hypotheses of `C10_newlines` / `C10_indent_balanced` hold. -/
theorem C10_table_reserved_syms : ReservedSyms tokTable.pats := by
  have : tokTable.pats.all (fun p => p.sym != some "Indent" && p.sym != some "Dedent" &&
      p.sym != some nlSym) = true := by
    rw [← C10_doc_table_is_code_table]; decide +kernel
  intro p hp
  have := List.all_eq_true.mp this p hp
  simp only [Bool.and_eq_true, bne_iff_ne, ne_eq] at this
  exact ⟨this.1.1, this.1.2, this.2⟩

/-! ## Lossless, position-accurate, longest match (any pattern list) -/

/-- The line loop has fuel enough as well: `tokenize` never answers "out of fuel". -/
theorem C10_tokenize_fuel_sufficient (pats : List Pat) (text : List Char) :
    tokenize pats text ≠ .fuel :=
  tokLines_no_fuel

/-- **Structure of every successful tokenization.**  The output is, line by line (line
numbers 1, 2, …, lines as `str.splitlines` cuts them): the synthetic Indent/Dedent
tokens, then the tokens of a `Covers` of that line (consecutive non-empty pieces, each
the longest match at its position with ties to the earlier pattern; pieces without a
symbol are dropped), then one end-of-line token at column `len + 1`; finally one Dedent
per open level at `(last line + 1, 1)`. -/
theorem C10_lossless (pats : List Pat) (text : List Char) (toks : List Token)
    (h : tokenize pats text = .ok toks) :
    FileCover pats (splitLines text) 1 ⟨[], []⟩ toks :=
  tokLines_cover h

/-- Non-vacuity (a test, by evaluation): the real table tokenizes a two-line text with an
Indent, a skipped gap, a comment and a trailing Dedent; `ReservedSyms` holds for it
(`C10_table_reserved_syms`). -/
example : tokenize tokTable.pats "a:\n  0x_1 # c\n".toList =
    .ok [⟨"SnakeWord", ['a'], 1, 1, 1, 2⟩, ⟨"\":\"", [':'], 1, 2, 1, 3⟩, newlineTok 1 2,
      ⟨"Indent", [' ', ' '], 2, 1, 2, 3⟩, ⟨"Number", "0x_1".toList, 2, 3, 2, 7⟩,
      ⟨"Comment", "# c".toList, 2, 8, 2, 11⟩, newlineTok 2 10, dedentTok 3 1] := by
  rw [← C10_doc_table_is_code_table]; (repeat rw [String.toList_ofList]); decide +kernel

/-- … and errors are reachable: bad indentation and an unrecognized character. -/
example : tokenize tokTable.pats "a\n  b\n c".toList = .err "Bad indentation" 3 1 3 2 ∧
    tokenize tokTable.pats "a ~".toList = .err "Unrecognized token" 1 3 1 4 := by
  rw [← C10_doc_table_is_code_table]; (repeat rw [String.toList_ofList]); decide +kernel

/-- What a cover of one line means, spelled out: the pieces concatenate to the line;
every token sits on that line, is non-empty, its text is the slice
`line[sc-1 : ec-1]`, `ec - sc = len(text)`, it ends inside the line; tokens are
disjoint and in order (each ends no later than the next starts, so start columns
strictly increase). -/
theorem C10_lossless_line (pats : List Pat) (ln : Nat) (line : List Char) (segs : List Seg)
    (h : Covers pats ln line 0 segs) :
    (segs.map Seg.text).flatten = line ∧
    (∀ t ∈ tokensOf segs, t.sl = ln ∧ t.el = ln ∧ 1 ≤ t.sc ∧ t.text ≠ [] ∧
      t.ec = t.sc + t.text.length ∧ t.ec ≤ line.length + 1 ∧
      t.text = (line.drop (t.sc - 1)).take (t.ec - t.sc)) ∧
    (tokensOf segs).Pairwise (fun a b => a.ec ≤ b.sc ∧ a.sc < b.sc) := by
  refine ⟨h.concat, ?_, ?_⟩
  · intro t ht
    have f := h.token_facts rfl t ht
    exact ⟨f.sl, f.el, h.sc_pos t ht, f.ne, f.ec, f.ec_le, f.text_slice⟩
  · refine List.Pairwise.imp_of_mem ?_ h.ordered
    intro a b ha _ hab
    have f := h.token_facts rfl a ha
    have : 0 < a.text.length := List.length_pos_iff.mpr f.ne
    have := f.ec
    omega

/-- Every token is the longest match of any pattern at its position, and among
patterns matching that length it carries the symbol of the earliest. -/
theorem C10_longest_match (pats : List Pat) (ln : Nat) (line : List Char) (segs : List Seg)
    (h : Covers pats ln line 0 segs) :
    ∀ t ∈ tokensOf segs, ∃ pre p post, pats = pre ++ p :: post ∧ p.sym = some t.sym ∧
      matchLen p.re (line.drop (t.sc - 1)) = .ok t.text.length ∧
      (∀ q ∈ pre, ∀ m, matchLen q.re (line.drop (t.sc - 1)) = .ok m → m < t.text.length) ∧
      (∀ q ∈ post, ∀ m, matchLen q.re (line.drop (t.sc - 1)) = .ok m → m ≤ t.text.length) := by
  intro t ht
  obtain ⟨pre, p, post, h1, h2, h3, h4, h5⟩ := (h.token_facts rfl t ht).best
  exact ⟨pre, p, post, h1, h3, h2, h4, h5⟩

/-- Line splitting (`str.splitlines`) is lossless up to the terminators: the lines, in order,
concatenate to the text with exactly the line-boundary characters removed, and no line
contains one.  (Together with `C10_lossless_line`: every character of the text other than a
line terminator lies in exactly one token or whitespace gap.) -/
theorem C10_splitlines_lossless (text : List Char) :
    (splitLines text).flatten = text.filter (fun c => !isBreakChar c) ∧
    ∀ l ∈ splitLines text, ∀ c ∈ l, isBreakChar c = false :=
  ⟨splitLines_flatten text, splitLines_no_break text⟩

example : splitLines ['a', '\r', '\n', 'b', '\n', '\n', 'c', '\r'] = [['a'], ['b'], [], ['c']] := by
  decide +kernel

/-- Line numbers: every token's line is between 1 and (number of lines + 1), tokens never
span lines, and line numbers never decrease along the output. -/
theorem C10_line_numbers (pats : List Pat) (text : List Char) (toks : List Token)
    (h : tokenize pats text = .ok toks) :
    (∀ t ∈ toks, 1 ≤ t.sl ∧ t.sl ≤ 1 + (splitLines text).length ∧ t.el = t.sl) ∧
      toks.Pairwise (fun a b => a.sl ≤ b.sl) :=
  (C10_lossless pats text toks h).line_numbers

/-! ## End-of-line tokens -/

/-- Exactly as many end-of-line tokens as lines; the one of line `i` (1-based) is
`"\n"` at column `len(line) + 1` (zero width). -/
theorem C10_newlines (pats : List Pat) (hres : ReservedSyms pats) (text : List Char)
    (toks : List Token) (h : tokenize pats text = .ok toks) :
    countSym nlSym toks = (splitLines text).length ∧
    ∀ i (hi : i < (splitLines text).length),
      (⟨nlSym, ['\n'], i + 1, ((splitLines text)[i]).length + 1, i + 1,
        ((splitLines text)[i]).length + 1⟩ : Token) ∈ toks := by
  have hc := C10_lossless pats text toks h
  refine ⟨(hc.balance hres).2, ?_⟩
  intro i hi
  have := hc.newline_mem i hi
  rw [Nat.add_comm 1 i] at this
  exact this

/-! ## Indentation -/

/-- Indent and Dedent tokens balance; and at every line boundary the tokens so far have
`#Indent − #Dedent = stack length − 1`, the stack is a chain of strict prefixes ending in
the empty string, and the remaining output is again a cover from that state.  (That an
Indent/Dedent is emitted exactly when a non-comment line's leading whitespace differs
from the stack top, and that Dedents close exactly the popped levels, is the content of
`IndentStep` inside `FileCover`; see `C10_indent_step`.) -/
theorem C10_indent_balanced (pats : List Pat) (hres : ReservedSyms pats) (text : List Char)
    (toks : List Token) (h : tokenize pats text = .ok toks) :
    countSym "Indent" toks = countSym "Dedent" toks ∧
    ∀ l1 l2, splitLines text = l1 ++ l2 →
      ∃ t1 t2 stm, toks = t1 ++ t2 ∧ FileCover pats l2 (1 + l1.length) stm t2 ∧ stm.Ok ∧
        countSym "Indent" t1 = countSym "Dedent" t1 + stm.depth := by
  have hc := C10_lossless pats text toks h
  refine ⟨by simpa [IStack.depth] using (hc.balance hres).1, ?_⟩
  intro l1 l2 hl
  rw [hl] at hc
  obtain ⟨t1, t2, stm, h1, h2, h3, h4, _⟩ := FileCover.split hres l1 l2 _ _ _ hc
  exact ⟨t1, t2, stm, h1, h2, h3 (by simp [IStack.Ok, ChainOk]), by simpa [IStack.depth] using h4⟩

/-- One line's effect, spelled out: no synthetic token and no stack change iff the line
is blank/comment-only or its leading whitespace equals the stack top; otherwise the new
top is the line's leading whitespace, reached by exactly one Indent (proper extension)
or by `k ≥ 1` Dedents popping `k` levels none of which equals it. -/
theorem C10_indent_step (ln : Nat) (line : List Char) (lts : List Token) (st st' : IStack)
    (synth : List Token) (h : IndentStep ln line lts st synth st') :
    (synth = [] ↔ (isBlankLine lts = true ∨ leadingWs line = st.top)) ∧
    (isBlankLine lts = false → st'.top = leadingWs line) ∧
    (st.Ok → st'.Ok) ∧
    (∀ t ∈ synth, (t.sym = "Indent" ∨ t.sym = "Dedent") ∧ t.sl = ln) ∧
    countSym "Indent" synth + st.depth = countSym "Dedent" synth + st'.depth := by
  refine ⟨?_, h.top, h.chain, fun t ht => let f := h.synth_mem t ht; ⟨f.1, f.2.1⟩, h.balance.1⟩
  cases h with
  | blank hb => simp [hb]
  | same hb heq => simp [heq]
  | indent hb hne _ => simp [hb, hne]
  | dedent popped hb hne hpre heq _ _ =>
    have : popped ≠ [] := by
      intro hp; subst hp
      simp only [List.nil_append, List.cons.injEq] at heq
      rename_i htop _
      exact hne (by rw [← htop, heq.1])
    simp [hb, hne, this]

/-! ## Gaps and longest match with the regenerated table -/

/-- Text skipped between tokens (a `Covers` gap) was matched by the one pattern without a
symbol, `\\s+`: it consists of `str.isspace` characters only. -/
theorem C10_gaps_are_whitespace (s : List Char) (n : Nat) (h : IsBest tokTable.pats s n none) :
    (s.take n).all isSpaceChar = true :=
  gap_is_whitespace h

/-- **Backtracking = longest**, for every one of the 65
patterns of the regenerated table and every input: what Python's leftmost-greedy
backtracking `re.match` returns is the greatest length of a match of the pattern's
declarative language at that position, and it fails only when the language has no match.
So "longest match of the documented patterns" is meaningful for the code. -/
theorem C10_priority_is_longest (p : Pat) (hp : p ∈ tokTable.pats) (s : List Char) :
    (∀ n, matchLen p.re s = .ok n → MatchesLen p.re s n ∧ ∀ m, MatchesLen p.re s m → m ≤ n) ∧
    (matchLen p.re s = .fail → ∀ m, ¬ MatchesLen p.re s m) := by
  have h := priority_is_longest_all p hp
  exact ⟨fun _ => (PriorityIsLongest.ok_iff h).mp, (PriorityIsLongest.fail_iff h).mp⟩

/-- Consequently every token of a tokenization with the regenerated table is the longest
match of the *documented patterns as languages*, ties to the earlier row: its text is a
match of a pattern `p` carrying its symbol, no pattern of the table has any match longer
than the token at that position, and no earlier pattern has one as long. -/
theorem C10_longest_match_documented (ln : Nat) (line : List Char) (segs : List Seg)
    (h : Covers tokTable.pats ln line 0 segs) :
    ∀ t ∈ tokensOf segs, ∃ pre p post, tokTable.pats = pre ++ p :: post ∧ p.sym = some t.sym ∧
      MatchesLen p.re (line.drop (t.sc - 1)) t.text.length ∧
      (∀ q ∈ pre, ∀ m, MatchesLen q.re (line.drop (t.sc - 1)) m → m < t.text.length) ∧
      (∀ q ∈ tokTable.pats, ∀ m, MatchesLen q.re (line.drop (t.sc - 1)) m → m ≤ t.text.length) := by
  intro t ht
  have hbest := (h.token_facts rfl t ht).best
  obtain ⟨pre, p, post, hp, hm, hs, hpre, hall⟩ :=
    (isBest_iff_lang priority_is_longest_all).mp hbest
  exact ⟨pre, p, post, hp, hs, hm, hpre, hall⟩

/-! ## `_tokenize_line` and `tokenize` *equal* their declarative specifications -/

/-- **Any pattern list.**  The model of `_tokenize_line` and the declarative specification
(`Covers` = the line cut into consecutive non-empty best matches; `StuckAt k` = such a cut
reaches offset `k` where a non-empty rest has no non-empty match) determine each other:
it answers `ok ts` iff `ts` are the tokens of a cover, "Unrecognized token" at `k` iff the
cut is stuck at `k`; covers are unique; and every line has a cover or a stuck position
(never "out of fuel").  `C10_lossless` is the `→` direction of the first part, lifted to files. -/
theorem C10_tokenize_line_eq_spec (pats : List Pat) (ln : Nat) (line : List Char) :
    (∀ ts, tokLine pats ln line.length line 0 = .ok ts ↔
      ∃ segs, Covers pats ln line 0 segs ∧ ts = tokensOf segs) ∧
    (∀ k, tokLine pats ln line.length line 0 = .err k ↔ StuckAt pats line 0 k) ∧
    (∀ segs₁ segs₂, Covers pats ln line 0 segs₁ → Covers pats ln line 0 segs₂ → segs₁ = segs₂) ∧
    ((∃ segs, Covers pats ln line 0 segs) ∨ (∃ k, StuckAt pats line 0 k)) := by
  refine ⟨?_, ?_, fun _ _ h₁ h₂ => h₁.unique h₂, cover_or_stuck pats ln line 0⟩
  · intro ts
    constructor
    · exact tokLine_covers
    · rintro ⟨segs, hc, rfl⟩
      exact hc.tokLine_eq _ (Nat.le_refl _)
  · intro k
    exact ⟨tokLine_err_stuck, fun h => h.tokLine_eq ln _ (Nat.le_refl _)⟩

/-- **`tokenize` equals its declarative specification** (any pattern list): it answers
`ok toks` iff `toks` is the `FileCover` of the text's lines (so `C10_lossless` is an
equivalence, and the cover is unique); it answers an error iff the text `FileFails` with
exactly that message and location — the lines before the failing one have covers and
indentation steps, and the failing line is stuck at offset `k` ("Unrecognized token",
columns `k+1`–`k+2`) or is a non-blank line whose leading whitespace neither extends the
innermost open level nor equals an open one ("Bad indentation", over the leading whitespace);
and one of the two always holds. -/
theorem C10_tokenize_eq_spec (pats : List Pat) (text : List Char) :
    (∀ toks, tokenize pats text = .ok toks ↔ FileCover pats (splitLines text) 1 ⟨[], []⟩ toks) ∧
    (∀ msg a b c d, tokenize pats text = .err msg a b c d ↔
      FileFails pats (splitLines text) 1 ⟨[], []⟩ msg a b c d) ∧
    (∀ t₁ t₂, FileCover pats (splitLines text) 1 ⟨[], []⟩ t₁ →
      FileCover pats (splitLines text) 1 ⟨[], []⟩ t₂ → t₁ = t₂) ∧
    ((∃ toks, FileCover pats (splitLines text) 1 ⟨[], []⟩ toks) ∨
      (∃ msg a b c d, FileFails pats (splitLines text) 1 ⟨[], []⟩ msg a b c d)) := by
  refine ⟨fun toks => ⟨tokLines_cover, fun h => h.tokLines_eq⟩,
    fun msg a b c d => ⟨tokLines_err_fails, fun h => h.tokLines_eq⟩, ?_,
    cover_or_fails pats _ _ _⟩
  intro t₁ t₂ h₁ h₂
  have e₁ := h₁.tokLines_eq
  rw [h₂.tokLines_eq] at e₁
  cases e₁; rfl

/-- Non-vacuity (tests by evaluation): both kinds of declared failure occur. -/
example : FileFails tokTable.pats (splitLines "a\n  b\n c".toList) 1 ⟨[], []⟩ "Bad indentation" 3 1 3 2 ∧
    FileFails tokTable.pats (splitLines "a\n b ~".toList) 1 ⟨[], []⟩ "Unrecognized token" 2 4 2 5 :=
  ⟨((C10_tokenize_eq_spec _ _).2.1 _ _ _ _ _).mp (by rw [← C10_doc_table_is_code_table]; (repeat rw [String.toList_ofList]); decide +kernel),
   ((C10_tokenize_eq_spec _ _).2.1 _ _ _ _ _).mp (by rw [← C10_doc_table_is_code_table]; (repeat rw [String.toList_ofList]); decide +kernel)⟩

/-- **The regenerated table.**  The same with the specification phrased through the
documented patterns' *languages* only (no matcher, no backtracking order): `MunchCovers` /
`MunchStuck` use `IsBestLang` — the greatest length any pattern's language matches at that
position, the earliest pattern among those reaching it. -/
theorem C10_tokenize_line_eq_documented_spec (ln : Nat) (line : List Char) :
    (∀ ts, tokLine tokTable.pats ln line.length line 0 = .ok ts ↔
      ∃ segs, MunchCovers tokTable.pats ln line 0 segs ∧ ts = tokensOf segs) ∧
    (∀ k, tokLine tokTable.pats ln line.length line 0 = .err k ↔ MunchStuck tokTable.pats line 0 k) := by
  obtain ⟨h1, h2, _, _⟩ := C10_tokenize_line_eq_spec tokTable.pats ln line
  constructor
  · intro ts
    rw [h1 ts]
    constructor
    · rintro ⟨segs, hc, e⟩; exact ⟨segs, (covers_iff_munch priority_is_longest_all).mp hc, e⟩
    · rintro ⟨segs, hc, e⟩; exact ⟨segs, (covers_iff_munch priority_is_longest_all).mpr hc, e⟩
  · intro k
    rw [h2 k]
    exact stuck_iff_munch priority_is_longest_all

/-- Non-vacuity (tests by evaluation): a line with a cover, a line that gets stuck. -/
example : (∃ segs, MunchCovers tokTable.pats 1 "a  0x_1".toList 0 segs ∧
      tokensOf segs = [⟨"SnakeWord", ['a'], 1, 1, 1, 2⟩, ⟨"Number", "0x_1".toList, 1, 4, 1, 8⟩]) ∧
    MunchStuck tokTable.pats "a ~".toList 0 2 := by
  constructor
  · obtain ⟨segs, h, e⟩ := ((C10_tokenize_line_eq_documented_spec 1 "a  0x_1".toList).1 _).mp
      (by rw [← C10_doc_table_is_code_table]; (repeat rw [String.toList_ofList]); decide +kernel :
        tokLine tokTable.pats 1 _ "a  0x_1".toList 0 = .ok
          [⟨"SnakeWord", ['a'], 1, 1, 1, 2⟩, ⟨"Number", "0x_1".toList, 1, 4, 1, 8⟩])
    exact ⟨segs, h, e.symm⟩
  · exact ((C10_tokenize_line_eq_documented_spec 1 "a ~".toList).2 2).mp
      (by rw [← C10_doc_table_is_code_table]; (repeat rw [String.toList_ofList]); decide +kernel)

/-! ## Tokens separated by a blank are tokenized independently -/

/-- **Concatenation with a blank** (regenerated table; what a renderer that separates tokens
by blanks needs).  Let the line `a` tokenize to `ta`, none of them a Comment / Documentation /
BadDocumentation (those run to the end of the line by definition), `a` not ending in a blank,
and let `c` be any blank (`str.isspace`).  Then for every `b` the line `a ++ c :: b`
tokenizes to `ta` followed by the tokens of `c :: b` with their columns shifted by `|a|` —
and if `c :: b` has an unrecognized character at offset `k`, the whole line reports it at
`|a| + k`.  In particular no token of `a` changes its text, symbol or position because of
what follows the blank, and no token spans the blank.  (Proof: every position of `a`
where a token or inner gap starts satisfies `LocalCond`, and there no pattern of the table
changes its answer when `c :: b` is appended — `table_local`.) -/
theorem C10_concat_with_blank (ln : Nat) (a b : List Char) (c : Char) (ta : List Token)
    (ha : tokLine tokTable.pats ln a.length a 0 = .ok ta)
    (hopen : ∀ t ∈ ta, t.sym ≠ "Comment" ∧ t.sym ≠ "Documentation" ∧ t.sym ≠ "BadDocumentation")
    (hlast : ∀ y, a.getLast? = some y → isSpaceChar y = false)
    (hc : isSpaceChar c = true) :
    (∀ tb, tokLine tokTable.pats ln (c :: b).length (c :: b) 0 = .ok tb →
      tokLine tokTable.pats ln (a ++ c :: b).length (a ++ c :: b) 0 =
        .ok (ta ++ tb.map (Token.shift a.length))) ∧
    (∀ k, tokLine tokTable.pats ln (c :: b).length (c :: b) 0 = .err k →
      tokLine tokTable.pats ln (a ++ c :: b).length (a ++ c :: b) 0 = .err (k + a.length)) :=
  tokLine_concat_blank ln a b c ta ha (fun t ht => not_openEnded (hopen t ht)) hlast hc

/-- **Leading blanks are one gap** (regenerated table): a non-empty run of blanks `c :: ws`
in front of `b` (which is empty or starts with a non-blank) only shifts the columns of `b`'s
tokens (or of its "Unrecognized token" position) by the length of the run.  Together with
`C10_concat_with_blank`: `a ++ blanks ++ b` tokenizes to the tokens of `a` and the shifted
tokens of `b`. -/
theorem C10_leading_blanks (ln : Nat) (c : Char) (ws b : List Char)
    (hws : (c :: ws).all isSpaceChar = true) (hb : ∀ y, b.head? = some y → isSpaceChar y = false) :
    (∀ tb, tokLine tokTable.pats ln b.length b 0 = .ok tb →
      tokLine tokTable.pats ln (c :: ws ++ b).length (c :: ws ++ b) 0 =
        .ok (tb.map (Token.shift (c :: ws).length))) ∧
    (∀ k, tokLine tokTable.pats ln b.length b 0 = .err k →
      tokLine tokTable.pats ln (c :: ws ++ b).length (c :: ws ++ b) 0 = .err (k + (c :: ws).length)) :=
  tokLine_blank_prefix ln hws hb

/-- **Pieces joined by single blanks tokenize piecewise** (the separability fact a formatter
needs).  `ps` = pieces with their own tokenizations: each piece non-empty, starting and ending
with a non-blank, `tokLine piece = ok toks` (`GoodPiece`); no piece but the last contains an
open-ended token.  Then the pieces joined by the blank `c` tokenize to the concatenation of the
pieces' token lists, each shifted to the column where its piece starts (`joinToks`). -/
theorem C10_join_with_blanks (ln : Nat) (c : Char) (hc : isSpaceChar c = true)
    (ps : List (List Char × List Token)) (hg : ∀ p ∈ ps, GoodPiece ln p)
    (ho : ∀ p ∈ ps.dropLast, ∀ t ∈ p.2, t.sym ≠ "Comment" ∧ t.sym ≠ "Documentation" ∧
      t.sym ≠ "BadDocumentation") :
    tokLine tokTable.pats ln (joinWith c (ps.map Prod.fst)).length (joinWith c (ps.map Prod.fst)) 0 =
      .ok (joinToks ps) :=
  tokLine_join ln c hc ps hg fun p hp t ht => not_openEnded (ho p hp t ht)

/-- Non-vacuity of `C10_join_with_blanks` (by evaluation): three good pieces, the last one a comment. -/
example : GoodPiece 1 ("x+1".toList, [⟨"SnakeWord", ['x'], 1, 1, 1, 2⟩, ⟨"\"+\"", ['+'], 1, 2, 1, 3⟩,
      ⟨"Number", ['1'], 1, 3, 1, 4⟩]) ∧
    GoodPiece 1 ("\"s t\"".toList, [⟨"String", "\"s t\"".toList, 1, 1, 1, 6⟩]) ∧
    GoodPiece 1 ("# c".toList, [⟨"Comment", "# c".toList, 1, 1, 1, 4⟩]) ∧
    joinWith ' ' ["x+1".toList, "\"s t\"".toList, "# c".toList] = "x+1 \"s t\" # c".toList := by
  unfold GoodPiece
  rw [← C10_doc_table_is_code_table]; (repeat rw [String.toList_ofList]); decide +kernel

/-- Non-vacuity (tests by evaluation): `x+1` and ` "s" y` are tokenized independently; so are
`1` and ` ~`, the error moving from offset 1 to offset 2. -/
example :
    tokLine tokTable.pats 1 3 "x+1".toList 0 = .ok [⟨"SnakeWord", ['x'], 1, 1, 1, 2⟩,
      ⟨"\"+\"", ['+'], 1, 2, 1, 3⟩, ⟨"Number", ['1'], 1, 3, 1, 4⟩] ∧
    tokLine tokTable.pats 1 6 " \"s\" y".toList 0 = .ok [⟨"String", "\"s\"".toList, 1, 2, 1, 5⟩,
      ⟨"SnakeWord", ['y'], 1, 6, 1, 7⟩] ∧
    tokLine tokTable.pats 1 9 "x+1 \"s\" y".toList 0 = .ok [⟨"SnakeWord", ['x'], 1, 1, 1, 2⟩,
      ⟨"\"+\"", ['+'], 1, 2, 1, 3⟩, ⟨"Number", ['1'], 1, 3, 1, 4⟩,
      ⟨"String", "\"s\"".toList, 1, 5, 1, 8⟩, ⟨"SnakeWord", ['y'], 1, 9, 1, 10⟩] ∧
    tokLine tokTable.pats 1 2 " ~".toList 0 = .err 1 ∧
    tokLine tokTable.pats 1 3 "1 ~".toList 0 = .err 2 := by
  rw [← C10_doc_table_is_code_table]; (repeat rw [String.toList_ofList]); decide +kernel

/-- … and the hypotheses of `C10_concat_with_blank` are satisfiable: an instance (`a = "x+1"`, `c = ' '`, any `b`). -/
example (b : List Char) (tb : List Token)
    (hb : tokLine tokTable.pats 1 (' ' :: b).length (' ' :: b) 0 = .ok tb) :
    tokLine tokTable.pats 1 ("x+1".toList ++ ' ' :: b).length ("x+1".toList ++ ' ' :: b) 0 =
      .ok ([⟨"SnakeWord", ['x'], 1, 1, 1, 2⟩, ⟨"\"+\"", ['+'], 1, 2, 1, 3⟩, ⟨"Number", ['1'], 1, 3, 1, 4⟩] ++
        tb.map (Token.shift 3)) :=
  (C10_concat_with_blank 1 "x+1".toList b ' ' _ (by rw [← C10_doc_table_is_code_table]; (repeat rw [String.toList_ofList]); decide +kernel)
    (by decide +kernel) (by decide +kernel) (by decide +kernel)).1 tb hb

/-- The hypothesis about open-ended tokens is needed: a comment swallows what follows. -/
example : tokLine tokTable.pats 1 4 "#c x".toList 0 = .ok [⟨"Comment", "#c x".toList, 1, 1, 1, 5⟩] := by
  rw [← C10_doc_table_is_code_table]; (repeat rw [String.toList_ofList]); decide +kernel

/-! ## Classification of names and numbers (table-specific)

`WordRun w rest`: the tokenizer stands at the start of `w ++ rest`, `w` is a non-empty run
of `[A-Za-z0-9_$]` and `rest` does not continue it.  `bestMatch … 0 none` is the pattern
loop of `_tokenize_line` at that position; its result is (token length, symbol). -/

open Emboss.Tok.Class

/-- The token is the whole run, whatever it is. -/
theorem C10_word_run (w rest : List Char) (h : WordRun w rest) :
    ∃ sy, bestMatch tokTable.pats (w ++ rest) 0 none = some (w.length, sy) ∧
      IsBest tokTable.pats (w ++ rest) w.length sy :=
  word_run_best h

/-- **Names.**  A run starting with a letter, `_` or `$` is: the keyword / `$`-word literal
it equals; else BadWord if it has a reserved prefix (`EmbossReserved…`, `emboss_reserved…`,
`EMBOSS_RESERVED…` in the matching case style); else BooleanConstant for `true`/`false`;
else SnakeWord / ShoutyWord / CamelWord exactly per the reference's name rules
(`Class.isSnake`, `isShouty`, `isCamel`); else BadWord. -/
theorem C10_word_classes (w rest : List Char) (h : WordRun w rest)
    (hd : ∀ x t, w = x :: t → isDigit x = false) :
    bestMatch tokTable.pats (w ++ rest) 0 none = some (w.length, some (classifyWord w)) :=
  bestMatch_word h hd

example : WordRun "ab_1".toList " x".toList ∧ classifyWord "ab_1".toList = "SnakeWord" ∧
    classifyWord "AB_1".toList = "ShoutyWord" ∧ classifyWord "Ab1".toList = "CamelWord" ∧
    classifyWord "A1".toList = "BadWord" ∧ classifyWord "struct".toList = "\"struct\"" ∧
    classifyWord "structure".toList = "SnakeWord" ∧ classifyWord "emboss_reserved_x".toList = "BadWord" ∧
    classifyWord "true".toList = "BooleanConstant" ∧ classifyWord "$max".toList = "\"$max\"" ∧
    classifyWord "a$".toList = "BadWord" :=
  ⟨⟨by decide, by decide, by intro c hc; cases hc; decide⟩,
    by
      repeat rw [String.toList_ofList]
      repeat rw [classifyWord, keywordOf_chars]
      decide +kernel⟩

/-- **Numbers.**  A run starting with a digit is `Number` **iff** it is a numeric constant as
doc/language-reference.md ("Numeric Constant Formats") describes them (`IsNumberDoc`: decimal /
`0x` / `0b`, without separators or with 3-digit resp. consistent 4- or 8-digit groups,
optionally — for `0x`/`0b` — with a single `_` directly after the prefix before the first
group); otherwise it is `BadNumber` iff it has the catch-all number shape, else `BadWord`.
All strings (the reference describes the `0x_…` form since /repo commit 1c861f8). -/
theorem C10_number_classes (w rest : List Char) (h : WordRun w rest) (x : Char) (t : List Char)
    (hw : w = x :: t) (hx : isDigit x = true) :
    ∃ sym, bestMatch tokTable.pats (w ++ rest) 0 none = some (w.length, some sym) ∧
      (sym = "Number" ↔ IsNumberDoc w) ∧
      (sym = "BadNumber" ↔ ¬ IsNumberDoc w ∧ isBadNumberShape w = true) ∧
      (sym = "BadWord" ↔ ¬ IsNumberDoc w ∧ isBadNumberShape w = false) := by
  refine ⟨_, bestMatch_digit h x t hw hx, ?_⟩
  by_cases hn : IsNumberDoc w <;> cases hs : isBadNumberShape w <;> simp [hn]

/-- The classification theorems apply to every token of a real tokenization: a token of a
cover (of the regenerated table) that starts where a maximal word run `w` starts is exactly
`w`, with the symbol `C10_word_classes` / `C10_number_classes` give for `w`. -/
theorem C10_word_tokens (ln : Nat) (line : List Char) (segs : List Seg)
    (h : Covers tokTable.pats ln line 0 segs) (t : Token) (ht : t ∈ tokensOf segs)
    (w rest : List Char) (hs : line.drop (t.sc - 1) = w ++ rest) (hr : WordRun w rest) :
    t.text = w ∧
    ((∀ x u, w = x :: u → isDigit x = false) → t.sym = classifyWord w) ∧
    (∀ x u, w = x :: u → isDigit x = true →
      (t.sym = "Number" ↔ IsNumberDoc w) ∧
      (t.sym = "BadNumber" ↔ ¬ IsNumberDoc w ∧ isBadNumberShape w = true) ∧
      (t.sym = "BadWord" ↔ ¬ IsNumberDoc w ∧ isBadNumberShape w = false)) := by
  obtain ⟨htext, hb⟩ := cover_word_token h ht hs hr
  refine ⟨htext, ?_, ?_⟩
  · intro hd
    have := bestMatch_word hr hd
    rw [hb] at this
    simpa using this
  · intro x u hw hx
    obtain ⟨sym, hb', h1, h2, h3⟩ := C10_number_classes w rest hr x u hw hx
    rw [hb] at hb'
    have : t.sym = sym := by simpa using hb'
    rw [this]
    exact ⟨h1, h2, h3⟩

/-- Every token of a real tokenization that begins with a word character is a *maximal*
word run of its line: not preceded by a word character (no token of the table ends inside
a run) and extending to the end of the run — so `C10_word_tokens` applies to it with
`w = takeWhile isWordChar (line from its column)`. -/
theorem C10_word_tokens_are_maximal_runs (ln : Nat) (line : List Char) (segs : List Seg)
    (h : Covers tokTable.pats ln line 0 segs) (t : Token) (ht : t ∈ tokensOf segs)
    (c : Char) (hc : t.text.head? = some c) (hw : isWordChar c = true) :
    (t.sc = 1 ∨ ∃ a, line[t.sc - 2]? = some a ∧ isWordChar a = false) ∧
    t.text = (line.drop (t.sc - 1)).takeWhile isWordChar ∧
    WordRun ((line.drop (t.sc - 1)).takeWhile isWordChar) ((line.drop (t.sc - 1)).dropWhile isWordChar) := by
  have hrun : WordRun ((line.drop (t.sc - 1)).takeWhile isWordChar)
      ((line.drop (t.sc - 1)).dropWhile isWordChar) := by
    have h7 := (h.token_facts rfl t ht).text_slice
    rw [h7, List.head?_take] at hc
    split at hc
    · cases hc
    · exact wordRun_takeWhile hc hw
  exact ⟨covers_run_starts h [] rfl (by intro a b ha; cases ha) t ht c hc hw,
    (cover_word_token h ht (List.takeWhile_append_dropWhile).symm hrun).1, hrun⟩

/-- Non-vacuity of `C10_number_classes`: documented forms (every kind the reference lists,
among them its own examples `0x_ff`, `0b_1010_0101`) and rejected ones. -/
example : IsNumberDoc "1_000".toList ∧ IsNumberDoc "0x1234_5678".toList ∧ IsNumberDoc "012".toList ∧
    IsNumberDoc "0b_1010_0101".toList ∧ IsNumberDoc "0x_ff".toList ∧
    isBadNumberShape "1000_000".toList = true := by
  repeat rw [String.toList_ofList]
  refine ⟨.inl (.inl (.inr ⟨['1'], [['0', '0', '0']], by decide +kernel⟩)),
    .inl (.inr (.inl ⟨_, rfl, .inr (.inl
      ⟨['1', '2', '3', '4'], [['5', '6', '7', '8']], by decide +kernel⟩)⟩)),
    .inl (.inl (.inl (by decide +kernel))),
    .inr (.inr ⟨_, rfl, .inl
      ⟨['1', '0', '1', '0'], [['0', '1', '0', '1']], by decide +kernel⟩⟩),
    .inr (.inl ⟨_, rfl, .inl ⟨['f', 'f'], [], by decide +kernel⟩⟩),
    by decide +kernel⟩

/-- Tests (by evaluation on the regenerated table) at the boundary of the `0x_` / `0b_` form: the
reference's examples are Numbers; two `_`, a 9-digit run after `0x_`, and mixed 4/8 groups
after `0x_` are BadNumber (and, by `C10_number_classes`, not `IsNumberDoc`). -/
example : bestMatch tokTable.pats "0x_ff".toList 0 none = some (5, some "Number") ∧
    bestMatch tokTable.pats "0x_1234_5678".toList 0 none = some (12, some "Number") ∧
    bestMatch tokTable.pats "0x__1".toList 0 none = some (5, some "BadNumber") ∧
    bestMatch tokTable.pats "0x_123456789".toList 0 none = some (12, some "BadNumber") ∧
    bestMatch tokTable.pats "0x_1234_5678_9abcdef0".toList 0 none = some (21, some "BadNumber") := by
  rw [← C10_doc_table_is_code_table]; (repeat rw [String.toList_ofList]); decide +kernel

end Emboss.Tok
