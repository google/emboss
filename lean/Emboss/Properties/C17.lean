/-
C17 — Compilation is a pure function of its input files.

Property theorems with their examples and counterexamples.  Model: Emboss/Model/Purity.lean
(cache + counter state machine, import queue, import-directory search) and
Emboss/Model/PurityPatterns.lean (idioms by which set-ordered data is consumed).
Spec: Emboss/Spec/Purity.lean.
The iteration-site table Emboss/Generated/IterSites.lean is regenerated from the emboss
sources on every run; `C17_sites_discharged` is re-checked against it.
-/
import Emboss.Lemmas.Purity
import Emboss.Lemmas.PurityPatterns
import Emboss.Generated.IterSites
namespace Emboss.Purity
open Spec

/-! ## repetition inside one process -/

/-- Whatever was compiled before in this process (`hist`), compiling the same files a
second time gives the identical outcome — module IRs including the anonymous numbers, or
the same diagnostic — and leaves the process state unchanged (every step is a cache hit
or the re-evaluation of a pure failing parse). -/
theorem C17_repeat_identical (P : Parser) (hist : List Job) (read : Reader) (fuel : Nat)
    (main : String) :
    let σ := runHistory P St.init hist
    let r₁ := compile P read fuel σ main
    compile P read fuel r₁.1 main = (r₁.1, r₁.2) := by
  intro σ r₁
  exact compileAux_stable (compileAux_genuine (runHistory_genuine P hist)) (Ext.refl _)

def exParser : Parser := fun text _ =>
  if text = "M" then .ok ⟨["b"], [.lit "struct", .hole 0, .hole 1, .hole 0]⟩
  else if text = "B" then .ok ⟨[], [.hole 0]⟩
  else if text = "N" then .ok ⟨[], [.hole 0, .hole 1, .hole 2]⟩
  else .error ("syntax error in " ++ text)
def exRead : Reader := fun f =>
  if f = "m" then .ok "M" else if f = "b" then .ok "B" else if f = "n" then .ok "N"
  else if f = "bad" then .ok "?" else .error "no such file"
/-- Non-vacuity: the two-module program `m` after the unrelated compilation of `n` (three
anonymous fields): its modules get the bases 3 and 5, and the counter ends at 6. -/
example :
    let σ := runHistory exParser St.init [⟨exRead, "n", 9⟩]
    let r := compile exParser exRead 9 σ "m"
    r.2 = .ok [⟨"M", "m", 3, ⟨["b"], [.lit "struct", .hole 0, .hole 1, .hole 0]⟩⟩,
               ⟨"B", "b", 5, ⟨[], [.hole 0]⟩⟩] ∧ r.1.counter = 6 ∧ σ.counter = 3 := by
  decide +kernel

/-! ## independence of what was compiled earlier in the process -/

/-- For every history of other compilations, the outcome of compiling `main` is the outcome
a fresh process gives, up to a renaming of the anonymous numbers that is injective on the
numbers that occur and a translation inside each module; diagnostics and fuel exhaustion
are identical.  (The counter is never reset in the real code, so exact equality does not
hold: `C17_exact_history_independence_counterexample`.) -/
theorem C17_history_independent (P : Parser) (hist : List Job) (read : Reader) (fuel : Nat)
    (main : String) :
    ∃ ρ : Nat → Nat,
      (∀ a ∈ anons (compile P read fuel St.init main).2.view,
        ∀ b ∈ anons (compile P read fuel St.init main).2.view, ρ a = ρ b → a = b) ∧
      (compile P read fuel (runHistory P St.init hist) main).2.view =
        rename ρ (compile P read fuel St.init main).2.view ∧
      TranslationPerModule ρ (compile P read fuel St.init main).2.view :=
  compile_view_renaming P read fuel main (genuine_init P) numbered_init
    (runHistory_genuine P hist) (runHistory_numbered P hist)

/-- `EqualUpToAnonymousNumbering` (the spec's wording) follows. -/
theorem C17_history_independent_spec (P : Parser) (hist : List Job) (read : Reader) (fuel : Nat)
    (main : String) :
    EqualUpToAnonymousNumbering (compile P read fuel St.init main).2.view
      (compile P read fuel (runHistory P St.init hist) main).2.view := by
  obtain ⟨ρ, h₁, h₂, _⟩ := C17_history_independent P hist read fuel main
  exact ⟨ρ, h₁, h₂⟩

/-- Non-vacuity of the renaming: after compiling `n` (3 anonymous fields) the modules of `m`
are numbered 4,5 / 6 instead of 1,2 / 3. -/
example :
    (compile exParser exRead 9 St.init "m").2.view =
      .ok [("m", "M", [.lit "struct", .anon 1, .anon 2, .anon 1]), ("b", "B", [.anon 3])] ∧
    (compile exParser exRead 9 (runHistory exParser St.init [⟨exRead, "n", 9⟩]) "m").2.view =
      .ok [("m", "M", [.lit "struct", .anon 4, .anon 5, .anon 4]), ("b", "B", [.anon 6])] := by
  decide +kernel

/-- The real code's counter leaks: *exact* history independence is false.  (Replayed on the
real front end by `history_check` of harness/corr/C17.py.) -/
theorem C17_exact_history_independence_counterexample :
    (compile exParser exRead 9 (runHistory exParser St.init [⟨exRead, "n", 9⟩]) "m").2.view ≠
      (compile exParser exRead 9 St.init "m").2.view := by
  decide +kernel

/-- The renaming need not preserve order *across* modules: if `b` was compiled earlier, it
keeps its old (smaller) numbers while `m` gets fresh ones — in a fresh process `m` is
numbered before `b`. -/
theorem C17_cross_module_order_counterexample :
    (compile exParser exRead 9 St.init "m").2.view =
      .ok [("m", "M", [.lit "struct", .anon 1, .anon 2, .anon 1]), ("b", "B", [.anon 3])] ∧
    (compile exParser exRead 9 (runHistory exParser St.init [⟨exRead, "b", 9⟩]) "m").2.view =
      .ok [("m", "M", [.lit "struct", .anon 2, .anon 3, .anon 2]), ("b", "B", [.anon 1])] := by
  decide +kernel

/-- Diagnostics are not cached and do not touch the counter: a failing compilation leaves
the state as it was. -/
theorem C17_failed_parse_leaves_state (P : Parser) (σ : St) (t f d : String)
    (h : (step P σ t f).2 = .error d) : (step P σ t f).1 = σ := by
  rcases step_cases P σ t f with ⟨m, _, hs⟩ | ⟨_, d', _, hs⟩ | ⟨_, sk, _, hs⟩
  · rw [hs]
  · rw [hs]
  · rw [hs] at h; cases h

example : (compile exParser exRead 9 St.init "bad").2 = .error "syntax error in ?" ∧
    (compile exParser exRead 9 St.init "bad").1.counter = 0 := by decide +kernel

/-! ## import directories -/

/-- If every import directory that has the file holds the same text, any order of the
directories reads that text. -/
theorem C17_import_dir_order (fs : String → String → Option String) (f t : String)
    (dirs dirs' : List String) (h : IdenticalCopies fs f dirs t) (p : dirs'.Perm dirs) :
    findInDirs fs f dirs' = some t := by
  obtain ⟨⟨d, hd, hf⟩, hall⟩ := h
  rw [findInDirs_eq_findSome?]
  cases hr : dirs'.findSome? (fs · f) with
  | some t' =>
    obtain ⟨d', hd', hf'⟩ := List.exists_of_findSome?_eq_some hr
    rw [hall d' (p.subset hd') t' hf']
  | none =>
    have := List.findSome?_eq_none_iff.1 hr d (p.symm.subset hd)
    rw [hf] at this; cases this

example : IdenticalCopies (fun d f => if f = "x.emb" ∧ d ≠ "c" then some "T" else none) "x.emb"
    ["a", "b", "c"] "T" ∧
    findInDirs (fun d f => if f = "x.emb" ∧ d ≠ "c" then some "T" else none) "x.emb" ["c", "b", "a"]
      = some "T" := by
  refine ⟨⟨⟨"a", by simp, by simp⟩, ?_⟩, by decide +kernel⟩
  intro d _ t' h; simp only at h; split at h <;> simp_all

/-- Whether the file is found at all does not depend on the order either. -/
theorem C17_import_dir_order_missing (fs : String → String → Option String) (f : String)
    (dirs dirs' : List String) (p : dirs'.Perm dirs) (h : findInDirs fs f dirs = none) :
    findInDirs fs f dirs' = none := by
  rw [findInDirs_eq_findSome?, List.findSome?_eq_none_iff] at h ⊢
  exact fun d hd => h d (p.subset hd)

/-! ## order-independence of every pattern by which set-ordered data is consumed -/

/-- `sorted(S)` / `", ".join(sorted(S))` (F6 repair; ambiguity candidates; back ends). -/
theorem C17_order_independent_sortedFirst (le : α → α → Bool) (h : TotalLE le) :
    OrderIndependent (pySorted le) := fun _ _ p => pySorted_perm le h p

theorem C17_order_independent_joinSorted (le : String → String → Bool) (h : TotalLE le) (sep : String) :
    OrderIndependent (joinSorted le sep) := fun _ _ p => by
  unfold joinSorted; rw [pySorted_perm le h p]

/-- `sorted(S, key=k)` when `k` is injective on `S`. -/
theorem C17_order_independent_sortedByKey (le : κ → κ → Bool) (h : TotalLE le) (key : α → κ)
    (l₁ l₂ : List α) (p : l₁.Perm l₂) (inj : ∀ a ∈ l₁, ∀ b ∈ l₁, key a = key b → a = b) :
    pySortedBy le key l₁ = pySortedBy le key l₂ := pySortedBy_perm le h key p inj

/-- … and `key=sorted` on frozensets (both `sorted(cycles, key=sorted)` sites, F7 repair) is
injective: equal sorted element lists mean equal sets. -/
theorem C17_sortedKey_injective (le : α → α → Bool) (s₁ s₂ : List α)
    (h : pySorted le s₁ = pySorted le s₂) : s₁.Perm s₂ := sortedKey_injective le h

theorem C17_order_independent_anyAll (f : α → Bool) :
    OrderIndependent (fun l => l.any f) ∧ OrderIndependent (fun l => l.all f) :=
  ⟨fun _ _ p => p.any_eq, fun _ _ p => p.all_eq⟩

theorem C17_order_independent_minMax : OrderIndependent pyMin ∧ OrderIndependent pyMax :=
  ⟨fun _ _ p => pyMin_perm p, fun _ _ p => pyMax_perm p⟩

theorem C17_order_independent_lenOnly : OrderIndependent (List.length (α := α)) :=
  fun _ _ p => p.length_eq

theorem C17_order_independent_setBuild (f : α → List β) : OrderIndependentAsSet (setBuild f) :=
  fun _ _ p _ => (p.flatMap_right f).mem_iff

theorem C17_order_independent_commFold (op : β → α → β)
    (comm : ∀ z x y, op (op z x) y = op (op z y) x) (init : β) :
    OrderIndependent (fold op init) :=
  fun _ _ p => p.foldl_eq' (fun x _ y _ z => comm z x y) init

theorem C17_order_independent_singleton : OrderIndependent (onlyElement (α := α)) :=
  fun _ _ p => onlyElement_perm p

/-- A memo table (or a lazily initialised constant) is transparent: whatever is already
stored, the value returned is the function's value, and the table stays correct. -/
theorem C17_memo_transparent [BEq κ] [LawfulBEq κ] (f : κ → ν) (cache : List (κ × ν))
    (h : MemoOk f cache) (k : κ) :
    (memoStep f cache k).2 = f k ∧ MemoOk f (memoStep f cache k).1 := by
  unfold memoStep
  split
  · rename_i v hv
    exact ⟨h k v hv, h⟩
  · refine ⟨rfl, fun k' v hv => ?_⟩
    simp only [List.lookup_cons] at hv
    split at hv
    · rename_i heq
      have : k' = k := by simpa using heq
      subst this; cases hv; rfl
    · exact h k' v hv

def leNat : Nat → Nat → Bool := fun a b => decide (a ≤ b)
theorem leNat_total : TotalLE leNat :=
  ⟨fun _ _ _ h₁ h₂ => decide_eq_true (Nat.le_trans (of_decide_eq_true h₁) (of_decide_eq_true h₂)),
   fun a b => by simpa [leNat] using Nat.le_total a b,
   fun _ _ h₁ h₂ => Nat.le_antisymm (of_decide_eq_true h₁) (of_decide_eq_true h₂)⟩
/-- Non-vacuity of the pattern theorems; the two counterexamples after it show what goes wrong
without them: joining the raw iteration order is *not* order independent (the shape of defect
F6), nor is taking the first element of an unsorted multi-element set. -/
example : pySorted leNat [3, 1, 2] = pySorted leNat [2, 3, 1] :=
  C17_order_independent_sortedFirst leNat leNat_total _ _
    ((List.Perm.swap 1 3 [2]).trans ((List.Perm.cons 1 (List.Perm.swap 2 3 [])).trans
      ((List.Perm.swap 2 1 [3]).trans (List.Perm.cons 2 (List.Perm.swap 3 1 [])))))

theorem C17_unsorted_join_counterexample :
    ¬ OrderIndependent (fun l : List String => ", ".intercalate l) := by
  intro h
  have := h ["a", "b"] ["b", "a"] (List.Perm.swap _ _ _)
  revert this; decide

theorem C17_first_of_unsorted_counterexample : ¬ OrderIndependent (fun l : List Nat => l.head?) := by
  intro h
  have := h [1, 2] [2, 1] (List.Perm.swap _ _ _)
  revert this; decide

/-! ## the regenerated site list -/

/-- Every site found in the current emboss sources is classified into one of the patterns
above, is process state the model contains, or is a reviewed exception. -/
theorem C17_sites_discharged :
    ∀ s ∈ Emboss.Generated.IterSites.sites, s.pattern.discharged = true := by
  decide +kernel

example : Emboss.Generated.IterSites.sites.length > 20 := by decide +kernel

end Emboss.Purity
