/-
Model of runtime/cpp/emboss_text_util.h (property C06): integer text codec and the
tokenizer.

Import-free (core Lean only) so that the driver links as a plain `lean_exe`.
Text is `List Char` (the C++ works on `char`s of a `std::string`; the harness only
ever sends 7-bit ASCII, bytes ≥ 0x80 are rejected by both sides as non-digits).
-/
namespace Emboss.Text

/-! ## The eight integer types `DecodeInteger`/`WriteIntegerToTextStream` are
instantiated with (view `ValueType`s, `size_t` array indices, enum underlying types). -/

inductive IntTy where
  | i8 | i16 | i32 | i64 | u8 | u16 | u32 | u64
  deriving DecidableEq, Repr

namespace IntTy

/-- `::std::is_signed<IntType>::value`. -/
def signed : IntTy → Bool
  | i8 | i16 | i32 | i64 => true
  | _ => false

def bits : IntTy → Nat
  | i8 | u8 => 8
  | i16 | u16 => 16
  | i32 | u32 => 32
  | i64 | u64 => 64

/-- `::std::numeric_limits<IntType>::min()` (= `lowest()` for integers). -/
def minVal : IntTy → Int
  | i8 => -128
  | i16 => -32768
  | i32 => -2147483648
  | i64 => -9223372036854775808
  | _ => 0

/-- `::std::numeric_limits<IntType>::max()`. -/
def maxVal : IntTy → Int
  | i8 => 127
  | i16 => 32767
  | i32 => 2147483647
  | i64 => 9223372036854775807
  | u8 => 255
  | u16 => 65535
  | u32 => 4294967295
  | u64 => 18446744073709551615

/-- The value is representable in the type. -/
def InRange (T : IntTy) (x : Int) : Prop := T.minVal ≤ x ∧ x ≤ T.maxVal

instance (T : IntTy) (x : Int) : Decidable (T.InRange x) := by
  unfold InRange; exact inferInstance

end IntTy

/-- The three bases `WriteIntegerToTextStream` accepts
(`EMBOSS_CHECK(base == 10 || base == 2 || base == 16)`). -/
inductive Base where
  | b2 | b10 | b16
  deriving DecidableEq, Repr

def Base.toNat : Base → Nat
  | .b2 => 2
  | .b10 => 10
  | .b16 => 16

/-- `const int grouping = base == 10 ? 3 : base == 16 ? 4 : 8;` -/
def groupSize (base : Nat) : Nat :=
  if base = 10 then 3 else if base = 16 then 4 else 8

/-- `digits[d]` with `digits = "0123456789abcdef"`. -/
def digitChar : Nat → Char
  | 0 => '0' | 1 => '1' | 2 => '2' | 3 => '3' | 4 => '4' | 5 => '5' | 6 => '6' | 7 => '7'
  | 8 => '8' | 9 => '9' | 10 => 'a' | 11 => 'b' | 12 => 'c' | 13 => 'd' | 14 => 'e'
  | 15 => 'f' | _ => '?'

/-- The `while (value > 0)` loop of `WriteIntegerToTextStream`.  The C++ fills a
buffer from the right; the model prepends to `buf`.  `count` is `digit_count`. -/
def writeLoop (base : Nat) (grouping : Bool) (v count : Nat) (buf : List Char) : List Char :=
  if _h : v = 0 ∨ base < 2 then buf
  else
    let buf1 := if count ≠ 0 ∧ count % groupSize base = 0 ∧ grouping = true then '_' :: buf else buf
    writeLoop base grouping (v / base) (count + 1) (digitChar (v % base) :: buf1)
termination_by v
decreasing_by exact Nat.div_lt_self (by omega) (by omega)

/-- The `0x` / `0b` prefix (pushed as `'x'` then `'0'`, right to left). -/
def basePrefix : Base → List Char
  | .b16 => ['0', 'x']
  | .b2 => ['0', 'b']
  | .b10 => []

/-- The digits of `WriteIntegerToTextStream` (everything right of prefix and sign), for
`IntegralType = T`, `b` = the numeric base.  Integer arithmetic is mathematical (`Int`/`Nat`):
for `value` in the range of `T` none of the C++ expressions overflows (`-(value + 1)` is
the reason for the `lowest()` special case). -/
def writeBody (T : IntTy) (x : Int) (b : Nat) (grouping : Bool) : List Char :=
  -- `if (value == 0) { buffer[next_char] = digits[0]; --next_char; }`
  let buf0 : List Char := if x = 0 then ['0'] else []
  if x < 0 then
    if x = T.minVal then
      -- `auto digit = -(value + 1) % base + 1; value = -(value + 1) / base;`
      let m : Nat := (-(x + 1)).toNat
      let digit := m % b + 1
      let value := m / b
      -- `if (digit == base) { digit = 0; ++value; }`
      let digit' := if digit = b then 0 else digit
      let value' := if digit = b then value + 1 else value
      writeLoop b grouping value' 1 (digitChar digit' :: buf0)
    else
      writeLoop b grouping (-x).toNat 0 buf0
  else
    writeLoop b grouping x.toNat 0 buf0

/-- `WriteIntegerToTextStream(value, stream, base, digit_grouping)`: prefix, then sign
(both pushed right-to-left after the digits). -/
def writeInt (T : IntTy) (x : Int) (base : Base) (grouping : Bool) : List Char :=
  let s := basePrefix base ++ writeBody T x base.toNat grouping
  if x < 0 then '-' :: s else s

/-- The digit classification of `DecodeInteger` (`c - '0'`, `c - 'A' + 10`, `c - 'a' + 10`). -/
def decodeDigit (c : Char) : Option Nat :=
  let n := c.toNat
  if 48 ≤ n ∧ n ≤ 57 then some (n - 48)
  else if 65 ≤ n ∧ n ≤ 70 then some (n - 65 + 10)
  else if 97 ≤ n ∧ n ≤ 102 then some (n - 97 + 10)
  else none

/-- The `for (; offset < text.size(); ++offset)` loop of `DecodeInteger`.
`atStart` is `offset == 0` (true only for the very first character of a text without
sign and prefix); `lo`/`hi` are `numeric_limits<IntType>::min()/max()`; the division is
C++'s truncating `/` (`Int.tdiv`). -/
def decodeLoop (lo hi : Int) (neg : Bool) (base : Nat) : Bool → Int → List Char → Option Int
  | _, acc, [] => some acc
  | atStart, acc, c :: cs =>
    if c = '_' then
      if atStart then none else decodeLoop lo hi neg base false acc cs
    else
      match decodeDigit c with
      | none => none
      | some d =>
        if base ≤ d then none
        else if neg then
          if acc < Int.tdiv (lo + (d : Int)) (base : Int) then none
          else decodeLoop lo hi neg base false (acc * (base : Int) - (d : Int)) cs
        else
          if acc > Int.tdiv (hi - (d : Int)) (base : Int) then none
          else decodeLoop lo hi neg base false (acc * (base : Int) + (d : Int)) cs

/-- Sign handling: a leading `-` is consumed only for signed types. -/
def splitSign (T : IntTy) : List Char → Bool × List Char
  | '-' :: r => if T.signed then (true, r) else (false, '-' :: r)
  | s => (false, s)

/-- Prefix handling: `0x`/`0X` ⇒ 16, `0b`/`0B` ⇒ 2, else 10 and nothing consumed.
Third component: something was consumed. -/
def splitBase : List Char → Nat × List Char × Bool
  | '0' :: c :: r =>
    if c = 'x' ∨ c = 'X' then (16, r, true)
    else if c = 'b' ∨ c = 'B' then (2, r, true)
    else (10, '0' :: c :: r, false)
  | s => (10, s, false)

/-- `DecodeInteger<IntType = T>(text, &result)`: `none` = returns false. -/
def decodeInt (T : IntTy) (s : List Char) : Option Int :=
  let (neg, s1) := splitSign T s
  let (base, s2, pfx) := splitBase s1
  if s2 = [] then none
  else decodeLoop T.minVal T.maxVal neg base (!neg && !pfx) 0 s2

/-! ## Tokenizer: `DiscardWhitespace` / `ReadToken` over a `TextStream`.

The stream is the list of characters not yet read.  `Unread(c)` is only ever called
with the character just read, so it cannot fail and is modelled by not consuming. -/

def isSpace (c : Char) : Bool := c = ' ' || c = '\t' || c = '\n' || c = '\r'

/-- `strchr(":{}[],", c) != nullptr` (for `c ≠ '\0'`). -/
def isPunct (c : Char) : Bool :=
  c = ':' || c = '{' || c = '}' || c = '[' || c = ']' || c = ','

/-- `DiscardWhitespace`: returns the rest of the stream, positioned at the first
character that is neither white space nor inside a `#` comment. -/
def discardWs : Bool → List Char → List Char
  | _, [] => []
  | inComment, c :: cs =>
    let ic := if c = '\r' ∨ c = '\n' then false else if c = '#' then true else inComment
    if ic || isSpace c then discardWs ic cs else c :: cs

/-- The `do … while` of `ReadToken` after the first character: collects characters up
to (not including) white space, `#` or punctuation. -/
def tokenBody : List Char → List Char × List Char
  | [] => ([], [])
  | c :: cs =>
    if isSpace c || c = '#' || isPunct c then ([], c :: cs)
    else let (t, r) := tokenBody cs; (c :: t, r)

/-- `ReadToken` started with `DiscardWhitespace`'s `in_comment` flag = `ic` (the real
function always starts with `false`; with `true` a text can be entered behind a comment,
`tokens_of_wellSep`). -/
def readTokenFrom (ic : Bool) (s : List Char) : List Char × List Char :=
  match discardWs ic s with
  | [] => ([], [])
  | c :: cs =>
    if isPunct c then ([c], cs)
    else let (t, r) := tokenBody cs; (c :: t, r)

/-- `ReadToken`: `(token, rest)`; the empty token means end of input. -/
def readToken (s : List Char) : List Char × List Char := readTokenFrom false s

/-- All tokens of a text: `ReadToken` until it returns the empty token.  Fuel = length
of the input + 1 (each non-empty token consumes at least one character);
`none` = out of fuel. -/
def tokensAuxFrom (ic : Bool) : Nat → List Char → Option (List (List Char))
  | 0, _ => none
  | fuel + 1, s =>
    match readTokenFrom ic s with
    | ([], _) => some []
    | (t, r) => (tokensAuxFrom false fuel r).map (t :: ·)

def tokens (s : List Char) : Option (List (List Char)) := tokensAuxFrom false (s.length + 1) s

end Emboss.Text
