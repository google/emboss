/-
Soundness of the generated-code model `G` (Model/View.lean) w.r.t. the
declarative reference `RFact` (Spec/ViewRef.lean), for every family of structures of the fragment
closed under "type of a field" (`Closed`, ViewRefBase.lean): byte structures and
`bits` containers, nested at any depth, scalars (`UInt`/`Int`/`Flag`/unsigned enums), virtual
fields, aliases, conditions, parameters, `[requires]` (arrays of scalars: ViewRefArray.lean).
-/
import Emboss.Lemmas.ViewRefBase
namespace Emboss.ViewRef
open Emboss.View

theorem requiresOk_of_valueIsOk {o : Oracle} {w : SView} {req : Option Expr} {v : Val}
    (hff : foldFreeOpt req = true) (h : valueIsOk o w req v = true) :
    requiresOk (envOf o w none) req v := by
  rintro r rfl
  simp only [valueIsOk, beq_iff_eq] at h
  exact evalR_of_evalBool (env := envOf o w (some v)) hff h

/-- every entry of `ρ` is a fact of R about `w`: the side conditions on the assignment in each of
R's rules.  Soundness is this for what an oracle lets an expression see, `envOf o w none`. -/
structure FactEnv (m : Module) (w : SView) (ρ : Env) : Prop where
  read : ∀ p v, ρ.read p = some v → RFact m w (.val p v)
  has : ∀ p c, ρ.has p = some c → RFact m w (.pres p c)
  param : ∀ n v, ρ.param n = some v → w.param n = some v
  lv : ρ.lv = none

theorem pres_sound {m : Module} {o : Oracle} {w : SView} (href : refStruct m w.sd = true)
    (hfacts : FactEnv m w (envOf o w none)) {x : String} {f : Field} {b : Bool}
    (hf : w.sd.field x = some f) (hb : hasField o w f = some b) : RFact m w (.pres [x] b) :=
  RFact.pres (envOf o w none) hf hfacts.read hfacts.has hfacts.param hfacts.lv
    (evalR_of_evalBool (refField_cond (ref_of_field href hf)) hb)

theorem SubViewR.lift {m : Module} {w w' : SView} {x : String} (h : SubViewR m w x w')
    (hpres : RFact m w (.pres [x] true)) {inner outer : Fact} (hin : RFact m w' inner)
    (hout : inner.under x = some outer) : RFact m w outer := by
  cases h with
  | mk ρ hf hk hfind hr hh hp hl hs hz hs0 hz0 hargs =>
    exact RFact.sub ρ hf hk hfind hpres hr hh hp hl hs hz hs0 hz0 hargs hin hout

section accessor
variable {m : Module} {P : StructDef → Prop} (hm : Closed m P) {o : Oracle} {w : SView}
  (hP : P w.sd) (hwf : viewWF w = true) (hfacts : FactEnv m w (envOf o w none))
  {x : String} {f : Field} (hf : w.sd.field x = some f)
  {start size : Expr} {name : String} {bits : Nat} {args : Exprs} {bo : ByteOrder}
  (hk : f.kind = .phys start size (.struct name bits args) bo) {w' : SView}
include hm hP hwf hfacts hf hk

theorem realSub_sound (h : realSub o m w f start size name bits args bo = some w') :
    SubViewR m w x w' ∧ RFact m w (.pres [x] true) ∧ viewWF w' = true ∧
      m.find name = some w'.sd ∧ P w'.sd := by
  have href := hm.ref _ hP
  obtain ⟨sd', vs, st, hfind, hargs, hst, rfl⟩ := realSub_some h
  obtain ⟨hfstart, hfsize, hfargs, hchild⟩ := refField_struct (ref_of_field href hf) hk hfind
  obtain ⟨off, s, hhas, hsize, hstart, hs0, hoff0, rfl⟩ := physStorage_some hst
  obtain ⟨hwin, hwf'⟩ := window_bridge hwf hchild bo off.toNat hsize (some vs)
  rw [hwin]
  exact ⟨SubViewR.mk (envOf o w none) hf hk hfind hfacts.read hfacts.has hfacts.param hfacts.lv
      (evalR_of_evalInt hfstart hstart) (evalR_of_evalInt hfsize hsize) hoff0 hs0
      (by rw [evalArgsR_eq _ _ hfargs]; exact hargs),
    pres_sound href hfacts hf hhas, hwf', hfind, hm.sub hP hf hk hfind⟩

theorem sub_sound (hsv : subView o m w f start size name bits args bo = some w') :
    P w'.sd ∧ viewWF w' = true ∧
      ∀ inner outer, inner.under x = some outer → RFact m w' inner → RFact m w outer := by
  obtain ⟨sd', hfind, hreal | rfl⟩ := subView_inv hsv
  · obtain ⟨hsub, hpres, hwf', _, hP'⟩ := realSub_sound hm hP hwf hfacts hf hk hreal
    exact ⟨hP', hwf', fun _ _ hout hin => hsub.lift hpres hin hout⟩
  · exact ⟨hm.sub hP hf hk hfind, viewWF_null sd',
      fun _ _ hout hin => RFact.nullsub hf hk hfind hin hout⟩

end accessor

theorem step_sound {m : Module} {P : StructDef → Prop} (hm : Closed m P) {o : Oracle}
    (ho : ∀ w, P w.sd → viewWF w = true → FactEnv m w (envOf o w none)) {w : SView} (hP : P w.sd)
    (hwf : viewWF w = true) : FactEnv m w (envOf (step m o) w none) := by
  have ihw := ho w hP hwf
  have href := hm.ref _ hP
  refine ⟨?_, ?_, fun _ _ h => h, rfl⟩
  · intro p v (h : (step m o).read w p = some v)
    cases p with
    | nil => cases h
    | cons x rest =>
      cases hf : w.sd.field x with
      | none => rw [(step_no_field m o w hf rest).1] at h; cases h
      | some f =>
        have hff := ref_of_field href hf
        rw [step_read_cons m o w hf] at h
        split at h
        · next start size k bits req bo hk =>
          obtain ⟨hkk, hfstart, hfsize, hfreq, hbits, hsz⟩ := refField_scalar hff hk
          split at h
          · next st hst =>
            obtain ⟨off, s, hhas, hsize, hstart, hs0, hoff0, rfl⟩ := physStorage_some hst
            rw [leaf_bridge hwf hsz hsize bo off.toNat] at h
            obtain ⟨raw, hraw, _, hdec, hok⟩ := leafRead_bits h
            exact RFact.scalar (envOf o w none) hf hk (pres_sound href ihw hf hhas) ihw.read ihw.has
              ihw.param ihw.lv (evalR_of_evalInt hfstart hstart) (evalR_of_evalInt hfsize hsize)
              hoff0 hs0 hraw (by rw [specDecode_eq k bits _ hkk hbits]; exact hdec)
              (requiresOk_of_valueIsOk hfreq hok)
          · cases h
        · next start size name bits args bo y ys hk =>
          split at h
          · next w' hsv =>
            obtain ⟨hP', hwf', hlift⟩ := sub_sound hm hP hwf ihw hf hk hsv
            exact hlift _ _ rfl ((ho w' hP' hwf').read _ _ h)
          · cases h
        · next value req hk =>
          obtain ⟨hfvalue, hfreq⟩ := refField_virt hff hk
          obtain ⟨hv, hok⟩ := virtRead_eq_some.mp h
          exact RFact.virt (envOf o w none) hf hk ihw.read ihw.has ihw.param ihw.lv
            (by rw [evalR_eq_eval hfvalue]; exact hv) (requiresOk_of_valueIsOk hfreq hok)
        · next t hk =>
          split at h
          · next hh => exact RFact.aliasVal hf hk (pres_sound href ihw hf hh) (ihw.read _ _ h)
          · cases h
        · cases h
  · intro p b (h : (step m o).has w p = some b)
    cases p with
    | nil => cases h
    | cons x rest =>
      cases hf : w.sd.field x with
      | none => rw [(step_no_field m o w hf rest).2] at h; cases h
      | some f =>
        cases rest with
        | nil => rw [step_has_nil m o w hf] at h; exact pres_sound href ihw hf h
        | cons y ys =>
          rw [step_has_cons m o w hf] at h
          split at h
          · next start size name bits args bo hk =>
            split at h
            · next w' hsv =>
              obtain ⟨hP', hwf', hlift⟩ := sub_sound hm hP hwf ihw hf hk hsv
              exact hlift _ _ rfl ((ho w' hP' hwf').has _ _ h)
            · cases h
          · next t hk =>
            split at h
            · next hh => exact RFact.aliasPres hf hk (pres_sound href ihw hf hh) (ihw.has _ _ h)
            · cases h
          · cases h

/-- **Soundness of the generated-code model w.r.t. the reference**: at every fuel, everything
`G` reports as known about any view of the fragment — a readable field's value, a presence, at
any depth — is a fact of R. -/
theorem G_sound (m : Module) {P : StructDef → Prop} (hm : Closed m P) : ∀ n (w : SView), P w.sd →
    viewWF w = true → FactEnv m w (envOf (G m n) w none)
  | 0, _, _, _ => ⟨fun _ _ h => (nomatch h), fun _ _ h => (nomatch h), fun _ _ h => h, rfl⟩
  | n + 1, _, hP, hwf => step_sound hm (G_sound m hm n) hP hwf

end Emboss.ViewRef
