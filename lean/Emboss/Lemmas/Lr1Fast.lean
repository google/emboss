/-
The compiled validator `validFast` (hash-set membership) decides `Valid` (list membership): the
two membership tests are the same predicate.
-/
import Emboss.Model.Lr1Valid
namespace Emboss.Lr1

variable {G : Grammar} {A : Automaton} {C : Cert}

theorem fastMem_eq (C : Cert) : fastMem C.sets = listMem C := by
  funext s it
  simp only [fastMem, listMem, Cert.sets, Cert.itemsOf, Array.getElem?_map]
  cases C.items[s]? <;> simp

theorem validFast_sound (h : validFast G A C = true) : Valid G A C := by
  rw [Valid, ← fastMem_eq]
  exact of_decide_eq_true h

end Emboss.Lr1
