/-
Helper lemmas for C06: the text writer's output is well separated (`wellSep_val`, one half of
`C06_tokens_roundtrip`), for every value tree and every re-readable option set; decision
procedure for well-formedness of concrete trees.
-/
import Emboss.Lemmas.TextTok
import Emboss.Lemmas.TextIntWrite
namespace Emboss.Text

instance (w : List Char) : Decidable (ValidWord w) := by unfold ValidWord; exact inferInstance

theorem wellSep_append (a b : List Piece) : ∀ k, WellSep k (a ++ b) ↔ WellSep k a ∧ WellSep (lastKind k a) b := by
  induction a with
  | nil => intro k; simp [WellSep, lastKind]
  | cons p a ih =>
    intro k
    simp only [List.cons_append, WellSep, lastKind, ih]
    constructor
    · rintro ⟨h1, h2, h3, h4⟩; exact ⟨⟨h1, h2, h3⟩, h4⟩
    · rintro ⟨⟨h1, h2, h3⟩, h4⟩; exact ⟨h1, h2, h3, h4⟩

theorem lastKind_append (a b : List Piece) : ∀ k, lastKind k (a ++ b) = lastKind (lastKind k a) b := by
  induction a with
  | nil => intro k; rfl
  | cons p a ih => intro k; simp only [List.cons_append, lastKind, ih]

/-- A plain conjunction: the statements of `wellSep_val` and its siblings write it out, and are built and used
as `Sep`. -/
def Sep (P : Kind → Prop) (k : Kind) (ps : List Piece) : Prop := WellSep k ps ∧ P (lastKind k ps)

namespace Sep
variable {P Q : Kind → Prop} {k : Kind} {p : Piece} {a b ps : List Piece}

theorem nil (h : P k) : Sep P k [] := ⟨trivial, h⟩

theorem cons (hv : p.Valid) (hok : OkAfter k p) (h : Sep P p.kind ps) : Sep P k (p :: ps) :=
  ⟨⟨hv, hok, h.1⟩, h.2⟩

theorem punct {c : Char} (hc : isPunct c = true) (hok : OkAfter k (.punct c)) (h : Sep P .other ps) :
    Sep P k (.punct c :: ps) := cons hc hok h

theorem append (ha : Sep Q k a) (hb : ∀ k', Q k' → Sep P k' b) : Sep P k (a ++ b) :=
  ⟨(wellSep_append a b k).mpr ⟨ha.1, (hb _ ha.2).1⟩, lastKind_append a b k ▸ (hb _ ha.2).2⟩

theorem close {s : List Char} (hP : P .other) (hv : (Piece.space s).Valid) (hok : OkAfter k (.space s)) :
    Sep P k [.space s, .punct '}'] := cons hv hok (punct (by decide) trivial (nil hP))

/-- A line break may follow a piece of any kind. -/
theorem newline {s : List Char} (hs : ∀ c ∈ s, isSpace c = true) (h : Sep P .other ps) :
    Sep P k (.space ('\n' :: s) :: ps) :=
  cons (List.forall_mem_cons.mpr ⟨by decide, hs⟩) (by cases k <;> simp [OkAfter]) h
end Sep

theorem digitChar_not_delim : ∀ d, d < 16 → isDelim (digitChar d) = false := by decide +kernel

theorem bodyChar_not_delim (b : Nat) (hb : b ≤ 16) (c : Char) (h : IsBodyChar b c) : isDelim c = false := by
  rcases h with rfl | ⟨d, hd', rfl⟩
  · decide
  · exact digitChar_not_delim d (by omega)

theorem writeInt_validWord (T : IntTy) (x : Int) (base : Base) (g : Bool) :
    ValidWord (writeInt T x base g) := by
  obtain ⟨c, cs, hw, _⟩ := writeInt_head T x base g
  refine ⟨by rw [hw]; exact List.cons_ne_nil _ _, ?_⟩
  rw [writeInt_eq]
  exact List.forall_mem_append.mpr ⟨List.forall_mem_append.mpr
    ⟨by split <;> decide, by cases base <;> decide⟩, fun c hc =>
      bodyChar_not_delim _ (by cases base <;> decide) c ((writeBody_spec T x base g).chars c hc)⟩

theorem ValidWord.noEol {w : List Char} (h : ValidWord w) : ∀ c ∈ w, c ≠ '\n' ∧ c ≠ '\r' := by
  intro c hc
  have := h.2 c hc
  constructor <;> (rintro rfl; simp [isDelim, isSpace] at this)

theorem Opts.Rereadable.plusOne {o : Opts} (h : o.Rereadable) : o.plusOne.Rereadable where
  comments_need_multiline := h.comments_need_multiline
  indent_blank := h.indent_blank
  current_blank := List.forall_mem_append.mpr ⟨h.current_blank, h.indent_blank⟩

theorem numberComment_wellSep {P : Kind → Prop} (T : IntTy) (v : Int) (b : Base) (g : Bool) (hP : P .comment) :
    Sep P .word (numberComment T v b g) :=
  .cons (by decide : ∀ c ∈ [' ', ' '], isSpace c = true) (List.cons_ne_nil _ _)
    (.cons (List.forall_mem_cons.mpr ⟨by decide, (writeInt_validWord T v b g).noEol⟩) trivial (.nil hP))

theorem render_append (a b : List Piece) : render (a ++ b) = render a ++ render b := by
  induction a with
  | nil => rfl
  | cons p a ih => simp [render, ih]

theorem render_numberComment_no_newline (T : IntTy) (v : Int) (b : Base) (g : Bool) :
    ∀ c ∈ render (numberComment T v b g), c ≠ '\n' ∧ c ≠ '\r' :=
  -- the text is `"  " ++ (('#' :: ' ' :: number) ++ [])`
  List.forall_mem_append.mpr ⟨by decide, List.forall_mem_append.mpr ⟨List.forall_mem_cons.mpr
    ⟨by decide, List.forall_mem_cons.mpr ⟨by decide, (writeInt_validWord T v b g).noEol⟩⟩, by decide⟩⟩

def scalarWord (o : Opts) : Scalar → List Char
  | .int T v | .enumV none T v => writeInt T v o.base o.grouping
  | .bool b => if b then "true".toList else "false".toList
  | .enumV (some n) _ _ => n
  | .float t => t

theorem writeScalar_eq (o : Opts) (s : Scalar) :
    ∃ c, writeScalar o s = .word (scalarWord o s) :: c ∧
      (c = [] ∨ o.comments = true ∧ ∃ T v b g, c = numberComment T v b g) := by
  rcases s with ⟨T, v⟩ | b | ⟨_ | n, T, v⟩ | t
  case int | enumV.some =>
    refine ⟨_, rfl, ?_⟩
    cases hc : o.comments
    · exact Or.inl rfl
    · exact Or.inr ⟨rfl, _, _, _, _, rfl⟩
  all_goals exact ⟨_, rfl, Or.inl rfl⟩

theorem scalarWord_valid (o : Opts) (s : Scalar) (hs : s.WF) : ValidWord (scalarWord o s) := by
  rcases s with ⟨T, v⟩ | b | ⟨_ | n, T, v⟩ | t
  case bool =>
    cases b
    · exact (by decide +kernel : ValidWord "false".toList)
    · exact (by decide +kernel : ValidWord "true".toList)
  case enumV.some => exact hs n rfl
  case float => exact hs
  all_goals exact writeInt_validWord T v o.base o.grouping

theorem wellSep_scalar (o : Opts) (ho : o.Rereadable) (s : Scalar) (hs : s.WF) :
    Sep (EndOk o) .other (writeScalar o s) := by
  have hw := scalarWord_valid o s hs
  obtain ⟨c, heq, rfl | ⟨hc, T, v, b, g, rfl⟩⟩ := writeScalar_eq o s
  · rw [heq]
    exact .cons hw trivial (.nil trivial)
  · rw [heq]
    exact .cons hw trivial (numberComment_wellSep T v b g (ho.comments_need_multiline hc))

theorem render_scalar_no_newline (o : Opts) (s : Scalar) (hs : s.WF) :
    ∀ c ∈ render (writeScalar o s), c ≠ '\n' ∧ c ≠ '\r' := by
  obtain ⟨c, heq, hc⟩ := writeScalar_eq o s
  rw [heq]
  refine List.forall_mem_append.mpr ⟨(scalarWord_valid o s hs).noEol, ?_⟩
  rcases hc with rfl | ⟨_, T, v, b, g, rfl⟩
  · exact fun _ h => nomatch h
  · exact render_numberComment_no_newline T v b g

theorem asciiChar_no_newline (v : TVal) : asciiChar v ≠ '\n' ∧ asciiChar v ≠ '\r' := by
  -- a printable code is the code of its character, and line ends have codes 10 and 13
  have key : ∀ n, n < 127 → 32 ≤ n → Char.ofNat n ≠ '\n' ∧ Char.ofNat n ≠ '\r' := by
    intro n h1 h2
    have hn : (Char.ofNat n).toNat = n := by
      simp [Char.ofNat, show n.isValidChar from Or.inl (by omega), Char.ofNatAux, Char.toNat]
    constructor
    · intro hc
      rw [hc] at hn
      exact absurd (hn ▸ h2 : 32 ≤ ('\n' : Char).toNat) (by decide)
    · intro hc
      rw [hc] at hn
      exact absurd (hn ▸ h2 : 32 ≤ ('\r' : Char).toNat) (by decide)
  unfold asciiChar
  split
  · split
    · rename_i v' h
      exact key v'.toNat (by omega) (by omega)
    · decide
  · decide

theorem asciiChars_no_newline : ∀ vs : TVals, ∀ c ∈ asciiChars vs, c ≠ '\n' ∧ c ≠ '\r'
  | .nil => fun _ h => nomatch h
  | .cons v vs => List.forall_mem_cons.mpr ⟨asciiChar_no_newline v, asciiChars_no_newline vs⟩
  | .skip vs => asciiChars_no_newline vs

theorem asciiLines_wellSep {P : Kind → Prop} (indent : List Char) (hi : ∀ c ∈ indent, isSpace c = true)
    (hc : P .comment) : ∀ (fuel : Nat) (cs : List Char) (k : Kind), (∀ c ∈ cs, c ≠ '\n' ∧ c ≠ '\r') →
      P k → Sep P k (asciiLines indent fuel cs) := by
  intro fuel
  induction fuel with
  | zero => intro cs k _ hk; exact .nil hk
  | succ n ih =>
    intro cs k hcs hk
    unfold asciiLines
    split
    · exact .nil hk
    · exact .newline hi (.cons (List.forall_mem_cons.mpr ⟨by decide, fun c hc => hcs c (List.mem_of_mem_take hc)⟩)
        trivial (ih (cs.drop 64) .comment (fun c hc => hcs c (List.mem_of_mem_drop hc)) hc))

theorem okAfter_space1 {k : Kind} (hk : k ≠ .comment) : OkAfter k (.space [' ']) := by
  cases k <;> simp [OkAfter] at *

theorem okAfter_punct {k : Kind} {c : Char} (hk : k ≠ .comment) : OkAfter k (.punct c) := by
  cases k <;> simp [OkAfter] at *

theorem EndOk.ne_comment {o : Opts} {k : Kind} (h : EndOk o k) (hsl : o.multiline = false) : k ≠ .comment := by
  intro hk; subst hk; simp [EndOk, hsl] at h

theorem startOk_other (o : Opts) : StartOk o .other := by
  unfold StartOk; split <;> simp

theorem StartOk.ne_comment {o : Opts} {k : Kind} (h : StartOk o k) : k ≠ .comment := by
  unfold StartOk at h
  split at h
  · exact h ▸ (by decide)
  · exact h

theorem StartOk.eq_other {o : Opts} {k : Kind} (h : StartOk o k) (hml : o.multiline = true) : k = .other :=
  (if_pos hml).mp h

theorem startOk_sl {o : Opts} {k : Kind} (hsl : o.multiline = false) (hk : k ≠ .comment) : StartOk o k :=
  (if_neg (by simp [hsl])).mpr hk

theorem space1_valid : (Piece.space [' ']).Valid := (by decide : ∀ c ∈ [' '], isSpace c = true)

theorem indexMarker_wellSep {P : Kind → Prop} {ps : List Piece} (o : Opts) (i : Nat) (h : Sep P .other ps) :
    Sep P .other (indexMarker o i ++ ps) :=
  .punct (by decide) trivial (.cons (writeInt_validWord .u64 i o.base o.grouping) trivial
    (.punct (by decide) trivial (.punct (by decide) trivial (.cons space1_valid trivial h))))

theorem unreadable_no_newline : ∀ c ∈ unreadable, c ≠ '\n' ∧ c ≠ '\r' := by decide +kernel

theorem fieldComment_wellSep {P : Kind → Prop} {ps : List Piece} {ind name tail : List Char}
    (hi : ∀ c ∈ ind, isSpace c = true) (hname : ValidWord name) (ht : ∀ c ∈ tail, c ≠ '\n' ∧ c ≠ '\r')
    (h : Sep P .other ps) :
    Sep P .other (.space ind :: .comment (' ' :: (name ++ (':' :: ' ' :: tail))) :: .space ['\n'] :: ps) :=
  .cons hi trivial (.cons (List.forall_mem_cons.mpr ⟨by decide, List.forall_mem_append.mpr ⟨hname.noEol,
    List.forall_mem_cons.mpr ⟨by decide, List.forall_mem_cons.mpr ⟨by decide, ht⟩⟩⟩⟩) trivial
      (.newline (List.forall_mem_nil _) h))

theorem unreadable_index_comment_valid (i : Nat) (b : Base) (g : Bool) :
    (Piece.comment (' ' :: '[' :: (writeInt .u64 i b g ++ (']' :: ':' :: ' ' :: unreadable)))).Valid :=
  List.forall_mem_cons.mpr ⟨by decide, List.forall_mem_cons.mpr ⟨by decide, List.forall_mem_append.mpr
    ⟨(writeInt_validWord .u64 i b g).noEol, List.forall_mem_cons.mpr ⟨by decide, List.forall_mem_cons.mpr
      ⟨by decide, List.forall_mem_cons.mpr ⟨by decide, unreadable_no_newline⟩⟩⟩⟩⟩⟩

mutual
theorem wellSep_val : ∀ (v : TVal) (o : Opts), o.Rereadable → v.WF →
    WellSep .other (writeVal o v) ∧ EndOk o (lastKind .other (writeVal o v))
  | .scalar s => by
    intro o ho hv
    rw [writeVal]; exact wellSep_scalar o ho s hv
  | .arr ascii vs => by
    intro o ho hv
    rw [writeVal]
    by_cases hml : o.multiline = true
    · rw [if_pos hml]
      have hA : Sep (EndOk o) .other (if (ascii && o.comments) = true then
          asciiLines o.plusOne.current (asciiChars vs).length (asciiChars vs) else []) := by
        split
        · exact asciiLines_wellSep _ ho.plusOne.current_blank hml _ _ .other (asciiChars_no_newline vs) trivial
        · exact Sep.nil trivial
      exact Sep.punct (by decide) trivial (hA.append fun k' hk' =>
        Sep.append (wellSep_elemsML vs o 0 k' ho hml hv hk') fun k'' _ =>
          Sep.newline ho.current_blank (Sep.punct (by decide) trivial (Sep.nil trivial)))
    · have hsl : o.multiline = false := by simpa using hml
      rw [if_neg hml]
      exact Sep.punct (by decide) trivial (Sep.append (wellSep_elemsSL vs o 0 false .other ho hsl hv trivial)
        fun k' hk' => Sep.close trivial space1_valid (okAfter_space1 (hk'.ne_comment hsl)))
  | .struct fs => by
    intro o ho hv
    rw [writeVal]
    by_cases hml : o.multiline = true
    · simp only [hml, if_true, List.cons_append, List.nil_append]
      exact Sep.punct (by decide) trivial (Sep.newline (List.forall_mem_nil _)
        (Sep.append (wellSep_fields fs o false .other ho hv (startOk_other o)) fun k' hk' => by
          cases hk'.eq_other hml
          exact Sep.close trivial ho.current_blank trivial))
    · have hsl : o.multiline = false := by simpa using hml
      simp only [hsl, Bool.false_eq_true, if_false, List.cons_append, List.nil_append]
      exact Sep.punct (by decide) trivial
        (Sep.append (wellSep_fields fs o false .other ho hv (startOk_other o)) fun k' hk' =>
          Sep.close trivial space1_valid (okAfter_space1 hk'.ne_comment))

theorem wellSep_elemsML : ∀ (vs : TVals) (o : Opts) (i : Nat) (k : Kind), o.Rereadable →
    o.multiline = true → vs.WF → EndOk o k →
    WellSep k (writeElemsML o i vs) ∧ EndOk o (lastKind k (writeElemsML o i vs))
  | .nil => by
    intro o i k _ _ _ hk
    rw [writeElemsML]; exact Sep.nil hk
  | .cons v vs => by
    intro o i k ho hml hvs hk
    rw [writeElemsML]
    -- `EndOk o.plusOne` is `EndOk o` by definition: it looks at `o.multiline` only
    exact Sep.newline ho.plusOne.current_blank (indexMarker_wellSep o i
      (Sep.append (Q := EndOk o) (wellSep_val v o.plusOne ho.plusOne hvs.1)
        fun k' hk' => wellSep_elemsML vs o (i + 1) k' ho hml hvs.2 hk'))
  | .skip vs => by
    intro o i k ho hml hvs hk
    rw [writeElemsML]
    split
    · exact Sep.newline ho.plusOne.current_blank
        (Sep.cons (unreadable_index_comment_valid i o.base o.grouping) trivial
          (wellSep_elemsML vs o (i + 1) .comment ho hml hvs hml))
    · exact wellSep_elemsML vs o (i + 1) k ho hml hvs hk

theorem wellSep_elemsSL : ∀ (vs : TVals) (o : Opts) (i : Nat) (skipped : Bool) (k : Kind), o.Rereadable →
    o.multiline = false → vs.WF → EndOk o k →
    WellSep k (writeElemsSL o i skipped vs) ∧ EndOk o (lastKind k (writeElemsSL o i skipped vs))
  | .nil => by
    intro o i skipped k _ _ _ hk
    rw [writeElemsSL]; exact Sep.nil hk
  | .skip vs => by
    intro o i skipped k ho hsl hvs hk
    rw [writeElemsSL, if_neg fun hc => absurd (ho.comments_need_multiline hc) (by simp [hsl]),
      List.nil_append]
    exact wellSep_elemsSL vs o (i + 1) true k ho hsl hvs hk
  | .cons v vs => by
    intro o i skipped k ho hsl hvs hk
    rw [writeElemsSL]
    have hV : Sep (EndOk o) .other (writeVal o.plusOne v ++
        ((if vs.isNil then [] else [.punct ',']) ++ writeElemsSL o (i + 1) false vs)) :=
      Sep.append (Q := EndOk o) (wellSep_val v o.plusOne ho.plusOne hvs.1) fun k' hk' =>
        Sep.append (Q := EndOk o) (by
          split
          · exact Sep.nil hk'
          · exact Sep.punct (by decide) (okAfter_punct (hk'.ne_comment hsl)) (Sep.nil trivial))
          fun k'' hk'' => wellSep_elemsSL vs o (i + 1) false k'' ho hsl hvs.2 hk''
    refine Sep.cons space1_valid (okAfter_space1 (hk.ne_comment hsl)) ?_
    split
    · exact indexMarker_wellSep o i hV
    · exact hV

theorem wellSep_fields : ∀ (fs : TFields) (o : Opts) (wrote : Bool) (k : Kind), o.Rereadable →
    fs.WF → StartOk o k →
    WellSep k (writeFields o wrote fs) ∧ StartOk o (lastKind k (writeFields o wrote fs))
  | .nil => by
    intro o wrote k _ _ hk
    rw [writeFields]; exact Sep.nil hk
  | .cons name false v fs => by
    intro o wrote k ho hfs hk
    obtain ⟨hname, _, hv, hfs'⟩ : ValidWord name ∧ _ ∧ v.WF ∧ fs.WF := hfs
    have hV : Sep (EndOk o) .other (writeVal o.plusOne v) := wellSep_val v o.plusOne ho.plusOne hv
    have hbody : ∀ (sep : List Piece), (∀ k', EndOk o k' → Sep (StartOk o) k' sep) →
        Sep (StartOk o) .other (.word name :: .punct ':' :: .space [' '] ::
          (writeVal o.plusOne v ++ (sep ++ writeFields o true fs))) := fun sep hsep =>
      Sep.cons hname trivial (Sep.punct (by decide) trivial (Sep.cons space1_valid trivial
        (hV.append fun k' hk' => (hsep k' hk').append fun k'' hk'' =>
          wellSep_fields fs o true k'' ho hfs' hk'')))
    rw [writeFields]
    by_cases hml : o.multiline = true
    · cases hk.eq_other hml
      simp only [hml, if_true, List.cons_append, List.nil_append]
      exact Sep.cons ho.plusOne.current_blank trivial (hbody [.space ['\n']] fun k' hk' =>
        Sep.newline (List.forall_mem_nil _) (Sep.nil (startOk_other o)))
    · have hsl : o.multiline = false := by simpa using hml
      have hb := hbody [] fun k' hk' => Sep.nil (startOk_sl hsl (hk'.ne_comment hsl))
      simp only [hsl, Bool.false_eq_true, if_false]
      split
      · exact Sep.punct (by decide) (okAfter_punct hk.ne_comment) (Sep.cons space1_valid trivial hb)
      · exact Sep.cons space1_valid (okAfter_space1 hk.ne_comment) hb
  | .cons name true v fs => by
    intro o wrote k ho hfs hk
    obtain ⟨hname, hro, hv, hfs'⟩ : ValidWord name ∧ (true = true → ∃ s, v = .scalar s) ∧ v.WF ∧ fs.WF := hfs
    obtain ⟨s, rfl⟩ := hro rfl
    rw [writeFields]
    by_cases hc : o.comments = true
    · cases hk.eq_other (ho.comments_need_multiline hc)
      simp only [hc, if_true, List.cons_append, List.nil_append]
      exact fieldComment_wellSep ho.plusOne.current_blank hname
        (by rw [writeVal]; exact render_scalar_no_newline o.plusOne s hv)
        (wellSep_fields fs o wrote .other ho hfs' (startOk_other o))
    · simp only [hc]
      exact wellSep_fields fs o wrote k ho hfs' hk
  | .skip name fs => by
    intro o wrote k ho hfs hk
    rw [writeFields]
    by_cases hc : o.comments = true
    · have hml := ho.comments_need_multiline hc
      cases hk.eq_other hml
      simp only [hc, hml, if_true, List.cons_append, List.nil_append]
      exact fieldComment_wellSep ho.plusOne.current_blank hfs.1 unreadable_no_newline
        (wellSep_fields fs o wrote .other ho hfs.2 (startOk_other o))
    · simp only [hc]
      exact wellSep_fields fs o wrote k ho hfs.2 hk
end

theorem writeVal_head (o : Opts) (v : TVal) :
    ∃ ps, writeVal o v = .punct '{' :: ps ∨ ∃ w, writeVal o v = .word w :: ps := by
  cases v with
  | scalar s =>
    obtain ⟨c, heq, _⟩ := writeScalar_eq o s
    rw [writeVal]
    exact ⟨c, Or.inr ⟨_, heq⟩⟩
  | arr a vs =>
    rw [writeVal]
    split <;> exact ⟨_, Or.inl rfl⟩
  | struct fs =>
    rw [writeVal]
    split <;> exact ⟨_, Or.inl rfl⟩

theorem toks_asciiLines (indent : List Char) : ∀ (fuel : Nat) (cs : List Char),
    toks (asciiLines indent fuel cs) = [] := by
  intro fuel
  induction fuel with
  | zero => intro cs; rfl
  | succ n ih =>
    intro cs
    unfold asciiLines
    split
    · rfl
    · simp [toks, ih]

theorem lastKind_arr (o : Opts) (k : Kind) (a : Bool) (vs : TVals) :
    lastKind k (writeVal o (.arr a vs)) = .other := by
  rw [writeVal]
  split <;> simp [lastKind, lastKind_append, Piece.kind]

theorem lastKind_struct (o : Opts) (k : Kind) (fs : TFields) :
    lastKind k (writeVal o (.struct fs)) = .other := by
  rw [writeVal]
  split <;> simp [lastKind, lastKind_append, Piece.kind]

/-! For the test vectors: well-formedness is decidable. -/

instance : (s : Scalar) → Decidable s.WF
  | .int _ _ | .bool _ => isTrue trivial
  | .enumV none _ _ => isTrue (fun _ h => nomatch h)
  | .enumV (some w) _ _ =>
    decidable_of_iff (ValidWord w) ⟨fun h _ e => Option.some.inj e ▸ h, fun h => h w rfl⟩
  | .float t => inferInstanceAs (Decidable (ValidWord t))

instance : (v : TVal) → Decidable (∃ s, v = .scalar s)
  | .scalar s => isTrue ⟨s, rfl⟩
  | .arr _ _ | .struct _ => isFalse (fun ⟨_, h⟩ => nomatch h)

mutual
def TVal.decWF : (v : TVal) → Decidable v.WF
  | .scalar s => inferInstanceAs (Decidable s.WF)
  | .arr _ vs => vs.decWF
  | .struct fs => fs.decWF
def TVals.decWF : (vs : TVals) → Decidable vs.WF
  | .nil => isTrue trivial
  | .cons v vs => @instDecidableAnd _ _ v.decWF vs.decWF
  | .skip vs => vs.decWF
def TFields.decWF : (fs : TFields) → Decidable fs.WF
  | .nil => isTrue trivial
  | .cons _ _ v fs =>
    @instDecidableAnd _ _ inferInstance (@instDecidableAnd _ _ inferInstance
      (@instDecidableAnd _ _ v.decWF fs.decWF))
  | .skip _ fs => @instDecidableAnd _ _ inferInstance fs.decWF
end

instance (v : TVal) : Decidable v.WF := v.decWF

end Emboss.Text
