/-
Reads through a view: `IntView` sign conversion (both code paths), and the per-view read
lemmas assembled over `fieldView`.
-/
import Emboss.Lemmas.ScalarBuf
import Emboss.Lemmas.ScalarBcd
namespace Emboss.Scalar
open Emboss.Bits Emboss.Scalar.Spec

/-! ### `twos` against `toSigned` and `ofInt` -/

theorem toSigned_eq_twos {W u : Nat} (hu : u < 2 ^ W) : toSigned W u = twos W u := by
  unfold toSigned twos; rw [wrap_of_lt hu]

theorem twos_ofInt {w : Nat} (hw : 0 < w) {x : Int} (hlo : -((2 ^ (w - 1) : Nat) : Int) ≤ x)
    (hhi : x < ((2 ^ (w - 1) : Nat) : Int)) : twos w (ofInt w x) = x ∧ ofInt w x < 2 ^ w :=
  ⟨by rw [← toSigned_eq_twos (ofInt_lt w x)]; exact toSigned_ofInt hw hlo hhi, ofInt_lt w x⟩

theorem twos_range {w d : Nat} (hw : 1 ≤ w) (hd : d < 2 ^ w) :
    -((2 ^ (w - 1) : Nat) : Int) ≤ twos w d ∧ twos w d < ((2 ^ (w - 1) : Nat) : Int) := by
  have := Nat.two_pow_pred_mul_two hw
  unfold twos; split <;> omega

/-! ### IntView::ConvertToSigned -/

/-- Shifting the field to the top of the `VW`-bit word scales the pattern and the modulus by the
same power of two, and the balanced remainder scales with them (`Int.mod_bmod_mul_of_pos`); the
arithmetic shift back divides it out. -/
theorem convertToSignedTwos_eq {BW w raw : Nat} (hw : 1 ≤ w) (hw64 : w ≤ 64)
    (hBW : leastWidth w ≤ BW) (hraw : raw < 2 ^ w) :
    convertToSignedTwos BW w raw = twos w raw := by
  unfold convertToSignedTwos
  have hVW := le_leastWidth hw64
  generalize leastWidth w = VW at *
  obtain ⟨n, rfl⟩ : ∃ n, VW = w + n := ⟨VW - w, by omega⟩
  simp only [Nat.add_sub_cancel_left]
  have hn := Nat.two_pow_pos n
  have hlt : raw * 2 ^ n < 2 ^ (w + n) := by
    rw [Nat.pow_add]; exact Nat.mul_lt_mul_of_pos_right hraw hn
  rw [shl_eq (lt_pow_of_lt_of_le hlt (Nat.le_trans hBW (le_arithW BW))), ← toSigned_eq_twos hraw,
    toSigned_eq_bmod, toSigned_eq_bmod, Nat.pow_add, Nat.mul_comm, Nat.mul_comm (2 ^ w),
    Int.natCast_mul, Int.mod_bmod_mul_of_pos _ _ hn (Nat.dvd_of_pow_dvd hw (Nat.dvd_refl _)),
    Int.mul_ediv_cancel_left _ (by omega)]

theorem convertToSignedPortable_eq {BW w raw : Nat} (hw : 1 ≤ w) (hw64 : w ≤ 64)
    (hBW : leastWidth w ≤ BW) (hraw : raw < 2 ^ w) :
    convertToSignedPortable BW w raw = some (twos w raw) := by
  unfold convertToSignedPortable
  by_cases h1 : w = 1
  · subst h1
    have : raw = 0 ∨ raw = 1 := by omega
    rcases this with rfl | rfl <;> simp [twos]
  · rw [if_neg h1]
    have hVW := le_leastWidth hw64
    generalize leastWidth w = VW at *
    obtain ⟨k, rfl⟩ : ∃ k, w = k + 2 := ⟨w - 2, by omega⟩
    have hA := le_arithW BW
    have hVpos : 0 < VW := by omega
    -- the sign bit `2^(k+1)` and the mask of the bits below it
    have hsb : wrap BW (shl (arithW BW) 1 (k + 2 - 1)) = 2 ^ (k + 1) := by
      rw [shl_one (by omega)]; exact wrap_of_lt (Nat.pow_lt_pow_right Nat.one_lt_two (by omega))
    have hmask : wrap BW (subW (arithW BW) (2 ^ (k + 1)) 1) = 2 ^ (k + 1) - 1 := by
      rw [subW_eq (Nat.pow_lt_pow_right Nat.one_lt_two (by omega)) (Nat.two_pow_pos _)]
      exact wrap_of_lt (Nat.lt_of_le_of_lt (Nat.sub_le _ _) (Nat.pow_lt_pow_right Nat.one_lt_two (by omega)))
    simp only [hsb, hmask]
    rw [Nat.and_comm (2 ^ (k + 1) - 1) raw, Nat.and_two_pow_sub_one_eq_mod,
      and_two_pow_of_lt hraw]
    -- the sign bit is `2·2^k`, the field holds `raw < 4·2^k`, and `VW` has room for both
    have hH1 : 2 ^ (k + 1) = 2 * 2 ^ k := by rw [Nat.pow_succ, Nat.mul_comm]
    have hH2 : 2 ^ (k + 2) = 2 * 2 ^ (k + 1) := by rw [Nat.pow_succ, Nat.mul_comm]
    have hV : 2 ^ (k + 1) ≤ 2 ^ (VW - 1) := Nat.pow_le_pow_right Nat.two_pos (by omega)
    have hpos := Nat.two_pow_pos k
    -- only the facts about the powers are needed below
    clear hsb hmask hA hBW hw hw64 h1 hVW
    unfold twos
    rw [show k + 2 - 1 = k + 1 from rfl]
    congr 1
    by_cases hs : 2 ^ (k + 1) ≤ raw
    · obtain ⟨t, rfl⟩ := Nat.exists_eq_add_of_le hs
      have hhalf : (2 ^ (k + 1)) >>> 1 = 2 ^ k := by rw [Nat.shiftRight_eq_div_pow, hH1]; omega
      rw [if_pos hs, if_neg (Nat.not_lt.mpr hs), hhalf,
        toSigned_of_lt (u := 2 ^ k) (by omega), Nat.add_mod_left,
        Nat.mod_eq_of_lt (by omega), toSigned_ofInt hVpos (by omega) (by omega)]
      omega
    · have h0 : toSigned VW 0 = 0 := toSigned_of_lt (Nat.two_pow_pos _)
      rw [if_neg hs, if_pos (by omega), Nat.zero_shiftRight, h0, Nat.mod_eq_of_lt (by omega),
        Int.sub_zero, Int.sub_zero]
      exact toSigned_ofInt hVpos (by omega) (by omega)

theorem convertToSigned_eq (p : Path) {BW w raw : Nat} (hw : 1 ≤ w) (hw64 : w ≤ 64)
    (hBW : leastWidth w ≤ BW) (hraw : raw < 2 ^ w) :
    convertToSigned p BW w raw = some (twos w raw) := by
  cases p
  · simp only [convertToSigned, convertToSignedTwos_eq hw hw64 hBW hraw]
  · exact convertToSignedPortable_eq hw hw64 hBW hraw

/-! ### Reads over `fieldView` -/

variable {bb : BitBlock} {o w : Nat}

theorem fieldView_isComplete (h : Placed bb o w) (direct : Bool)
    (hd : direct = true → o = 0 ∧ w = bb.c) (ty : Ty) :
    (fieldView ty direct bb o w).isComplete = true := by
  have hw := h.w_pos
  unfold View.isComplete fieldView
  cases ty <;> simp [fieldBuf_ok h direct, fieldBuf_sizeInBits h direct hd] <;> omega

theorem fieldView_uncheckedRead (h : Placed bb o w) (direct : Bool)
    (hd : direct = true → o = 0 ∧ w = bb.c) (ty : Ty) :
    (fieldView ty direct bb o w).uncheckedRead =
      (fieldView ty direct bb o w).decode (fieldBits bb o w) := by
  unfold View.uncheckedRead
  simp only [fieldView, fieldBuf_readUInt h direct hd]

theorem fieldView_ok_read (h : Placed bb o w) (direct : Bool)
    (hd : direct = true → o = 0 ∧ w = bb.c) (ty : Ty) :
    (fieldView ty direct bb o w).ok =
      (match ty with | .bcd => isBcd bb.W (fieldBits bb o w) | _ => true) ∧
    (fieldView ty direct bb o w).read =
      if (fieldView ty direct bb o w).ok then (fieldView ty direct bb o w).decode (fieldBits bb o w)
      else none := by
  have hc := fieldView_isComplete h direct hd ty
  unfold View.read View.ok
  rw [hc]
  simp only [fieldView, fieldBuf_readUInt h direct hd, fieldBuf_W]
  cases ty <;> simp

theorem fieldView_read_spec (h : Placed bb o w) (direct : Bool)
    (hd : direct = true → o = 0 ∧ w = bb.c) {ty : Ty} (hty : TypeFits ty w) :
    (fieldView ty direct bb o w).ok = (decodeSpec ty w (fieldBits bb o w)).isSome ∧
    (fieldView ty direct bb o w).read = decodeSpec ty w (fieldBits bb o w) := by
  obtain ⟨hok, hrd⟩ := fieldView_ok_read h direct hd ty
  rw [hrd, hok]
  have hraw := fieldBits_lt bb o w
  generalize fieldBits bb o w = raw at hraw
  cases ty with
  | uint =>
    exact ⟨rfl, congrArg (fun n : Nat => some (n : Int))
      (wrap_of_lt (lt_pow_of_lt_of_le hraw (le_leastWidth (placed_w_le_64 h))))⟩
  | int =>
    simp only [View.decode, fieldView, fieldBuf_W, if_true]
    rw [convertToSigned_eq _ h.w_pos (placed_w_le_64 h) (placed_VW_le_W h) hraw]
    exact ⟨rfl, rfl⟩
  | bcd =>
    simp only [View.decode, fieldView, decodeSpec, bcdToBinary_eq (placed_w_le_64 h) hraw,
      ← isBcd_iff (leastWidth_cases bb.c) (placed_w_le_W h) hraw, BitBlock.W]
    cases isBcd _ raw <;> exact ⟨rfl, trivial⟩
  | flag =>
    cases hty
    have h01 : raw = 0 ∨ raw = 1 := by omega
    rcases h01 with rfl | rfl <;> exact ⟨rfl, rfl⟩
  | float => exact ⟨rfl, congrArg (fun n : Nat => some (n : Int)) (wrap_of_lt hraw)⟩
  | enum uw s =>
    cases s with
    | false =>
      exact ⟨rfl, congrArg (fun n : Nat => some (n : Int)) (wrap_of_lt (lt_pow_of_lt_of_le hraw hty))⟩
    | true => cases hty; exact ⟨rfl, congrArg some (toSigned_eq_twos hraw)⟩

end Emboss.Scalar
