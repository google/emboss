/-
Node-level soundness, assembled from the operator lemmas: the annotations of
`absBin`/`absChoice`/`absMax` and the `constant_value`s of `cvBin`/`cvChoice`/`cvMax`
describe the value of the node.
-/
import Emboss.Lemmas.BoundsOps
namespace Emboss.Bounds
open ExtInt

theorem applyBin_eq_evalBin (op : BinOp) (a b : CVal) : applyBin op a b = evalBin op a b := by
  cases op <;> cases a <;> cases b <;>
    first | rfl | (simp only [applyBin, evalBin, bne, decide_not]; rfl)

/-- what a `constant_value` result promises about a concrete value -/
def CvAgrees (c : CV) (v : CVal) : Prop := ∀ x, c = .val x → v = x

theorem CvAgrees_unknown (v : CVal) : CvAgrees .unknown v := nofun

theorem evalBin_bool {op : BinOp} (hop : isArith op = false) {a b v : CVal}
    (h : evalBin op a b = some v) : ∃ t, v = .bool t := by
  unfold evalBin at h
  split at h <;> cases h <;> first | exact ⟨_, rfl⟩ | cases hop

theorem GammaT_int_inv {a : AVal} {v : CVal} (h : GammaT (.int a) v) : ∃ x, v = .int x ∧ Gamma a x := by
  cases v <;> first | exact ⟨_, rfl, h⟩ | exact h.elim

theorem GammaT_bool_inv {ob : Option Bool} {v : CVal} (h : GammaT (.bool ob) v) : ∃ t, v = .bool t := by
  cases v <;> first | exact ⟨_, rfl⟩ | exact h.elim

theorem GammaT_enum_inv {ov : Option Int} {v : CVal} (h : GammaT (.enum ov) v) : ∃ t, v = .enum t := by
  cases v <;> first | exact ⟨_, rfl⟩ | exact h.elim

theorem absArith_sound {op : BinOp} {a b c : AVal} {x y : Int} {v : CVal}
    (hx : Gamma a x) (hy : Gamma b y) (h : absArith op a b = some c)
    (he : evalBin op (.int x) (.int y) = some v) : ∃ z, v = .int z ∧ Gamma c z := by
  cases op <;> simp only [absArith] at h <;> try cases h
  · simp only [evalBin, Option.some.injEq] at he; subst he
    exact ⟨_, rfl, additive_sound h hx hy⟩
  · simp only [evalBin, Option.some.injEq] at he; subst he
    exact ⟨_, rfl, additive_sound h hx hy⟩
  · simp only [evalBin, Option.some.injEq] at he; subst he
    exact ⟨_, rfl, multiplicative_sound h hx hy⟩

theorem absCmp_sound {op : BinOp} (hop : isArith op = false) {ty : AType} {cl cr : CV}
    {vl vr v : CVal} (hcl : CvAgrees cl vl) (hcr : CvAgrees cr vr)
    (h : absCmp op cl cr = some ty) (he : evalBin op vl vr = some v) : GammaT ty v := by
  obtain ⟨t, rfl⟩ := evalBin_bool hop he
  unfold absCmp at h
  split at h
  · cases h
  · cases h; simp [GammaT]
  · rename_i x
    have := hcl x rfl; subst this
    split at h
    · cases h
    · cases h; simp [GammaT]
    · rename_i y
      have := hcr y rfl; subst this
      rw [applyBin_eq_evalBin, he] at h
      simp only [Option.some.injEq] at h
      subst h
      simp [GammaT]

theorem absBin_sound {op : BinOp} {l r ty : AType} {cl cr : CV} {vl vr v : CVal}
    (hl : GammaT l vl) (hr : GammaT r vr) (hcl : CvAgrees cl vl) (hcr : CvAgrees cr vr)
    (h : absBin op l r cl cr = some ty) (he : evalBin op vl vr = some v) : GammaT ty v := by
  unfold absBin at h
  split at h
  · split at h
    · obtain ⟨x, rfl, hx⟩ := GammaT_int_inv hl
      obtain ⟨y, rfl, hy⟩ := GammaT_int_inv hr
      simp only [Option.map_eq_some_iff] at h
      obtain ⟨c, hc, rfl⟩ := h
      obtain ⟨z, rfl, hz⟩ := absArith_sound hx hy hc he
      exact hz
    · cases h
  · rename_i hop
    exact absCmp_sound (by simpa using hop) hcl hcr h he

/-- `&&` (z = false) and `||` (z = true) in `constant_value`: a known operand `z` decides, else
    any unknown operand makes the result unknown, else the result is `!z` -/
theorem cvAbsorb_sound {z : Bool} {f : Bool → Bool → Bool} (hl : ∀ q, f z q = z)
    (hr : ∀ p, f p z = z) (hn : f (!z) (!z) = !z) {cl cr : CV} {p q : Bool} {x : CVal}
    (hcl : CvAgrees cl (.bool p)) (hcr : CvAgrees cr (.bool q)) (hnc : ¬ (cl = .crash ∨ cr = .crash))
    (h : (if cl = .val (.bool z) ∨ cr = .val (.bool z) then CV.val (.bool z)
      else if cl = .unknown ∨ cr = .unknown then .unknown else .val (.bool !z)) = .val x) :
    CVal.bool (f p q) = x := by
  split at h
  · rename_i hz
    cases h
    rcases hz with hz | hz
    · cases hcl _ hz; rw [hl]
    · cases hcr _ hz; rw [hr]
  · rename_i hz
    split at h <;> cases h
    rename_i hu
    -- both operands are known and differ from `z`
    cases cl with
    | crash => exact absurd (Or.inl rfl) hnc
    | unknown => exact absurd (Or.inl rfl) hu
    | val a =>
      cases cr with
      | crash => exact absurd (Or.inr rfl) hnc
      | unknown => exact absurd (Or.inr rfl) hu
      | val b =>
        cases hcl _ rfl; cases hcr _ rfl
        have hp : p = !z := by cases p <;> cases z <;> first | rfl | exact absurd (Or.inl rfl) hz
        have hq : q = !z := by cases q <;> cases z <;> first | rfl | exact absurd (Or.inr rfl) hz
        rw [hp, hq, hn]

theorem cvBin_sound {op : BinOp} {cl cr : CV} {vl vr v : CVal} {x : CVal}
    (hcl : CvAgrees cl vl) (hcr : CvAgrees cr vr)
    (h : cvBin op cl cr = .val x) (he : evalBin op vl vr = some v) : v = x := by
  unfold cvBin at h
  split at h
  · cases h
  · rename_i hnc
    split at h
    · cases vl <;> cases vr <;> cases he
      exact cvAbsorb_sound (z := false) (fun _ => rfl) Bool.and_false rfl hcl hcr hnc h
    · cases vl <;> cases vr <;> cases he
      exact cvAbsorb_sound (z := true) (fun _ => rfl) Bool.or_true rfl hcl hcr hnc h
    · unfold cvTable at h
      split at h
      · cases hcl _ rfl; cases hcr _ rfl
        rw [applyBin_eq_evalBin, he] at h
        cases h; rfl
      · cases h

theorem absChoice_sound {c t f ty : AType} {b : Bool} {x y : CVal}
    (hc : GammaT c (.bool b)) (ht : GammaT t x) (hf : GammaT f y)
    (h : absChoice c t f = some ty) : GammaT ty (if b then x else y) := by
  unfold absChoice at h
  split at h
  · rename_i b'
    cases h
    cases hc b' rfl
    cases b <;> assumption
  · split at h
    · obtain ⟨x', rfl, hx⟩ := GammaT_int_inv ht
      obtain ⟨y', rfl, hy⟩ := GammaT_int_inv hf
      simp only [Option.map_eq_some_iff] at h
      obtain ⟨r, hr, rfl⟩ := h
      cases b
      · exact choiceHull_sound hr (Or.inr hy)
      · exact choiceHull_sound hr (Or.inl hx)
    · cases h
      obtain ⟨_, rfl⟩ := GammaT_bool_inv ht
      obtain ⟨_, rfl⟩ := GammaT_bool_inv hf
      cases b <;> exact nofun
    · cases h
      obtain ⟨_, rfl⟩ := GammaT_enum_inv ht
      obtain ⟨_, rfl⟩ := GammaT_enum_inv hf
      cases b <;> exact nofun
    · cases h
  · cases h

theorem cvChoice_sound {cc ct cf : CV} {b : Bool} {x y z : CVal}
    (hc : CvAgrees cc (.bool b)) (ht : CvAgrees ct x) (hf : CvAgrees cf y)
    (h : cvChoice cc ct cf = .val z) : (if b then x else y) = z := by
  unfold cvChoice at h
  split at h <;> try cases h
  · rename_i b' t f _ _ _
    have := hc _ rfl
    simp only [CVal.bool.injEq] at this
    subst this
    cases b
    · simp only [Bool.false_eq_true, if_false] at h ⊢; exact hf _ h
    · simp only [if_true] at h ⊢; exact ht _ h

theorem Forall2.gamma_ints : ∀ {avs : List AVal} {l : List Int},
    Forall2 GammaT (avs.map .int) (l.map .int) → Forall2 Gamma avs l
  | [], [], _ => .nil
  | _ :: _, _ :: _, .cons h r => .cons h (gamma_ints r)

theorem absMax_sound {tys : List AType} {ty : AType} {l : List Int} {m : Int}
    (hg : Forall2 GammaT tys (l.map .int)) (h : absMax tys = some ty)
    (hm : listMax l = some m) : GammaT ty (.int m) := by
  unfold absMax at h
  split at h
  · cases h
  · rename_i avs ha
    simp only [Option.map_eq_some_iff] at h
    obtain ⟨a, hmax, rfl⟩ := h
    exact maxFn_sound hmax (.gamma_ints (atypeInts_eq_some ha ▸ hg)) (listMax_isMax hm)

theorem Forall2.agree_ints : ∀ {l' l : List Int},
    Forall2 CvAgrees (l'.map fun v => .val (.int v)) (l.map .int) → l' = l
  | [], [], _ => rfl
  | _ :: _, _ :: _, .cons h r => by cases h _ rfl; rw [agree_ints r]

theorem cvMax_sound {cvs : List CV} {l : List Int} {m : Int} {x : CVal}
    (hg : Forall2 CvAgrees cvs (l.map .int)) (h : cvMax cvs = .val x)
    (hm : listMax l = some m) : CVal.int m = x := by
  unfold cvMax at h
  split at h
  · cases h
  · split at h
    · cases h
    · split at h
      · rename_i l' hl'
        split at h
        · rename_i m' hm'
          cases h
          have := Forall2.agree_ints (cvInts_eq_some hl' ▸ hg)
          subst this
          rw [listMax_eq_maxInts, hm'] at hm; cases hm; rfl
        · cases h
      · cases h
end Emboss.Bounds
