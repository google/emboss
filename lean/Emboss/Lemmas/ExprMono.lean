/-
Monotonicity of `Maybe`-evaluation in the information order (helper lemmas for C01).
-/
import Emboss.Model.View
namespace Emboss.View

/-- Information order on `Maybe`: whatever is known on the left is known, with the same value,
on the right. -/
def OLe {α : Type} (a b : Option α) : Prop := ∀ v, a = some v → b = some v

theorem OLe.refl {α : Type} (a : Option α) : OLe a a := fun _ h => h

theorem OLe.none {α : Type} (b : Option α) : OLe none b := fun _ h => by cases h

theorem OLe.of_some {α : Type} {v : α} {b : Option α} (h : OLe (some v) b) : b = some v := h v rfl

theorem OLe.map {α β : Type} (f : α → β) {a b : Option α} (h : OLe a b) : OLe (a.map f) (b.map f) := by
  intro v hv
  cases a with
  | none => cases hv
  | some x => rw [h x rfl]; exact hv

theorem OLe.isSome {α : Type} {a b : Option α} (h : OLe a b) (ha : a.isSome = true) :
    b.isSome = true := by
  cases a with
  | none => cases ha
  | some x => rw [h x rfl]; rfl

/-- Pointwise order on what an expression can see. -/
structure EnvLe (e1 e2 : Env) : Prop where
  read : ∀ p, OLe (e1.read p) (e2.read p)
  param : ∀ n, OLe (e1.param n) (e2.param n)
  has : ∀ p, OLe (e1.has p) (e2.has p)
  lv : OLe e1.lv e2.lv

theorem EnvLe.refl (e : Env) : EnvLe e e :=
  ⟨fun _ => OLe.refl _, fun _ => OLe.refl _, fun _ => OLe.refl _, OLe.refl _⟩

/-- Pointwise order on operand lists. -/
inductive LLe : List (Option Val) → List (Option Val) → Prop
  | nil : LLe [] []
  | cons {a b : Option Val} {l1 l2 : List (Option Val)} : OLe a b → LLe l1 l2 → LLe (a :: l1) (b :: l2)

theorem maybeInt2_mono (g : Int → Int → Val) {a a' b b' : Option Val}
    (ha : OLe a a') (hb : OLe b b') : OLe (maybeInt2 g a b) (maybeInt2 g a' b') := by
  fun_cases maybeInt2 g a b
  · rw [ha.of_some, hb.of_some]; exact OLe.refl _
  · exact OLe.none _

theorem maybeEq_mono (n : Bool) {a a' b b' : Option Val}
    (ha : OLe a a') (hb : OLe b b') : OLe (maybeEq n a b) (maybeEq n a' b') := by
  fun_cases maybeEq n a b
  · rw [ha.of_some, hb.of_some]; exact OLe.refl _
  · rw [ha.of_some, hb.of_some]; exact OLe.refl _
  · exact OLe.none _

theorem maybeAnd_false_right (a : Option Val) :
    maybeAnd a (some (.bool false)) = some (.bool false) := by
  cases a with
  | none => rfl
  | some x => cases x with
    | int i => rfl
    | bool q => cases q <;> rfl

theorem maybeAnd_mono {a a' b b' : Option Val}
    (ha : OLe a a') (hb : OLe b b') : OLe (maybeAnd a b) (maybeAnd a' b') := by
  fun_cases maybeAnd a b
  · rw [ha.of_some]; exact OLe.refl _
  · rw [hb.of_some, maybeAnd_false_right]; exact OLe.refl _
  · rw [ha.of_some, hb.of_some]; exact OLe.refl _
  · exact OLe.none _

theorem maybeOr_true_right (a : Option Val) :
    maybeOr a (some (.bool true)) = some (.bool true) := by
  cases a with
  | none => rfl
  | some x => cases x with
    | int i => rfl
    | bool q => cases q <;> rfl

theorem maybeOr_mono {a a' b b' : Option Val}
    (ha : OLe a a') (hb : OLe b b') : OLe (maybeOr a b) (maybeOr a' b') := by
  fun_cases maybeOr a b
  · rw [ha.of_some]; exact OLe.refl _
  · rw [hb.of_some, maybeOr_true_right]; exact OLe.refl _
  · rw [ha.of_some, hb.of_some]; exact OLe.refl _
  · exact OLe.none _

theorem maybeChoice_mono {c c' t t' e e' : Option Val}
    (hc : OLe c c') (ht : OLe t t') (he : OLe e e') :
    OLe (maybeChoice c t e) (maybeChoice c' t' e') := by
  fun_cases maybeChoice c t e
  · rw [hc.of_some]; exact ht
  · rw [hc.of_some]; exact he
  · exact OLe.none _

theorem maybeMax_mono {l1 l2 : List (Option Val)} (h : LLe l1 l2) :
    OLe (maybeMax l1) (maybeMax l2) := by
  induction h with
  | nil => exact OLe.refl _
  | @cons a b t1 t2 hab ht ih =>
    intro v hv
    cases a with
    | none => simp [maybeMax] at hv
    | some x =>
      rw [hab x rfl]
      cases x with
      | bool q => simp [maybeMax] at hv
      | int i =>
        cases ht with
        | nil => exact hv
        | @cons a2 b2 u1 u2 h2 hu =>
          have hrec : ∀ r, maybeMax (a2 :: u1) = some r → maybeMax (b2 :: u2) = some r :=
            fun r hr => ih r hr
          simp only [maybeMax] at hv ⊢
          cases hm : maybeMax (a2 :: u1) with
          | none => rw [hm] at hv; cases hv
          | some r => rw [hm] at hv; rw [hrec r hm]; exact hv

theorem LLe.pair {a b : Option Val} {l : List (Option Val)} (h : LLe [a, b] l) :
    ∃ a' b', l = [a', b'] ∧ OLe a a' ∧ OLe b b' := by
  cases h with
  | cons ha h => cases h with
    | cons hb h => cases h; exact ⟨_, _, rfl, ha, hb⟩

theorem LLe.triple {a b c : Option Val} {l : List (Option Val)} (h : LLe [a, b, c] l) :
    ∃ a' b' c', l = [a', b', c'] ∧ OLe a a' ∧ OLe b b' ∧ OLe c c' := by
  cases h with
  | cons ha h =>
    obtain ⟨_, _, rfl, hb, hc⟩ := h.pair
    exact ⟨_, _, _, rfl, ha, hb, hc⟩

theorem applyFn_mono (f : Fn) {l1 l2 : List (Option Val)} (h : LLe l1 l2) :
    OLe (applyFn f l1) (applyFn f l2) := by
  -- the cases are the clauses of `applyFn` in the order written there: 1–7 the arithmetic and
  -- order operators, 8–9 `eq`/`ne`, 10 `and`, 11 `or`, 12 `choice`, 13 `max`, 14 the catch-all
  fun_cases applyFn f l1
  case case14 => exact OLe.none _
  case case13 => exact OLe.map _ (maybeMax_mono h)
  case case12 =>
    obtain ⟨c', t', e', rfl, hc, ht, he⟩ := h.triple
    exact maybeChoice_mono hc ht he
  case case11 =>
    obtain ⟨a', b', rfl, ha, hb⟩ := h.pair
    exact maybeOr_mono ha hb
  case case10 =>
    obtain ⟨a', b', rfl, ha, hb⟩ := h.pair
    exact maybeAnd_mono ha hb
  case case8 | case9 =>
    obtain ⟨a', b', rfl, ha, hb⟩ := h.pair
    exact maybeEq_mono _ ha hb
  all_goals
    obtain ⟨a', b', rfl, ha, hb⟩ := h.pair
    exact maybeInt2_mono _ ha hb

/-- `ρ1` is below `ρ2` on the references of an expression (and on parameters and `this`). -/
structure LeOn (refs : List (List String)) (ρ1 ρ2 : Env) : Prop where
  read : ∀ p ∈ refs, OLe (ρ1.read p) (ρ2.read p)
  has : ∀ p ∈ refs, OLe (ρ1.has p) (ρ2.has p)
  param : ∀ n, OLe (ρ1.param n) (ρ2.param n)
  lv : OLe ρ1.lv ρ2.lv

theorem LeOn.mono {r1 r2 : List (List String)} {ρ1 ρ2 : Env} (h : LeOn r2 ρ1 ρ2)
    (hs : ∀ p ∈ r1, p ∈ r2) : LeOn r1 ρ1 ρ2 :=
  ⟨fun p hp => h.read p (hs p hp), fun p hp => h.has p (hs p hp), h.param, h.lv⟩

theorem LeOn.left {r1 r2 : List (List String)} {ρ1 ρ2 : Env} (h : LeOn (r1 ++ r2) ρ1 ρ2) :
    LeOn r1 ρ1 ρ2 :=
  h.mono fun _ hp => List.mem_append_left _ hp

theorem LeOn.right {r1 r2 : List (List String)} {ρ1 ρ2 : Env} (h : LeOn (r1 ++ r2) ρ1 ρ2) :
    LeOn r2 ρ1 ρ2 :=
  h.mono fun _ hp => List.mem_append_right _ hp

theorem EnvLe.leOn {e1 e2 : Env} (h : EnvLe e1 e2) (refs : List (List String)) : LeOn refs e1 e2 :=
  ⟨fun p _ => h.read p, fun p _ => h.has p, h.param, h.lv⟩

mutual
  theorem eval_le_on {ρ1 ρ2 : Env} : ∀ e : Expr, LeOn (exprRefs e) ρ1 ρ2 → OLe (eval ρ1 e) (eval ρ2 e)
    | .const v, _ => by simp only [eval]; exact OLe.refl _
    | .fold v _, _ => by simp only [eval]; exact OLe.refl _
    | .ref p, h => by simp only [eval]; exact h.read p (List.mem_singleton_self p)
    | .param n, h => by simp only [eval]; exact h.param n
    | .has p, h => by simp only [eval]; exact OLe.map _ (h.has p (List.mem_singleton_self p))
    | .lv, h => by simp only [eval]; exact h.lv
    | .op f args, h => by simp only [eval]; exact applyFn_mono f (evalList_le_on args h)
  theorem evalList_le_on {ρ1 ρ2 : Env} :
      ∀ es : Exprs, LeOn (exprsRefs es) ρ1 ρ2 → LLe (evalList ρ1 es) (evalList ρ2 es)
    | .nil, _ => by simp only [evalList]; exact LLe.nil
    | .cons e es, h => by
      simp only [evalList]
      exact LLe.cons (eval_le_on e h.left) (evalList_le_on es h.right)
end

theorem eval_mono {e1 e2 : Env} (h : EnvLe e1 e2) : ∀ e : Expr, OLe (eval e1 e) (eval e2 e) :=
  fun e => eval_le_on e (h.leOn _)

theorem evalList_mono {e1 e2 : Env} (h : EnvLe e1 e2) :
    ∀ es : Exprs, LLe (evalList e1 es) (evalList e2 es) :=
  fun es => evalList_le_on es (h.leOn _)

theorem evalArgs_le_on {ρ1 ρ2 : Env} :
    ∀ es : Exprs, LeOn (exprsRefs es) ρ1 ρ2 → OLe (evalArgs ρ1 es) (evalArgs ρ2 es)
  | .nil, _ => OLe.refl _
  | .cons e es, hle => by
    intro vs h
    simp only [evalArgs] at h ⊢
    split at h
    · next v vs' h1 h2 =>
      rw [eval_le_on e hle.left _ h1, evalArgs_le_on es hle.right _ h2]
      exact h
    · cases h

theorem evalArgs_mono {e1 e2 : Env} (h : EnvLe e1 e2) (args : Exprs) :
    OLe (evalArgs e1 args) (evalArgs e2 args) :=
  evalArgs_le_on args (h.leOn _)

theorem evalBool_eq_some {env : Env} {e : Expr} {b : Bool} :
    evalBool env e = some b ↔ eval env e = some (.bool b) := by
  unfold evalBool
  cases eval env e with
  | none => simp
  | some v => cases v <;> simp

theorem evalInt_eq_some {env : Env} {e : Expr} {i : Int} :
    evalInt env e = some i ↔ eval env e = some (.int i) := by
  unfold evalInt
  cases eval env e with
  | none => simp
  | some v => cases v <;> simp

theorem evalBool_mono {e1 e2 : Env} (h : EnvLe e1 e2) (e : Expr) :
    OLe (evalBool e1 e) (evalBool e2 e) :=
  fun _ hv => evalBool_eq_some.mpr (eval_mono h e _ (evalBool_eq_some.mp hv))

theorem evalInt_mono {e1 e2 : Env} (h : EnvLe e1 e2) (e : Expr) :
    OLe (evalInt e1 e) (evalInt e2 e) :=
  fun _ hv => evalInt_eq_some.mpr (eval_mono h e _ (evalInt_eq_some.mp hv))

end Emboss.View
