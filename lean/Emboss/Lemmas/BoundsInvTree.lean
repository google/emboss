/-
The invariant at the leaves and its preservation over whole expressions.
-/
import Emboss.Lemmas.BoundsInvOps
namespace Emboss.Bounds
open ExtInt

theorem leafRange_invS (k : LeafKind) (size : Option Int) : InvS (leafRange k size) := by
  rcases leafRange_cases k size with ⟨e, -, -⟩ | ⟨lo, hi, hlt, e, -⟩
  · rw [e]; exact InvS_of_InvOk (by decide)
  · rw [e]
    exact Or.inr ⟨1, 0, rfl, Nat.one_pos, rfl, Int.le_refl 0, Int.zero_lt_one,
      fun x _ => Int.emod_one x, fun y _ => Int.emod_one y, nofun, nofun,
      fun h => by cases h; omega, fun x y hx hy => by cases hx; cases hy; omega⟩

theorem leafRange_invOk (k : LeafKind) (size : Option Int) : InvOk (leafRange k size) = true :=
  InvOk_of_InvS (leafRange_invS k size)

theorem boundFn_invS (up : Bool) (a : AVal) : InvS (boundFn up a) := by
  rcases fin_or_inf (if up then a.max else a.min) with ⟨c, hv⟩ | hv
  · rw [boundFn_fin hv]; exact Or.inl ⟨c, rfl⟩
  · rw [boundFn_inf hv]; exact InvS_of_InvOk (by decide)

/-! ### whole expressions -/

/-- the invariant on expression types (nothing to say about booleans / enums) -/
def InvT : AType → Prop
  | .int a => InvS a
  | _ => True

theorem InvT_iff {ty : AType} : InvOkT ty = true ↔ InvT ty := by
  cases ty <;> simp [InvOkT, InvT, InvOk_iff]

theorem absCmp_bool {op : BinOp} {cl cr : CV} {ty : AType} (h : absCmp op cl cr = some ty) :
    ∃ b, ty = .bool b := by
  unfold absCmp at h
  split at h
  · cases h
  · cases h; exact ⟨_, rfl⟩
  · split at h
    · cases h
    · cases h; exact ⟨_, rfl⟩
    · split at h
      · cases h; exact ⟨_, rfl⟩
      · cases h

theorem absArith_inv {op : BinOp} (hop : isArith op = true) {a b : AVal} (ha : InvS a)
    (hb : InvS b) : ∃ z, absArith op a b = some z ∧ InvS z := by
  cases op <;> cases hop
  · exact additive_inv false ha hb
  · exact additive_inv true ha hb
  · exact multiplicative_inv ha hb

theorem absBin_inv {op : BinOp} {l r ty : AType} {cl cr : CV} (hl : InvT l) (hr : InvT r)
    (h : absBin op l r cl cr = some ty) : InvT ty := by
  unfold absBin at h
  split at h
  · rename_i hop
    split at h
    · obtain ⟨z, hz, rfl⟩ := Option.map_eq_some_iff.mp h
      obtain ⟨z', hz', hi⟩ := absArith_inv hop hl hr
      cases hz.symm.trans hz'
      exact hi
    · cases h
  · obtain ⟨b, rfl⟩ := absCmp_bool h
    trivial

theorem absChoice_inv {c t f ty : AType} (ht : InvT t) (hf : InvT f)
    (h : absChoice c t f = some ty) : InvT ty := by
  unfold absChoice at h
  split at h
  · cases h
    split
    · exact ht
    · exact hf
  · split at h
    · rename_i a b
      simp only [Option.map_eq_some_iff] at h
      obtain ⟨z, hz, rfl⟩ := h
      simp only [InvT] at ht hf ⊢
      obtain ⟨a', h1, h2⟩ := choiceHull_inv ht hf
      rw [h1] at hz; cases hz; exact h2
    · cases h; trivial
    · cases h; trivial
    · cases h
  · cases h

theorem absMax_inv {tys : List AType} {ty : AType} (hall : ∀ t ∈ tys, InvT t)
    (h : absMax tys = some ty) : InvT ty := by
  unfold absMax at h
  split at h
  · cases h
  · rename_i l hl
    simp only [Option.map_eq_some_iff] at h
    obtain ⟨z, hz, rfl⟩ := h
    have hne : l ≠ [] := by
      intro e; rw [e] at hz; simp [maxFn] at hz
    obtain ⟨r, h1, h2⟩ := maxFn_inv hne
      (fun a ha => hall (.int a) (atypeInts_eq_some hl ▸ List.mem_map_of_mem ha))
    rw [h1] at hz; cases hz; exact h2

theorem absBound_inv {up : Bool} {a ty : AType} (h : absBound up a = some ty) : InvT ty := by
  unfold absBound at h
  split at h
  · cases h; exact boundFn_invS _ _
  · cases h

mutual
theorem inv_aux : (e : Expr) → GivenOk e = true →
    ∀ ty, abs e = some ty → InvT ty
  | .const c, _ => fun _ h => by cases h; exact Or.inl ⟨c, rfl⟩
  | .bconst _, _ => fun _ h => by cases h; trivial
  | .econst _, _ => fun _ h => by cases h; trivial
  | .ileaf _ k size, _ => fun _ h => by
    cases h
    exact leafRange_invS k size
  | .ssize _, _ => fun _ h => by
    cases h
    exact InvS_of_InvOk (by decide)
  | .given _ a, hg => fun _ h => by
    cases h
    simp only [GivenOk] at hg
    exact InvS_of_InvOk hg
  | .bleaf _, _ => fun _ h => by cases h; trivial
  | .eleaf _, _ => fun _ h => by cases h; trivial
  | .bin op l r, hg => fun ty h => by
    simp only [GivenOk, Bool.and_eq_true] at hg
    obtain ⟨a, b, ha, hb, h⟩ := abs_bin_some h
    exact absBin_inv (inv_aux l hg.1 a ha) (inv_aux r hg.2 b hb) h
  | .choice c t f, hg => fun ty h => by
    simp only [GivenOk, Bool.and_eq_true] at hg
    obtain ⟨a, b, d, _, hb, hd, h⟩ := abs_choice_some h
    exact absChoice_inv (inv_aux t hg.1.2 b hb) (inv_aux f hg.2 d hd) h
  | .max args, hg => fun ty h => by
    obtain ⟨l, hl, h⟩ := abs_max_some h
    exact absMax_inv (invList_aux args hg l hl) h
  | .upper e, _ => fun ty h => by
    simp only [abs] at h
    split at h
    · exact absBound_inv h
    · cases h
  | .lower e, _ => fun ty h => by
    simp only [abs] at h
    split at h
    · exact absBound_inv h
    · cases h
  | .cref e, hg => inv_aux e hg
  | .vref e, hg => inv_aux e hg
  | .present _ c, hg => inv_aux c hg
theorem invList_aux : (es : List Expr) → GivenOkList es = true →
    ∀ tys, absList es = some tys → ∀ t ∈ tys, InvT t
  | [], _ => fun _ h t ht => by cases h; cases ht
  | e :: es, hg => fun tys h t ht => by
    simp only [GivenOkList, Bool.and_eq_true] at hg
    obtain ⟨a, l, ha, hl, rfl⟩ := absList_cons_some h
    rcases List.mem_cons.mp ht with rfl | hm
    · exact inv_aux e hg.1 _ ha
    · exact invList_aux es hg.2 l hl t hm
end

/-! ### for the list halves of the inductions in BoundsTight and BoundsTyped

There the annotations of an argument list are kept in the form `avs.map .int`. -/

theorem absList_ne_nil {args : List Expr} {avs : List AVal} (hne : (!args.isEmpty) = true)
    (habs : absList args = some (avs.map .int)) : avs ≠ [] := by
  rintro rfl
  cases args with
  | nil => cases hne
  | cons x xs => simp only [absList] at habs; split at habs <;> cases habs

end Emboss.Bounds
