/-
Lemmas about the fixed-width arithmetic model (`Emboss.Model.Bits`): when the wrapping
operations are exact, `MaskToNBits`, the step of a loop that fills a word chunk by chunk,
`LeastWidthInteger`, signed reinterpretation and the `static_cast` round trip, single-bit masks.
-/
import Emboss.Model.Bits
namespace Emboss.Bits

theorem wrap_of_lt {W x : Nat} (h : x < 2 ^ W) : wrap W x = x := Nat.mod_eq_of_lt h

theorem wrap_lt (W x : Nat) : wrap W x < 2 ^ W := Nat.mod_lt _ (Nat.two_pow_pos W)

theorem lt_pow_of_lt_of_le {x a b : Nat} (h : x < 2 ^ a) (hab : a ≤ b) : x < 2 ^ b :=
  Nat.lt_of_lt_of_le h (Nat.pow_le_pow_right Nat.two_pos hab)

theorem le_arithW (W : Nat) : W ≤ arithW W := by unfold arithW; split <;> omega

theorem shl_eq {W x n : Nat} (h : x * 2 ^ n < 2 ^ W) : shl W x n = x * 2 ^ n := by
  unfold shl; rw [Nat.shiftLeft_eq]; exact wrap_of_lt h

theorem shl_one {W n : Nat} (h : n < W) : shl W 1 n = 2 ^ n := by
  rw [shl_eq] <;> simp [Nat.pow_lt_pow_right Nat.one_lt_two h]

theorem subW_eq {W a b : Nat} (ha : a < 2 ^ W) (hb : b ≤ a) : subW W a b = a - b := by
  unfold subW
  have hb' : b < 2 ^ W := Nat.lt_of_le_of_lt hb ha
  rw [wrap_of_lt ha, wrap_of_lt hb']
  have : a + (2 ^ W - b) = (a - b) + 2 ^ W := by omega
  rw [this]; unfold wrap; rw [Nat.add_mod_right]; exact Nat.mod_eq_of_lt (by omega)

theorem notW_eq {W x : Nat} (h : x < 2 ^ W) : notW W x = 2 ^ W - 1 - x := by
  unfold notW; rw [wrap_of_lt h]

/-- `MaskToNBits` keeps exactly the low `bits` bits (for every `bits ≤ W`, including the
guarded case `bits = W` where a shift by the full width would be undefined). -/
theorem maskToNBits_eq {W value bits : Nat} (hv : value < 2 ^ W) (hb : bits ≤ W) :
    maskToNBits W value bits = value % 2 ^ bits := by
  unfold maskToNBits
  split
  · rename_i hlt
    have hA : bits < arithW W := Nat.lt_of_lt_of_le hlt (le_arithW W)
    rw [shl_one hA, subW_eq (Nat.pow_lt_pow_right Nat.one_lt_two hA) (Nat.two_pow_pos bits), Nat.and_two_pow_sub_one_eq_mod]
    exact wrap_of_lt (Nat.lt_of_le_of_lt (Nat.mod_le _ _) hv)
  · have : bits = W := by omega
    subst this; exact (Nat.mod_eq_of_lt hv).symm

theorem maskToNBits_of_lt {W v k : Nat} (hv : v < 2 ^ k) (hk : k ≤ W) : maskToNBits W v k = v := by
  rw [maskToNBits_eq (lt_pow_of_lt_of_le hv hk) hk, Nat.mod_eq_of_lt hv]

theorem maskToNBits_ge {W value bits : Nat} (hb : W ≤ bits) : maskToNBits W value bits = value := by
  unfold maskToNBits; rw [if_neg (by omega)]

theorem or_eq_add_shift {r b n : Nat} (hr : r < 2 ^ n) : r ||| b * 2 ^ n = r + b * 2 ^ n := by
  rw [Nat.or_comm, Nat.add_comm, Nat.mul_comm, Nat.two_pow_add_eq_or_of_lt hr]

/-- `result |= chunk << n` in a loop that fills a word from the low end: a chunk of `s` bits
placed above the `n` bits filled so far is added, and nothing is lost to the width. -/
theorem wrap_or_shl {W n s r b : Nat} (hr : r < 2 ^ n) (hb : b < 2 ^ s) (hW : n + s ≤ W) :
    wrap W (r ||| shl (arithW W) b n) = r + b * 2 ^ n ∧ r + b * 2 ^ n < 2 ^ (n + s) := by
  have hlt : r + b * 2 ^ n < 2 ^ (n + s) :=
    calc r + b * 2 ^ n < 2 ^ n + b * 2 ^ n := Nat.add_lt_add_right hr _
      _ = (b + 1) * 2 ^ n := by rw [Nat.add_mul, Nat.one_mul, Nat.add_comm]
      _ ≤ 2 ^ s * 2 ^ n := Nat.mul_le_mul_right _ hb
      _ = 2 ^ (n + s) := by rw [Nat.pow_add, Nat.mul_comm]
  have hltW := lt_pow_of_lt_of_le hlt hW
  rw [shl_eq (lt_pow_of_lt_of_le (Nat.lt_of_le_of_lt (Nat.le_add_left _ _) hltW) (le_arithW W)),
    or_eq_add_shift hr, wrap_of_lt hltW]
  exact ⟨rfl, hlt⟩

theorem leastWidth_spec (k : Nat) :
    (k ≤ 8 ∧ leastWidth k = 8) ∨ (8 < k ∧ k ≤ 16 ∧ leastWidth k = 16) ∨
      (16 < k ∧ k ≤ 32 ∧ leastWidth k = 32) ∨ (32 < k ∧ leastWidth k = 64) := by
  unfold leastWidth
  repeat' split
  all_goals omega

theorem leastWidth_cases (k : Nat) :
    leastWidth k = 8 ∨ leastWidth k = 16 ∨ leastWidth k = 32 ∨ leastWidth k = 64 := by
  have := leastWidth_spec k; omega

theorem le_leastWidth {k : Nat} (h : k ≤ 64) : k ≤ leastWidth k := by
  have := leastWidth_spec k; omega

theorem leastWidth_div_mul (k : Nat) : leastWidth k / 8 * 8 = leastWidth k := by
  have := leastWidth_spec k; omega

theorem leastWidth_mono {a b : Nat} (h : a ≤ b) : leastWidth a ≤ leastWidth b := by
  have := leastWidth_spec a; have := leastWidth_spec b; omega

/-! ### Signed reinterpretation and conversion -/

theorem toSigned_eq_bmod (W u : Nat) : toSigned W u = (u : Int).bmod (2 ^ W) := by
  unfold toSigned wrap
  rw [Int.bmod_def, Int.natCast_emod]
  cases W with
  | zero => exact ite_congr (propext (by omega)) (fun _ => rfl) (fun _ => rfl)
  | succ n =>
    rw [Nat.pow_succ, Nat.add_sub_cancel]
    exact ite_congr (propext (by omega)) (fun _ => rfl) (fun _ => rfl)

theorem toSigned_of_lt {W u : Nat} (h : u < 2 ^ (W - 1)) : toSigned W u = (u : Int) := by
  unfold toSigned
  rw [wrap_of_lt (lt_pow_of_lt_of_le h (Nat.sub_le W 1)), if_pos h]

theorem toSigned_of_ge {W u : Nat} (h : 2 ^ (W - 1) ≤ u) (hu : u < 2 ^ W) :
    toSigned W u = (u : Int) - (2 ^ W : Nat) := by
  unfold toSigned
  rw [wrap_of_lt hu, if_neg (by omega)]

theorem natCast_ofInt (W : Nat) (x : Int) : ((ofInt W x : Nat) : Int) = x % ((2 ^ W : Nat) : Int) :=
  Int.toNat_of_nonneg (Int.emod_nonneg x (Int.ne_of_gt (Int.natCast_pos.mpr (Nat.two_pow_pos W))))

theorem ofInt_lt (W : Nat) (x : Int) : ofInt W x < 2 ^ W := by
  have := natCast_ofInt W x
  have := Int.emod_lt_of_pos x (Int.natCast_pos.mpr (Nat.two_pow_pos W))
  omega

theorem ofInt_of_nonneg {W : Nat} {x : Int} (h0 : 0 ≤ x) (h : x < ((2 ^ W : Nat) : Int)) :
    ofInt W x = x.toNat := by
  unfold ofInt; rw [Int.emod_eq_of_lt h0 h]

theorem ofInt_of_nonneg_of_lt {W w : Nat} (hwW : w ≤ W) {x : Int} (h0 : 0 ≤ x)
    (hx : x < ((2 ^ w : Nat) : Int)) : ofInt W x < 2 ^ w ∧ ((ofInt W x : Nat) : Int) = x := by
  rw [ofInt_of_nonneg h0 (by have := Nat.pow_le_pow_right Nat.two_pos hwW; omega)]; omega

theorem ofInt_natCast {W n : Nat} (h : n < 2 ^ W) : ofInt W (n : Int) = n :=
  ofInt_of_nonneg (Int.natCast_nonneg n) (Int.ofNat_lt.mpr h)

theorem toSigned_ofInt {W : Nat} (hW : 0 < W) {x : Int} (hlo : -((2 ^ (W - 1) : Nat) : Int) ≤ x)
    (hhi : x < ((2 ^ (W - 1) : Nat) : Int)) : toSigned W (ofInt W x) = x := by
  have := Nat.two_pow_pred_mul_two hW
  rw [toSigned_eq_bmod, natCast_ofInt, Int.emod_bmod]
  exact Int.bmod_eq_of_le_mul_two (by omega) (by omega)

theorem ofInt_toSigned {W v : Nat} (hv : v < 2 ^ W) : ofInt W (toSigned W v) = v := by
  unfold ofInt
  rw [toSigned_eq_bmod, Int.bmod_emod, ← Int.natCast_emod, Int.toNat_natCast, Nat.mod_eq_of_lt hv]

theorem maskToNBits_ofInt {BW k : Nat} (hk : k ≤ BW) (x : Int) :
    maskToNBits BW (ofInt BW x) k = ofInt k x := by
  rw [maskToNBits_eq (ofInt_lt BW x) hk]
  apply Int.ofNat_inj.mp
  rw [Int.natCast_emod, natCast_ofInt, natCast_ofInt]
  exact Int.emod_emod_of_dvd x (Int.natCast_dvd_natCast.mpr (Nat.pow_dvd_pow 2 hk))

/-! ### Single bits and masks -/

theorem pow_sub_one_mod {s W : Nat} (h : s ≤ W) : (2 ^ W - 1) % 2 ^ s = 2 ^ s - 1 := by
  apply Nat.eq_of_testBit_eq; intro i
  rw [Nat.testBit_mod_two_pow, Nat.testBit_two_pow_sub_one, Nat.testBit_two_pow_sub_one]
  by_cases hi : i < s <;> simp [hi]; omega

theorem and_two_pow_of_lt {x k : Nat} (hx : x < 2 ^ (k + 1)) :
    x &&& 2 ^ k = if 2 ^ k ≤ x then 2 ^ k else 0 := by
  have hp := Nat.two_pow_pos k
  rw [Nat.pow_succ] at hx
  apply Nat.eq_of_testBit_eq; intro i
  rw [Nat.testBit_and, Nat.testBit_two_pow]
  by_cases hik : k = i
  · subst hik
    have : x / 2 ^ k = if 2 ^ k ≤ x then 1 else 0 := by
      split
      · exact Nat.div_eq_of_lt_le (by omega) (by omega)
      · exact Nat.div_eq_of_lt (by omega)
    rw [Nat.testBit_eq_decide_div_mod_eq, this]
    split <;> simp
  · simp [hik]; split <;> simp [hik]

end Emboss.Bits
