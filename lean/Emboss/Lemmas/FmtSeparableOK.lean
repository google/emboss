/-
Separability (`C11_render_separable`): the certificate check `glueCertOK` over the interned
registry and the tables of Generated/FmtGlue.lean, evaluated by the kernel, and its reading on
the table of strings (`alignedOK_sound`, `pairCode_mem`).
-/
import Emboss.Spec.FmtGlueCert
import Emboss.Generated.FmtGlue
namespace Emboss.Fmt
open Emboss.Generated.FmtTable Emboss.Generated.FmtGlue

theorem alignedOK_sound (syms : List String) :
    ∀ (qs : List (String × String)) (ns : List (Option (Nat × Nat))),
      alignedOK syms qs ns = true → ∀ p, some p ∈ ns →
        ∃ a b, syms[p.1]? = some a ∧ syms[p.2]? = some b ∧ (a, b) ∈ qs
  | _, [], _, _, hp => nomatch hp
  | [], _ :: _, h, _, _ => by simp [alignedOK] at h
  | _ :: qs, none :: ns, h, p, hp => by
    obtain ⟨a, b, ha, hb, hm⟩ := alignedOK_sound syms qs ns (by simpa only [alignedOK] using h) p
      (by simpa using hp)
    exact ⟨a, b, ha, hb, .tail _ hm⟩
  | q :: qs, some p0 :: ns, h, p, hp => by
    simp only [alignedOK, Bool.and_eq_true, beq_iff_eq] at h
    rcases List.mem_cons.1 hp with hp | hp
    · cases hp
      exact ⟨q.1, q.2, h.1.1, h.1.2, .head _⟩
    · obtain ⟨a, b, ha, hb, hm⟩ := alignedOK_sound syms qs ns h.2 p hp
      exact ⟨a, b, ha, hb, .tail _ hm⟩

theorem pairCode_mem (allowed : List (Nat × Nat)) (hsmall : ∀ q ∈ allowed, q.2 < 65536)
    (p : Nat × Nat) (hp : p.2 < 65536) (h : (allowed.map pairCode).contains (pairCode p) = true) :
    p ∈ allowed := by
  simp only [List.contains_iff_mem, List.mem_map] at h
  obtain ⟨q, hq, hc⟩ := h
  have h2 := hsmall q hq
  have : q = p := by
    unfold pairCode at hc
    have h1 : q.1 = p.1 := by omega
    have h3 : q.2 = p.2 := by omega
    exact Prod.ext h1 h3
  rw [← this]; exact hq

/-! ### Sets of symbols as bit masks

`edgeClosedB` is `edgeClosed` on masks (`Nat.testBit`, `|||`, `&&&`) instead of linear searches;
`edgeClosed_of_bits` transports its verdict.  Nothing is proved about the packed table `pack`:
`rowsOK` compares its rows with the table's (whose keys it checks to be distinct). -/

def bits (l : List Nat) : Nat := l.foldr (fun i a => a ||| 1 <<< i) 0

theorem testBit_bits (l : List Nat) (i : Nat) : (bits l).testBit i = l.contains i := by
  induction l with
  | nil => simp [bits]
  | cons x l ih =>
    have : bits (x :: l) = bits l ||| 1 <<< x := rfl
    rw [this, Nat.testBit_or, ih, Nat.one_shiftLeft, Nat.testBit_two_pow, List.contains_cons,
      Bool.or_comm]
    congr 1
    exact Bool.eq_iff_iff.2 (by simp only [decide_eq_true_eq, beq_iff_eq]; exact eq_comm)

theorem mem_addAll {x : Nat} : ∀ (l acc : List Nat), x ∈ addAll acc l ↔ x ∈ acc ∨ x ∈ l
  | [], acc => by simp [addAll]
  | y :: l, acc => by
    have : addAll acc (y :: l) = addAll (if acc.contains y then acc else acc ++ [y]) l := rfl
    rw [this, mem_addAll l]
    split
    · rename_i h
      have hy : y ∈ acc := List.contains_iff_mem.1 h
      -- `acc` is kept, and `x = y` already gives `x ∈ acc`
      grind
    · simp [or_assoc]

theorem bits_addAll (a l : List Nat) : bits (addAll a l) = bits a ||| bits l := by
  apply Nat.eq_of_testBit_eq
  intro i
  rw [Nat.testBit_or, testBit_bits, testBit_bits, testBit_bits, Bool.eq_iff_iff]
  simp [mem_addAll]

theorem subsetOf_of_bits {a b : List Nat} (h : bits a &&& bits b = bits a) : subsetOf a b = true := by
  simp only [subsetOf, List.all_eq_true]
  intro x hx
  have := congrArg (·.testBit x) h
  simp only [Nat.testBit_and, testBit_bits, List.contains_iff_mem.2 hx, Bool.true_and] at this
  exact this

theorem isNonterminal_eq (g : Gram Nat) (s : Nat) :
    isNonterminal g s = (bits (g.map (·.1))).testBit s := by
  rw [testBit_bits, isNonterminal, List.contains_eq_any_beq, List.any_map]
  congr 1; funext p; exact Bool.eq_iff_iff.2 (by simp only [beq_iff_eq, Function.comp]; exact eq_comm)

/-- A FIRST / LAST table in one number: the set of symbol `s` in bits `256 s … 256 s + 255`. -/
def pack (m : List (Nat × List Nat)) : Nat := m.foldr (fun p a => a ||| bits p.2 <<< (p.1 * 256)) 0

def row (m : List (Nat × List Nat)) (s : Nat) : Nat :=
  if (bits (m.map (·.1))).testBit s then (pack m >>> (s * 256)) % 2 ^ 256 else 0

/-- No number twice (`seen`: those met so far). -/
def distinctB : List Nat → Nat → Bool
  | [], _ => true
  | k :: ks, seen => !seen.testBit k && distinctB ks (seen ||| 1 <<< k)

theorem distinctB_not_seen : ∀ (ks : List Nat) (seen : Nat), distinctB ks seen = true →
    ∀ k ∈ ks, seen.testBit k = false
  | k :: ks, seen, h, k', hk' => by
    simp only [distinctB, Bool.and_eq_true, Bool.not_eq_true'] at h
    rcases List.mem_cons.1 hk' with rfl | hk'
    · exact h.1
    · have := distinctB_not_seen ks _ h.2 k' hk'
      rw [Nat.testBit_or, Bool.or_eq_false_iff] at this
      exact this.1

theorem lookupSet_of_distinct : ∀ (m : List (Nat × List Nat)) (seen : Nat),
    distinctB (m.map (·.1)) seen = true → ∀ p ∈ m, lookupSet m p.1 = p.2
  | q :: m, seen, h, p, hp => by
    simp only [List.map_cons, distinctB, Bool.and_eq_true] at h
    rcases List.mem_cons.1 hp with rfl | hp
    · simp [lookupSet]
    · have hne : (q.1 == p.1) = false := by
        have := distinctB_not_seen _ _ h.2 p.1 (List.mem_map.2 ⟨p, hp, rfl⟩)
        rw [Nat.testBit_or, Bool.or_eq_false_iff, Nat.one_shiftLeft, Nat.testBit_two_pow] at this
        simpa using this.2
      have ih := lookupSet_of_distinct m _ h.2 p hp
      simp only [lookupSet, List.find?_cons, hne] at ih ⊢
      exact ih

def rowsOK (m : List (Nat × List Nat)) : Bool :=
  distinctB (m.map (·.1)) 0 && m.all (fun p => row m p.1 == bits p.2)

theorem row_eq {m : List (Nat × List Nat)} (h : rowsOK m = true) (s : Nat) :
    row m s = bits (lookupSet m s) := by
  rw [rowsOK, Bool.and_eq_true] at h
  cases hk : (bits (m.map (·.1))).testBit s with
  | true =>
    rw [testBit_bits, List.contains_iff_mem] at hk
    obtain ⟨p, hp, rfl⟩ := List.mem_map.1 hk
    rw [lookupSet_of_distinct m 0 h.1 p hp]
    exact eq_of_beq (List.all_eq_true.1 h.2 p hp)
  | false =>
    have hnone : m.find? (fun p => p.1 == s) = none := by
      rw [List.find?_eq_none]
      intro p hp hps
      rw [testBit_bits, List.contains_iff_mem.2 (List.mem_map.2 ⟨p, hp, eq_of_beq hps⟩)] at hk
      cases hk
    simp only [row, hk, lookupSet, hnone]
    rfl

/-- `firstOfSeq` on masks (`nt`: the nonterminals, `nsb`: the nullable symbols). -/
def firstB (nt nsb : Nat) (m : List (Nat × List Nat)) : List Nat → Nat
  | [] => 0
  | s :: rest =>
    let here := if nt.testBit s then row m s else 1 <<< s
    if nsb.testBit s then here ||| firstB nt nsb m rest else here

def edgeClosedB (g : Gram Nat) (ns : List Nat) (rev : Bool) (m : List (Nat × List Nat)) : Bool :=
  g.all (fun p =>
    let f := firstB (bits (g.map (·.1))) (bits ns) m (if rev then p.2.reverse else p.2)
    f &&& row m p.1 == f)

theorem bits_firstOfSeq {g : Gram Nat} {ns : List Nat} {m : List (Nat × List Nat)}
    (hm : rowsOK m = true) : ∀ rhs : List Nat,
    bits (firstOfSeq g ns m rhs) = firstB (bits (g.map (·.1))) (bits ns) m rhs
  | [] => rfl
  | s :: rest => by
    have ih := bits_firstOfSeq (g := g) (ns := ns) hm rest
    have hs : bits [s] = 1 <<< s := Nat.zero_or _
    simp only [firstOfSeq, firstB, isNonterminal_eq, testBit_bits ns]
    by_cases h1 : (bits (g.map (·.1))).testBit s = true <;> by_cases h2 : ns.contains s = true <;>
      simp only [h1, h2, if_true, if_false, bits_addAll, ih, row_eq hm, hs, Bool.false_eq_true]

theorem edgeClosed_of_bits {g : Gram Nat} {ns : List Nat} {m : List (Nat × List Nat)} {rev : Bool}
    (hm : rowsOK m = true) (h : edgeClosedB g ns rev m = true) : edgeClosed g ns rev m = true := by
  simp only [edgeClosed, edgeClosedB, List.all_eq_true] at h ⊢
  intro p hp
  apply subsetOf_of_bits
  rw [bits_firstOfSeq hm, ← row_eq hm p.1]
  exact eq_of_beq (h p hp)

/-- The index of the terminal `"-"` in `symbols`. -/
def minusN : Nat := symbols.idxOf minusSym

def allowedN : List (Nat × Nat) := allowedGluedN.filterMap id

/-- One kernel evaluation over the regenerated tables (the second and third fact are for
`render_separable_nonvacuous`). -/
theorem glue_eval :
    let tbl := resolvedN formattersN
    let g : Gram Nat := tbl.map (fun e => (e.1, e.2.1))
    symbols[minusN]? = some minusSym ∧
    (minusN, symbols.idxOf "Number") ∈ pairsFrom minusN tbl nsN fsN lsN leadN ∧
    (minusSym, minusSym) ∉ allowedGlued ∧
    alignedOK symbols allowedGlued allowedGluedN = true ∧ (∀ q ∈ allowedN, q.2 < 65536) ∧
    nullableClosed g nsN = true ∧
    rowsOK fsN = true ∧ rowsOK lsN = true ∧
    edgeClosedB g nsN false fsN = true ∧ edgeClosedB g nsN true lsN = true ∧
    leadSound tbl nsN leadN = true ∧
    (pairsFrom minusN tbl nsN fsN lsN leadN).all (fun p =>
      decide (p.2 < 65536) && (bits (allowedN.map pairCode)).testBit (pairCode p)) = true := by
  decide +kernel

theorem glue_cert_ok :
    glueCertOK minusN (resolvedN formattersN) nsN fsN lsN leadN allowedN = true := by
  obtain ⟨-, -, -, -, -, hnull, hF, hL, hf, hl, hlead, hpairs⟩ := glue_eval
  simp only [glueCertOK, Bool.and_eq_true]
  refine ⟨⟨⟨⟨hnull, edgeClosed_of_bits hF hf⟩, edgeClosed_of_bits hL hl⟩, hlead⟩, ?_⟩
  simpa only [testBit_bits] using hpairs

end Emboss.Fmt
