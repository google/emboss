/-
C14 — error locations.  The located attribute check `checkAttrListL` erases to `checkAttrList`
and points into the list it was given; the located field check `verifyFieldL` erases to
`verifyByteOrder ++ verifyRequires`, a `[requires]` error pointing at the field's own attribute.
-/
import Emboss.Model.ConstraintsLoc
namespace Emboss.Constraints

theorem seenAt_none (key : String × Bool) (seen : List ((String × Bool) × Nat)) :
    seenAt key seen = none ↔ key ∉ seen.map (·.1) := by
  induction seen with
  | nil => simp [seenAt]
  | cons h t ih =>
    obtain ⟨k, j⟩ := h
    simp only [seenAt, List.map_cons, List.mem_cons, not_or]
    by_cases hk : k = key
    · simp [hk]
    · simp only [hk, if_false, ih]
      constructor
      · intro h; exact ⟨fun e => hk e.symm, h⟩
      · intro h; exact h.2

theorem seenAt_some {key : String × Bool} {seen : List ((String × Bool) × Nat)} {j : Nat}
    (h : seenAt key seen = some j) : (key, j) ∈ seen := by
  induction seen with
  | nil => cases h
  | cons hd t ih =>
    by_cases hk : hd.1 = key
    · obtain ⟨k, j'⟩ := hd
      cases hk
      simp only [seenAt, if_true, Option.some.injEq] at h
      simp [h]
    · simp only [seenAt, hk, if_false] at h
      exact List.mem_cons_of_mem _ (ih h)

theorem checkAttrListL_kinds (specs : List (String × Bool)) (attrs : List Attr) :
    ∀ (seen : List ((String × Bool) × Nat)) (i : Nat),
      (checkAttrListL specs seen i attrs).map (·.k) = checkAttrList specs (seen.map (·.1)) attrs := by
  induction attrs with
  | nil => intro seen i; rfl
  | cons a rest ih =>
    intro seen i
    simp only [checkAttrListL, checkAttrList]
    by_cases hb : a.backEnd ≠ ""
    · rw [if_pos hb, if_pos hb]; exact ih seen (i + 1)
    · rw [if_neg hb, if_neg hb]
      cases hs : seenAt (a.name, a.isDefault) seen with
      | some j =>
        have hm : (a.name, a.isDefault) ∈ seen.map (·.1) :=
          List.mem_map_of_mem (f := (·.1)) (seenAt_some hs)
        simp only [hm, if_true, List.map_cons, ih]
      | none =>
        simp only [(seenAt_none _ _).1 hs, if_false, List.map_append, ih, List.map_cons]
        congr 1
        by_cases hsp : (a.name, a.isDefault) ∈ specs
        · simp [hsp, Function.comp_def]
        · rw [if_neg hsp, if_neg hsp]
          cases a.isDefault <;> rfl

theorem checkAttrListL_where (specs : List (String × Bool)) (attrs : List Attr) :
    ∀ (seen : List ((String × Bool) × Nat)) (i : Nat), (∀ s ∈ seen, s.2 < i) →
      ∀ e ∈ checkAttrListL specs seen i attrs,
        i ≤ e.idx ∧ e.idx < i + attrs.length ∧ (∀ j, e.note = some j → j < e.idx) := by
  induction attrs with
  | nil => intro _ _ _ e he; cases he
  | cons a rest ih =>
    intro seen i hseen e he
    simp only [checkAttrListL] at he
    -- an error of the tail lies in the window of `ih`, which starts one further (`hrest`); the
    -- error of the head has index `i`, and its note comes from `seen`, whose indices are below `i`
    have hrest : ∀ seen', (∀ s ∈ seen', s.2 < i + 1) → e ∈ checkAttrListL specs seen' (i + 1) rest →
        i ≤ e.idx ∧ e.idx < i + (a :: rest).length ∧ (∀ j, e.note = some j → j < e.idx) := by
      intro seen' hs' h
      have := ih seen' (i + 1) hs' e h
      simp only [List.length_cons]
      exact ⟨by omega, by omega, this.2.2⟩
    have hseen1 : ∀ s ∈ seen, s.2 < i + 1 := fun s hs => Nat.lt_succ_of_lt (hseen s hs)
    by_cases hb : a.backEnd ≠ ""
    · rw [if_pos hb] at he; exact hrest seen hseen1 he
    · rw [if_neg hb] at he
      cases hs : seenAt (a.name, a.isDefault) seen with
      | some j =>
        simp only [hs, List.mem_cons] at he
        rcases he with rfl | he
        · exact ⟨Nat.le_refl _, Nat.lt_add_of_pos_right (Nat.succ_pos _),
            fun j' hj' => by cases hj'; exact hseen _ (seenAt_some hs)⟩
        · exact hrest seen hseen1 he
      | none =>
        simp only [hs, List.mem_append] at he
        rcases he with he | he
        · have hi : e.idx = i ∧ e.note = none := by
            split at he
            · simp only [List.mem_map] at he
              obtain ⟨k, _, rfl⟩ := he; exact ⟨rfl, rfl⟩
            · split at he <;>
                (simp only [List.mem_singleton] at he; rw [he]; exact ⟨rfl, rfl⟩)
          rw [hi.1, hi.2]
          exact ⟨Nat.le_refl _, Nat.lt_add_of_pos_right (Nat.succ_pos _), nofun⟩
        · refine hrest _ (fun s hs' => ?_) he
          rcases List.mem_cons.1 hs' with rfl | hs'
          · exact Nat.lt_succ_self _
          · exact hseen1 s hs'

theorem attrIdxFrom_some (n : String) (attrs : List Attr) : ∀ i,
    attrs.find? (fun a => a.named n) ≠ none →
      ∃ j, attrIdxFrom n i attrs = some j ∧ j < i + attrs.length := by
  induction attrs with
  | nil => intro i h; exact absurd rfl h
  | cons a rest ih =>
    intro i h
    simp only [attrIdxFrom, List.length_cons]
    cases hn : a.named n with
    | true => exact ⟨i, rfl, by omega⟩
    | false =>
      rw [List.find?_cons, hn] at h
      obtain ⟨j, hj, hlt⟩ := ih (i + 1) h
      exact ⟨j, by simpa using hj, by omega⟩

theorem verifyFieldL_kinds (p : Program) (d : Option AVal) (t : TypeInfo) (f : Field) :
    (verifyFieldL p d t f).map (·.1) = verifyByteOrder p d t f ++ verifyRequires p f := by
  simp [verifyFieldL, List.map_map, Function.comp_def]

theorem requires_located (p : Program) (f : Field) (k : EK) (hk : k ∈ verifyRequires p f)
    (hr : k = .requiresArray ∨ k = .requiresType) :
    ∃ i, fieldErrAt f k = .attrValue i ∧ i < f.attrs.length := by
  have hg : f.attrs.find? (fun a => a.named "requires") ≠ none := by
    intro hg
    simp [verifyRequires, getAttr, hg] at hk
  obtain ⟨i, hi, hlt⟩ := attrIdxFrom_some "requires" f.attrs 0 hg
  refine ⟨i, ?_, by omega⟩
  rcases hr with rfl | rfl <;> simp [fieldErrAt, ownAt, hi]

end Emboss.Constraints
