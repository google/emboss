/-
The global row passes of the module handler are projections (applying one twice is applying
it once), and every rendered line is free of trailing blanks.  `stripEmptyRows` removes a prefix
and a suffix of rows without columns (`stripEmptyRows_spec`) and does not see such a prefix and
suffix (`stripEmptyRows_pad`); what FmtStr and FmtBlank use of it follows from these two, which rest on the
same two facts about `dropEnd` (`dropEnd_spec`, `dropEnd_append_all`).  `rstrip` is `dropEnd` on
characters: `rstrip_idem`, `rstrip_append`.
-/
import Emboss.Model.Fmt
namespace Emboss.Fmt

theorem indentBlanksRev_idem : ∀ (l : List Row) (prev : Nat),
    indentBlanksRev prev (indentBlanksRev prev l) = indentBlanksRev prev l := by
  intro l
  induction l with
  | nil => intro prev; rfl
  | cons r rest ih =>
    intro prev
    by_cases h : (rowBlank r || r.name = .comment) = true
    · have h' : (rowBlank { r with indent := prev } || ({ r with indent := prev } : Row).name = .comment) = true := h
      simp only [indentBlanksRev, h, if_true, h', ih]
    · simp only [indentBlanksRev, h, if_false, ih, Bool.false_eq_true]

theorem indentBlanksAndComments_idem (rows : List Row) :
    indentBlanksAndComments (indentBlanksAndComments rows) = indentBlanksAndComments rows := by
  simp only [indentBlanksAndComments, List.reverse_reverse, indentBlanksRev_idem]

theorem addBlankRowsAux_cons (pi : Nat) (pb : Bool) (r : Row) (rest : List Row) :
    addBlankRowsAux pi pb (r :: rest) =
      (if pi > r.indent && !pb && !rowBlank r then
        [{ name := .dedentSpace, columns := [], indent := r.indent }] else []) ++
        r :: addBlankRowsAux r.indent (rowBlank r) rest := by
  rw [addBlankRowsAux]; split <;> rfl

theorem addBlankRowsAux_idem : ∀ (l : List Row) (pi : Nat) (pb : Bool),
    addBlankRowsAux pi pb (addBlankRowsAux pi pb l) = addBlankRowsAux pi pb l
  | [], _, _ => rfl
  | r :: rest, pi, pb => by
    rw [addBlankRowsAux_cons]
    split
    · -- the inserted row is blank and has the indent of `r`: neither it nor `r` triggers again
      rw [List.singleton_append, addBlankRowsAux_cons, addBlankRowsAux_cons, addBlankRowsAux_idem rest]
      simp [rowBlank]
    · rename_i h
      rw [List.nil_append, addBlankRowsAux_cons, if_neg h, addBlankRowsAux_idem rest, List.nil_append]

theorem addBlankRowsOnDedent_idem (rows : List Row) :
    addBlankRowsOnDedent (addBlankRowsOnDedent rows) = addBlankRowsOnDedent rows :=
  addBlankRowsAux_idem rows 0 true

def dropEnd {α : Type} (p : α → Bool) (l : List α) : List α := (l.reverse.dropWhile p).reverse

theorem stripEmptyRows_eq (l : List Row) : stripEmptyRows l =
    dropEnd (fun r => r.columns.isEmpty) (l.dropWhile (fun r => r.columns.isEmpty)) := rfl

theorem mem_takeWhile_imp {α} {p : α → Bool} {l : List α} {x : α} (h : x ∈ l.takeWhile p) : p x = true :=
  List.all_eq_true.mp (List.all_takeWhile (l := l) (p := p)) x h

theorem dropEnd_spec {α : Type} (p : α → Bool) (l : List α) :
    ∃ b, l = dropEnd p l ++ b ∧ ∀ x ∈ b, p x = true :=
  ⟨(l.reverse.takeWhile p).reverse,
    by rw [dropEnd, ← List.reverse_append, List.takeWhile_append_dropWhile, List.reverse_reverse],
    fun _ hx => mem_takeWhile_imp (List.mem_reverse.1 hx)⟩

theorem dropEnd_append_all {α : Type} (p : α → Bool) (l b : List α) (h : ∀ x ∈ b, p x = true) :
    dropEnd p (l ++ b) = dropEnd p l := by
  simp only [dropEnd, List.reverse_append]
  rw [List.dropWhile_append_of_pos (fun x hx => h x (List.mem_reverse.1 hx))]

theorem dropEnd_idem {α : Type} (p : α → Bool) (l : List α) : dropEnd p (dropEnd p l) = dropEnd p l := by
  obtain ⟨b, h, hb⟩ := dropEnd_spec p l
  conv => rhs; rw [h]
  exact (dropEnd_append_all p _ b hb).symm

def AllEmpty (l : List Row) : Prop := ∀ r ∈ l, r.columns.isEmpty = true

theorem AllEmpty.nil : AllEmpty [] := by intro r hr; cases hr

theorem AllEmpty.cons {r : Row} {l : List Row} (hr : r.columns.isEmpty = true) (hl : AllEmpty l) :
    AllEmpty (r :: l) := List.forall_mem_cons.2 ⟨hr, hl⟩

theorem stripEmptyRows_spec (l : List Row) :
    ∃ a b, l = a ++ stripEmptyRows l ++ b ∧ AllEmpty a ∧ AllEmpty b := by
  obtain ⟨b, h, hb⟩ := dropEnd_spec (fun r : Row => r.columns.isEmpty) (l.dropWhile fun r => r.columns.isEmpty)
  refine ⟨l.takeWhile fun r => r.columns.isEmpty, b, ?_,
    fun r hr => mem_takeWhile_imp (p := fun r : Row => r.columns.isEmpty) hr, hb⟩
  rw [stripEmptyRows_eq, List.append_assoc, ← h, List.takeWhile_append_dropWhile]

theorem stripEmptyRows_pad {a l b : List Row} (ha : AllEmpty a) (hb : AllEmpty b) :
    stripEmptyRows (a ++ l ++ b) = stripEmptyRows l := by
  rw [stripEmptyRows_eq, stripEmptyRows_eq, List.append_assoc, List.dropWhile_append_of_pos ha,
    List.dropWhile_append]
  split
  · rename_i h
    have hb' := List.dropWhile_append_of_pos (l₂ := []) hb
    rw [List.append_nil] at hb'
    rw [List.isEmpty_iff.1 h, hb']
    rfl
  · exact dropEnd_append_all _ _ b hb

theorem stripEmptyRows_idem (l : List Row) : stripEmptyRows (stripEmptyRows l) = stripEmptyRows l := by
  obtain ⟨a, b, h, ha, hb⟩ := stripEmptyRows_spec l
  exact (stripEmptyRows_pad ha hb).symm.trans (congrArg _ h.symm)

theorem rstrip_idem (s : Str) : rstrip (rstrip s) = rstrip s := dropEnd_idem isPySpace s

theorem renderRow_trimmed (iw : Nat) (r : Row) (t : Str) (h : renderRow iw r = some t) : rstrip t = t := by
  unfold renderRow at h
  split at h
  · cases h; exact rstrip_idem _
  · cases h

theorem rstrip_append (p c : Str) : rstrip (p ++ c) = if rstrip c = [] then rstrip p else p ++ rstrip c := by
  unfold rstrip
  rw [List.reverse_append, List.dropWhile_append]
  by_cases h : c.reverse.dropWhile isPySpace = []
  · simp [h]
  · simp [h]

theorem rstrip_append_congr {c c' : Str} (p : Str) (h : rstrip c = rstrip c') :
    rstrip (p ++ c) = rstrip (p ++ c') := by
  rw [rstrip_append, rstrip_append, h]

theorem ljust_eq (c : Str) (n : Int) : ljust c n = c ++ spaces (n.toNat - c.length) := rfl

end Emboss.Fmt

-- In `FmtTok`: FmtRetok*.lean state their results in this namespace.
namespace Emboss.FmtTok

theorem rstrip_spaces (n : Nat) : Fmt.rstrip (Fmt.spaces n) = [] := by
  unfold Fmt.rstrip Fmt.spaces
  rw [List.reverse_replicate, List.dropWhile_replicate, if_pos (by decide)]
  rfl

end Emboss.FmtTok

theorem Emboss.Fmt.rstrip_append_spaces (c : Str) (k : Nat) : rstrip (c ++ spaces k) = rstrip c := by
  rw [rstrip_append, Emboss.FmtTok.rstrip_spaces, if_pos rfl]
