/-
The non-vacuity examples of `C11_retokenize_partial` and `C11_columnize_retokenizes_partial`
(a file of their own: the tokenizer model is evaluated in the kernel).
-/
import Emboss.Lemmas.FmtRetokCols
namespace Emboss.Fmt
open Emboss.FmtTok Emboss.Tok Emboss.Generated

def exRows : List (Row × List Leaf) := [
  ({ name := .typeHeader, columns := ["struct Foo:".toList] },
   [("\"struct\"", "struct".toList), ("CamelWord", "Foo".toList), ("\":\"", ":".toList)]),
  ({ name := .field, columns := ["0  [+1]  UInt  x".toList], indent := 1 },
   [("Number", "0".toList), ("\"[\"", "[".toList), ("\"+\"", "+".toList), ("Number", "1".toList),
    ("\"]\"", "]".toList), ("CamelWord", "UInt".toList), ("SnakeWord", "x".toList)])]

def exBlock : Block :=
  { pre := [], header := { name := .field, columns := ["0".toList, "[+1]".toList, "UInt".toList, "x".toList] },
    body := [] }

def exCellLeaves : List (List Leaf) :=
  [[("Number", "0".toList)],
   [("\"[\"", "[".toList), ("\"+\"", "+".toList), ("Number", "1".toList), ("\"]\"", "]".toList)],
   [("CamelWord", "UInt".toList)], [("SnakeWord", "x".toList)]]

/-- Every example row and every example cell passes `lineCheck` (one statement, so that one
evaluation of `tokTable.pats` serves all six texts). -/
theorem exChecked :
    exRows.all (fun x => decide (x.1.columns.length < 2) && lineCheck (rowText x.1) x.2) = true ∧
    (colCells [exBlock] 2 2 exBlock.header 0 exBlock.header.columns exCellLeaves).all
      (fun x => !x.1.isEmpty && lineCheck x.1 x.2.2) = true := by decide +kernel

theorem exRows_ok : ∀ x ∈ exRows, x.1.columns.length < 2 ∧ LineToks (rowText x.1) x.2 := by
  intro x hx
  have := List.all_eq_true.mp exChecked.1 x hx
  simp only [Bool.and_eq_true, decide_eq_true_eq] at this
  exact ⟨this.1, LineToks.of_check this.2⟩

def exLeaves : List Leaf :=
  [("\"struct\"", "struct".toList), ("CamelWord", "Foo".toList), ("\":\"", ":".toList), nlLeaf,
   ("Indent", "   ".toList),
   ("Number", "0".toList), ("\"[\"", "[".toList), ("\"+\"", "+".toList), ("Number", "1".toList),
   ("\"]\"", "]".toList), ("CamelWord", "UInt".toList), ("SnakeWord", "x".toList), nlLeaf,
   dedentLeaf]

theorem exRows_module : exRows.map Prod.fst = moduleRows [] [] [] [] [exRows.map Prod.fst] := by
  decide +kernel

theorem exRows_expect : expectLeaves 3 0 [] (exRows.map (fun x => (x.1.indent, x.2))) = some exLeaves := by
  decide +kernel

theorem exRows_text :
    Handler.run 3 .module [.rows [], .rows [], .rows [], .rows [], .sections [exRows.map Prod.fst]] =
      some (.str "struct Foo:\n   0  [+1]  UInt  x\n".toList) := by decide +kernel

theorem exBlock_cells : ∀ x ∈ colCells [exBlock] 2 2 exBlock.header 0 exBlock.header.columns exCellLeaves,
    (x.1 = [] ∧ x.2.2 = []) ∨ (x.1 ≠ [] ∧ LineToks x.1 x.2.2) := by
  intro x hx
  have := List.all_eq_true.mp exChecked.2 x hx
  simp only [Bool.and_eq_true, Bool.not_eq_true', List.isEmpty_eq_false_iff] at this
  exact Or.inr ⟨this.1, LineToks.of_check this.2⟩

theorem exBlock_open : OpenLast (colCells [exBlock] 2 2 exBlock.header 0 exBlock.header.columns exCellLeaves) := by
  simp only [exBlock, exCellLeaves, colCells, OpenLast, List.headD, List.tail, OpenEnded]
  decide

end Emboss.Fmt
