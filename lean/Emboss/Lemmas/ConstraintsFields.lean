/-
C14 lemmas: the per-field checks of `_verify_attributes_on_ir` and `check_constraints` against
`PhysFieldOK`.
-/
import Emboss.Lemmas.ConstraintsAttrs
namespace Emboss.Constraints
open Emboss.Generated

variable (p : Program) (d : Option AVal) (t : TypeInfo) (f : Field) (rt : TypeInfo)

theorem mayNull_iff : mayNull p t f = true ↔ OneUnit p t f := by
  simp [mayNull, OneUnit]

theorem verifyByteOrder_nil (needs : Bool) (hn : needsByteOrder p t f = some needs) :
    verifyByteOrder p d t f = [] ↔
      ((needs = false → getAttr f.attrs "byte_order" = none) ∧
       (needs = true →
        (∃ v, getAttr f.attrs "byte_order" = some v ∧ (v = .str "Null" → OneUnit p t f)) ∨
        (getAttr f.attrs "byte_order" = none ∧ ∃ v, d = some v ∧ (v = .str "Null" → OneUnit p t f)) ∨
        (getAttr f.attrs "byte_order" = none ∧ d = none ∧ OneUnit p t f))) := by
  unfold verifyByteOrder
  rw [hn]
  simp only [List.append_eq_nil_iff, errIf_nil, effByteOrder, hn, ← mayNull_iff]
  cases needs with
  | false => cases getAttr f.attrs "byte_order" <;> simp
  | true =>
    cases getAttr f.attrs "byte_order" with
    | some v => simp
    | none => cases d <;> simp

theorem verifyRequires_phys_nil (hv : f.isVirtual = false)
    (hrt : findType p f.ty.leaf.1 = some rt) :
    verifyRequires p f = [] ↔
      (getAttr f.attrs "requires" ≠ none → f.ty.isAtomic = true ∧ physKind rt ≠ .other) := by
  unfold verifyRequires
  cases ho : getAttr f.attrs "requires" with
  | none => simp
  | some v =>
    simp only [hv, Bool.false_eq_true, ↓reduceIte]
    cases hty : f.ty with
    | array b l => simp [Ty.isAtomic]
    | atomic r s =>
      have : findType p r = some rt := by simpa [hty, Ty.leaf] using hrt
      simp [this, Ty.isAtomic]

theorem verifyRequires_virt_nil (hv : f.isVirtual = true) :
    verifyRequires p f = [] ↔ (getAttr f.attrs "requires" ≠ none → f.vkind ≠ .other) := by
  unfold verifyRequires
  cases ho : getAttr f.attrs "requires" <;> simp [hv]

theorem allowedInBits_nil (hrt : findType p f.ty.leaf.1 = some rt) :
    allowedInBits p t f = [] ↔ (effUnit rt ≠ .none ∧ (effUnit t = .bit → effUnit rt ≠ .byte)) := by
  unfold allowedInBits
  simp only [hrt]
  generalize effUnit rt = u1
  generalize effUnit t = u2
  cases u1 <;> cases u2 <;> simp [AUnit.bits]

theorem physReq_nil (size : Option Int) :
    physReq rt size = [] ↔ WidthOK rt size := by
  unfold physReq WidthOK
  rw [firstErrs_nil]
  refine and_congr ?_ ?_
  · cases rt.kind with
    | enum vs =>
      cases size with
      | none => simp
      | some s => simp
    | _ => simp
  · cases getAttr rt.attrs "static_requirements" with
    | none => simp
    | some v => cases v <;> simp

theorem arrayChecks_nil : ∀ (ty : Ty) (outer : Bool),
    arrayChecks p t outer ty = [] ↔
      ((ty.isAtomic = false →
          ∃ sz, leafFixedSize p ty.leaf = some sz ∧ sz % (effUnit t).bits = 0) ∧
       (∀ l ∈ (if outer then ty.dims.tail else ty.dims), l.isConst)) := by
  intro ty
  induction ty with
  | atomic r s => intro outer; simp [arrayChecks, Ty.isAtomic, Ty.dims]
  | array base len ih =>
    intro outer
    -- the element check acts at the innermost level; above it the hypothesis hands it up
    have hb : arrayChecks p t outer (.array base len) = [] ↔
        (outer = false → len.isConst) ∧
        (∃ sz, leafFixedSize p base.leaf = some sz ∧ sz % (effUnit t).bits = 0) ∧
        ∀ l ∈ base.dims, l.isConst := by
      unfold arrayChecks
      rw [List.append_eq_nil_iff, List.append_eq_nil_iff, ih false, and_assoc,
        ← and_assoc (c := ∀ l ∈ _, _)]
      refine and_congr ?_ (and_congr_left' ?_)
      · cases outer
        · cases len <;> simp [Len.isConst]
        · simp
      · cases base with
        | atomic r s => cases h : leafFixedSize p (r, s) <;> simp [h, Ty.isAtomic, Ty.leaf]
        | array b l => simp [Ty.isAtomic, Ty.leaf]
    rw [hb]
    cases outer <;> simp [Ty.isAtomic, Ty.leaf, Ty.dims, and_left_comm]

/-- The size chain of `_check_type_requirements_for_field` on a scalar field of `a .. b` bits
holding a type of `e` bits, `x` being what is checked after it. -/
theorem fitsChain (a b e : Int) (anon : Bool) (x : List EK) :
    (if b = a ∧ (b < e ∨ e < a ∧ anon = false) then [EK.fixedWrongField]
      else if b < e then [EK.fieldTooSmall] else x) = [] ↔
    ((e ≤ b ∧ (a = b → anon = false → e = b)) ∧ x = []) := by
  rw [errIf_else_nil, errIf_else_nil, ← and_assoc]
  refine and_congr_left' ?_
  cases anon <;> simp <;> omega

theorem typeReq_nil (hrt : findType p f.ty.leaf.1 = some rt) (hu : (effUnit t).bits ≠ 0)
    (hb : f.ty.isAtomic = true → ∃ mn mx, f.sizeMin = .fin mn ∧ f.sizeMax = .fin mx) :
    typeReq p t f = [] ↔
      ((∀ e ts, f.ty.leaf.2 = some e → effFixedSize rt = some ts → e = ts) ∧
       (f.ty.isAtomic = true → ∀ mn mx e, f.sizeMin = .fin mn → f.sizeMax = .fin mx →
        (f.ty.leaf.2 = some e ∨ (f.ty.leaf.2 = none ∧ effFixedSize rt = some e)) →
        e ≤ mx * (effUnit t).bits ∧
          (mn = mx → rt.anonymous = false → e = mx * (effUnit t).bits)) ∧
       WidthOK rt (staticElemSize t rt f)) := by
  -- the leaves of `typeReq`: array or scalar field, explicit size or not, fixed-size type or not
  cases hat : f.ty.isAtomic with
  | false =>
    cases hs : f.ty.leaf.2 <;> cases hts : effFixedSize rt <;>
      simp [typeReq, staticElemSize, hrt, hat, hs, hts, physReq_nil, errUnless_else_nil]
  | true =>
    obtain ⟨mn, mx, hmn, hmx⟩ := hb hat
    have hmul : mn * (effUnit t).bits = mx * (effUnit t).bits ↔ mn = mx :=
      Int.mul_eq_mul_right_iff hu
    cases hs : f.ty.leaf.2 <;> cases hts : effFixedSize rt <;>
      simp [typeReq, staticElemSize, hrt, hat, hs, hts, hmn, hmx, Bound.fin?, physReq_nil,
        errUnless_else_nil, fitsChain, hmul]

theorem physFieldOK_iff (hv : f.isVirtual = false) (hu : effUnit t = .bit ∨ effUnit t = .byte)
    (hb : f.ty.isAtomic = true → ∃ mn mx, f.sizeMin = .fin mn ∧ f.sizeMax = .fin mx) :
    (verifyByteOrder p d t f = [] ∧ verifyRequires p f = [] ∧ allowedInBits p t f = [] ∧
      arrayChecks p t true f.ty = [] ∧ typeReq p t f = []) ↔
    ∃ rt, findType p f.ty.leaf.1 = some rt ∧ PhysFieldOK p d t f rt := by
  cases hrt : findType p f.ty.leaf.1 with
  | none => simp [verifyByteOrder, needsByteOrder, hv, hrt]   -- the byte-order check reports a dangling reference
  | some rt =>
    have hu' : (effUnit t).bits ≠ 0 := by rcases hu with h | h <;> simp [h, AUnit.bits]
    rw [verifyByteOrder_nil p d t f (decide (effUnit rt ≠ effUnit t))
        (by simp only [needsByteOrder, hv, hrt, Bool.false_eq_true, ↓reduceIte]),
      verifyRequires_phys_nil p f rt hv hrt, allowedInBits_nil p t f rt hrt, arrayChecks_nil,
      typeReq_nil p t f rt hrt hu' hb]
    simp only [decide_eq_false_iff_not, decide_eq_true_eq, Decidable.not_not, Option.some.injEq,
      exists_eq_left']
    constructor
    · rintro ⟨⟨b1, b2⟩, rq, ⟨u1, u2⟩, ⟨a1, a2⟩, e1, e2, w⟩
      exact ⟨u1, u2, a1, a2, e1, e2, w, b1, b2, rq⟩
    · intro h
      exact ⟨⟨h.noByteOrder, h.byteOrder⟩, h.requiresPlace, ⟨h.hasUnit, h.noByteInBits⟩,
        ⟨h.elemFixed, h.innerConst⟩, h.explicitMatches, h.fits, h.width⟩

end Emboss.Constraints
