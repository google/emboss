/-
Per-operator soundness of the transfer functions of Model/Bounds.lean with respect to
the concretisation γ of Spec/Bounds.lean.  None of these assume the invariant
`_assert_integer_constraints`: whenever a transfer function returns (does not raise),
its result describes every value the operation can produce.  Also here: what each transfer
function computes (`_shape`: all four fields, `_ends`: the two ends), the list relation
`Forall2`, the leaves (`leafRange_cases`), literals and bound functions, the three projections
to integer lists (`atypeInts`, `valsInts`, `cvInts`), and the inversion lemmas for `abs` / `eval`
at the compound nodes.
-/
import Emboss.Lemmas.BoundsExt
namespace Emboss.Bounds
open ExtInt

inductive Forall2 {α β : Type} (R : α → β → Prop) : List α → List β → Prop
  | nil : Forall2 R [] []
  | cons {a b as bs} : R a b → Forall2 R as bs → Forall2 R (a :: as) (b :: bs)

theorem Gamma.const {a : AVal} {v : Int} (h : Gamma a v) (hm : a.modulus = .inf) : a.mv = .fin v := by
  obtain ⟨-, -, c, hc, hd⟩ := h
  rw [hc, eq_of_inf_dvd hm hd]

/-! ### `+` and `-` -/

/-- the `modular_value` `additive` computes from the common modulus and the sum (difference)
    of the two remainders -/
def addMv : Modulus → ExtInt → Option ExtInt
  | .inf, u => some u
  | .fin k, .fin v => if k = 0 then none else some (.fin (v % (k : Int)))
  | .fin _, _ => none

theorem additive_shape {s : Bool} {l r a : AVal} (h : additive s l r = some a) :
    (∃ u, (if s then esub l.mv r.mv else eadd l.mv r.mv) = some u ∧
      addMv (gcdM l.modulus r.modulus) u = some a.mv) ∧
    a.modulus = gcdM l.modulus r.modulus ∧
    (if s then esub l.min r.max else eadd l.min r.min) = some a.min ∧
    (if s then esub l.max r.min else eadd l.max r.max) = some a.max := by
  unfold additive at h
  cases s <;> simp only [Bool.false_eq_true, if_false, if_true] at h ⊢ <;>
    split at h <;> try cases h
  all_goals
    rename_i u hu
    split at h <;> try cases h
    rename_i mv hmv
    split at h <;> cases h
    rename_i hmn hmx
    exact ⟨⟨u, hu, hmv⟩, rfl, hmn, hmx⟩

theorem additive_some {s : Bool} {l r : AVal} {u mv mn mx : ExtInt}
    (hu : (if s then esub l.mv r.mv else eadd l.mv r.mv) = some u)
    (hmv : addMv (gcdM l.modulus r.modulus) u = some mv)
    (hmn : (if s then esub l.min r.max else eadd l.min r.min) = some mn)
    (hmx : (if s then esub l.max r.min else eadd l.max r.max) = some mx) :
    additive s l r = some ⟨mn, mx, gcdM l.modulus r.modulus, mv⟩ := by
  unfold additive
  cases s <;> simp only [Bool.false_eq_true, if_false, if_true] at hu hmn hmx ⊢ <;>
    rw [hu] <;> simp only <;> split
  -- the remainder is `addMv`, spelt out in `additive`
  all_goals
    rename_i h
    cases hmv.symm.trans h
    try simp only [hmn, hmx]

theorem addMv_sound {m : Modulus} {u : Int} {mv : ExtInt} {v : Int}
    (hmv : addMv m (.fin u) = some mv) (hd : ((m.toNat : Nat) : Int) ∣ v - u) : CongOk m mv v := by
  cases m with
  | inf => cases hmv; exact ⟨u, rfl, hd⟩
  | fin k =>
    simp only [addMv] at hmv
    split at hmv <;> cases hmv
    exact CongOk.of_dvd hd

theorem additive_sound {isSub : Bool} {l r a : AVal} {x y : Int}
    (h : additive isSub l r = some a) (hl : Gamma l x) (hr : Gamma r y) :
    Gamma a (if isSub then x - y else x + y) := by
  obtain ⟨hl1, hl2, cl, hcl, hdl⟩ := hl
  obtain ⟨hr1, hr2, cr, hcr, hdr⟩ := hr
  have hgl := Int.dvd_trans (gcdM_dvd_left l.modulus r.modulus) hdl
  have hgr := Int.dvd_trans (gcdM_dvd_right l.modulus r.modulus) hdr
  obtain ⟨⟨u, hu, hmv⟩, hmod, hmn, hmx⟩ := additive_shape h
  rw [hcl, hcr] at hu
  rw [← hmod] at hgl hgr
  cases isSub <;> cases hu <;> simp only [Bool.false_eq_true, if_false, if_true]
  · refine ⟨eadd_low hmn hl1 hr1, eadd_high hmx hl2 hr2, addMv_sound (hmod ▸ hmv) ?_⟩
    have : x + y - (cl + cr) = (x - cl) + (y - cr) := by omega
    rw [this]
    exact Int.dvd_add hgl hgr
  · refine ⟨esub_low hmn hl1 hr2, esub_high hmx hl2 hr1, addMv_sound (hmod ▸ hmv) ?_⟩
    have : x - y - (cl + -cr) = (x - cl) - (y - cr) := by omega
    rw [this]
    exact Int.dvd_sub hgl hgr

/-! ### `*` -/

/-- algebraic core of doc/modular_congruence_multiplication_proof.tex -/
theorem varvar_core (lm rm lz rz lnz rnz g : Nat) (lv rv x y : Int)
    (hlm : lm = lnz * lz) (hrm : rm = rnz * rz)
    (hlz : (lz : Int) ∣ lv) (hrz : (rz : Int) ∣ rv)
    (hg1 : g ∣ lnz) (hg2 : g ∣ rnz)
    (hx : (lm : Int) ∣ x - lv) (hy : (rm : Int) ∣ y - rv) :
    ((g * (lz * rz) : Nat) : Int) ∣ x * y - lv * rv := by
  obtain ⟨s, hs⟩ := hx
  obtain ⟨t, ht⟩ := hy
  obtain ⟨p, hp⟩ := hlz
  obtain ⟨q, hq⟩ := hrz
  obtain ⟨L, hL⟩ := hg1
  obtain ⟨R, hR⟩ := hg2
  subst hlm hrm hL hR
  have hx' : x = lv + ((g * L * lz : Nat) : Int) * s := by omega
  have hy' : y = rv + ((g * R * rz : Nat) : Int) * t := by omega
  -- witness given; what remains is a polynomial identity
  refine ⟨p * R * t + L * s * q + L * s * (g * R) * t, ?_⟩
  subst hx' hy' hp hq
  simp only [Int.natCast_mul]
  grind

theorem mulSide_spec {m : Nat} {mv : ExtInt} {z nz : Nat} {v : Int}
    (h : mulSide m mv = some (z, nz, v)) :
    mv = .fin v ∧ m = nz * z ∧ (z : Int) ∣ v := by
  -- the last step of `mulSide` reads `int(mv)`, so `mv` is finite
  cases mv with
  | negInf => cases h
  | posInf =>
    simp only [mulSide, mvAsModulus, ExtInt.toInt?] at h
    split at h <;> try cases h
    split at h <;> try cases h
    split at h <;> cases h
  | fin c =>
    simp only [mulSide, mvAsModulus, ExtInt.toInt?] at h
    split at h <;> try cases h
    rename_i mvm hc
    split at hc <;> cases hc
    rename_i hcnn
    split at h <;> try cases h
    rename_i z' hz'
    split at h <;> try cases h
    split at h <;> cases h
    rename_i hz0 hmod
    have hz : z = Nat.gcd m v.toNat := gcdM_eq_fin hz'
    refine ⟨rfl, (Nat.div_mul_cancel (Nat.dvd_of_mod_eq_zero (by simpa using hmod))).symm, ?_⟩
    rw [← Int.toNat_of_nonneg (Int.not_lt.mp hcnn)]
    exact Int.ofNat_dvd.mpr (hz ▸ Nat.gcd_dvd_right _ _)

theorem mulConstVar_ends {mn mx c v : ExtInt} {m : Nat} {a : AVal}
    (h : mulConstVar mn mx c m v = some a) : a.min = mn ∧ a.max = mx := by
  unfold mulConstVar at h
  split at h
  · cases h
  · split at h
    · cases h; exact ⟨rfl, rfl⟩
    · split at h
      · cases h
      · dsimp only at h
        split at h
        · cases h
        · cases h; exact ⟨rfl, rfl⟩

theorem multiplicative_ends {l r a : AVal} (h : multiplicative l r = some a) :
    a.min = eminL [emul l.max r.max, emul l.min r.max, emul l.max r.min, emul l.min r.min] ∧
    a.max = emaxL [emul l.max r.max, emul l.min r.max, emul l.max r.min, emul l.min r.min] := by
  unfold multiplicative at h
  split at h
  · split at h
    · cases h; exact ⟨rfl, rfl⟩
    · cases h
  · exact mulConstVar_ends h
  · exact mulConstVar_ends h
  · split at h
    · split at h
      · cases h
      · dsimp only at h
        split at h
        · cases h
        · cases h; exact ⟨rfl, rfl⟩
    · cases h

theorem mulConstVar_sound {mn mx : ExtInt} {c v : Int} {m : Nat} {a : AVal} {x y : Int}
    (h : mulConstVar mn mx (.fin c) m (.fin v) = some a)
    (hx : x = c) (hy : (m : Int) ∣ y - v) : CongOk a.modulus a.mv (x * y) := by
  subst hx
  simp only [mulConstVar, ExtInt.toInt?] at h
  split at h
  · rename_i hc0
    cases h
    exact ⟨0, rfl, by simp [hc0]⟩
  · split at h <;> cases h
    refine CongOk.of_dvd ?_
    -- m ∣ y − v and |x| ∣ x, so m·|x| ∣ (y − v)·x
    rw [Int.mul_comm x y, ← Int.sub_mul, Int.natCast_mul]
    exact Int.mul_dvd_mul hy (Int.natAbs_dvd.mpr (Int.dvd_refl x))

theorem multiplicative_sound {l r a : AVal} {x y : Int}
    (h : multiplicative l r = some a) (hl : Gamma l x) (hr : Gamma r y) : Gamma a (x * y) := by
  obtain ⟨hl1, hl2, cl, hcl, hdl⟩ := hl
  obtain ⟨hr1, hr2, cr, hcr, hdr⟩ := hr
  obtain ⟨hmn, hmx⟩ := multiplicative_ends h
  refine ⟨hmn ▸ mul_corners_low hl1 hl2 hr1 hr2, hmx ▸ mul_corners_high hl1 hl2 hr1 hr2, ?_⟩
  unfold multiplicative at h
  simp only [hcl, hcr] at h
  split at h
  · -- const × const
    rename_i hlm hrm
    simp only [ExtInt.toInt?] at h
    cases h
    cases eq_of_inf_dvd hlm hdl; cases eq_of_inf_dvd hrm hdr
    exact ⟨_, rfl, by simp [Modulus.toNat]⟩
  · rename_i m hlm hrm
    rw [hrm] at hdr
    exact mulConstVar_sound h (eq_of_inf_dvd hlm hdl) hdr
  · rename_i m hlm hrm
    rw [hlm] at hdl
    exact Int.mul_comm y x ▸ mulConstVar_sound h (eq_of_inf_dvd hrm hdr) hdl
  · rename_i lm rm hlm hrm
    rw [hlm] at hdl; rw [hrm] at hdr
    split at h
    · rename_i lz lnz lv rz rnz rv hls hrs
      obtain ⟨e1, e2, e3⟩ := mulSide_spec hls
      obtain ⟨f1, f2, f3⟩ := mulSide_spec hrs
      cases e1; cases f1
      split at h
      · cases h
      · rename_i g hg
        split at h
        · cases h
        · cases h
          have hg' : g = Nat.gcd lnz rnz := gcdM_eq_fin hg
          exact CongOk.of_dvd (varvar_core lm rm lz rz lnz rnz g cl cr x y e2 f2 e3 f3
            (hg' ▸ Nat.gcd_dvd_left _ _) (hg' ▸ Nat.gcd_dvd_right _ _) hdl hdr)
    · cases h

/-! ### `_shared_modular_value`, `?:` -/

/-- With the outer gcd "infinity" both sides are the same constant.  With a finite `k`: `k` divides the
    common modulus and `a - b`, so either congruence weakens to the remainder `a % k`. -/
theorem shared_sound {l r res : Modulus × ExtInt} (h : shared l r = some res) (v : Int) :
    (CongOk l.1 l.2 v → CongOk res.1 res.2 v) ∧ (CongOk r.1 r.2 v → CongOk res.1 res.2 v) := by
  unfold shared at h
  split at h
  · rename_i a b ha hb
    have hla := toInt?_eq_some ha
    have hrb := toInt?_eq_some hb
    have hg := gcdM_toNat (gcdM l.1 r.1) (.fin (a - b).natAbs)
    have hgl := gcdM_dvd_left l.1 r.1
    have hgr := gcdM_dvd_right l.1 r.1
    simp only at h
    generalize hnew : gcdM (gcdM l.1 r.1) (.fin (a - b).natAbs) = new at h hg
    cases new with
    | inf =>
      simp only at h
      split at h
      · rename_i hc
        cases h
        obtain ⟨h1, h2, h3⟩ := hc
        simp only
        constructor
        · intro hc; rw [h2] at hc; exact hc
        · intro hc; rw [h3, ← h1] at hc; exact hc
      · cases h
    | fin k =>
      simp only at h
      split at h
      · cases h
      · split at h
        · cases h
        · cases h
          simp only [Modulus.toNat] at hg
          have hk1 : (k : Int) ∣ (((gcdM l.1 r.1).toNat : Nat) : Int) :=
            Int.ofNat_dvd.mpr (hg ▸ Nat.gcd_dvd_left _ _)
          have hk2 : (k : Int) ∣ a - b := by
            have : k ∣ (a - b).natAbs := hg ▸ Nat.gcd_dvd_right _ _
            exact Int.dvd_natAbs.mp (Int.ofNat_dvd.mpr this)
          simp only
          constructor
          · rintro ⟨c, hc, hd⟩
            rw [hla] at hc; cases hc
            exact CongOk.of_dvd (Int.dvd_trans hk1 (Int.dvd_trans hgl hd))
          · rintro ⟨c, hc, hd⟩
            rw [hrb] at hc; cases hc
            refine CongOk.of_dvd ?_
            have : v - a = (v - b) - (a - b) := by omega
            rw [this]
            exact Int.dvd_sub (Int.dvd_trans hk1 (Int.dvd_trans hgr hd)) hk2
  · cases h

theorem choiceHull_shape {t f a : AVal} (h : choiceHull t f = some a) :
    a.min = eminL [t.min, f.min] ∧ a.max = emaxL [t.max, f.max] ∧
    shared (t.modulus, t.mv) (f.modulus, f.mv) = some (a.modulus, a.mv) := by
  unfold choiceHull at h
  split at h
  · cases h
  · rename_i m v hs
    cases h
    exact ⟨rfl, rfl, hs⟩

theorem choiceHull_sound {t f a : AVal} {v : Int} (h : choiceHull t f = some a)
    (hv : Gamma t v ∨ Gamma f v) : Gamma a v := by
  obtain ⟨hmn, hmx, hs⟩ := choiceHull_shape h
  have hs' := shared_sound hs v
  rw [Gamma, hmn, hmx]
  rcases hv with ⟨h1, h2, h3⟩ | ⟨h1, h2, h3⟩
  · exact ⟨eminL_low (x := t.min) (by simp) h1, emaxL_high (x := t.max) (by simp) h2, hs'.1 h3⟩
  · exact ⟨eminL_low (x := f.min) (by simp) h1, emaxL_high (x := f.max) (by simp) h2, hs'.2 h3⟩

/-! ### `$max` -/

theorem sharedFold_sound {acc res : Modulus × ExtInt} {l : List AVal}
    (h : sharedFold acc l = some res) (v : Int) :
    (CongOk acc.1 acc.2 v → CongOk res.1 res.2 v) ∧
    (∀ a ∈ l, CongOk a.modulus a.mv v → CongOk res.1 res.2 v) := by
  induction l generalizing acc with
  | nil => simp [sharedFold] at h; subst h; simp
  | cons a as ih =>
    simp only [sharedFold] at h
    split at h
    · cases h
    · rename_i acc' hs
      have h1 := shared_sound hs v
      have h2 := ih h
      refine ⟨fun hc => h2.1 (h1.1 hc), ?_⟩
      intro b hb hc
      rcases List.mem_cons.mp hb with rfl | hm
      · exact h2.1 (h1.2 hc)
      · exact h2.2 b hm hc

theorem maxFn_ends {args : List AVal} {a : AVal} (h : maxFn args = some a) :
    a.min = emaxL (args.map (·.min)) ∧ a.max = emaxL (args.map (·.max)) := by
  cases args with
  | nil => cases h
  | cons a0 as =>
    simp only [maxFn] at h
    split at h
    · rename_i heq
      cases h
      exact ⟨rfl, rfl⟩
    · split at h
      · cases h
      · cases h; exact ⟨rfl, rfl⟩

/-- The maximum `v` is a value of some argument `b` (so it is below the greatest upper end and has
    the shared congruence) and is at least a value of every argument (so it is above every lower end);
    equal ends leave one value. -/
theorem maxFn_sound {args : List AVal} {a : AVal} {vs : List Int} {v : Int}
    (h : maxFn args = some a) (hvs : Forall2 Gamma args vs) (hmax : IsMaxOf vs v) :
    Gamma a v := by
  obtain ⟨hmem, hge⟩ := hmax
  have hex : ∃ b ∈ args, Gamma b v := by
    clear h hge
    induction hvs with
    | nil => cases hmem
    | cons hab _ ih =>
      rcases List.mem_cons.mp hmem with rfl | hm
      · exact ⟨_, List.mem_cons_self, hab⟩
      · obtain ⟨b, hb, hg⟩ := ih hm
        exact ⟨b, List.mem_cons_of_mem _ hb, hg⟩
  have hall : ∀ b ∈ args, LowOk b.min v := by
    clear h hmem hex
    induction hvs with
    | nil => intro b hb; cases hb
    | cons hab _ ih =>
      rename_i a0 v0 as0 vs0
      intro b hb
      rcases List.mem_cons.mp hb with rfl | hm
      · exact hab.1.mono (hge _ List.mem_cons_self)
      · exact ih (fun x hx => hge x (List.mem_cons_of_mem _ hx)) b hm
  obtain ⟨b, hb, hb1, hb2, hb3⟩ := hex
  have hlow : LowOk (emaxL (args.map (·.min))) v := by
    apply emaxL_low
    intro x hx
    obtain ⟨c, hc, rfl⟩ := List.mem_map.mp hx
    exact hall c hc
  have hhigh : HighOk (emaxL (args.map (·.max))) v :=
    emaxL_high (x := b.max) (List.mem_map.mpr ⟨b, hb, rfl⟩) hb2
  cases args with
  | nil => cases hb
  | cons a0 as =>
    simp only [maxFn] at h
    split at h
    · rename_i heq
      cases h
      exact ⟨hlow, heq ▸ hhigh, v, eq_fin_of_low_high hlow (heq ▸ hhigh),
        by rw [Int.sub_self]; exact Int.dvd_zero _⟩
    · split at h
      · cases h
      · rename_i m c hs
        cases h
        refine ⟨hlow, hhigh, ?_⟩
        have := sharedFold_sound hs v
        rcases List.mem_cons.mp hb with rfl | hm
        · exact this.1 hb3
        · exact this.2 b hm hb3

/-! ### leaves, literals, bound functions -/

theorem pow_pos' (b : Int) (hb : 0 < b) (n : Nat) : 0 < b ^ n := Int.pow_pos hb

/-- below 4 bits a `Bcd` has no decimal digit and all bits are binary; from 4 on it has a digit -/
theorem bcd_ge_two (n : Nat) (h : 1 ≤ n) : (2 : Int) ≤ 10 ^ (n / 4) * 2 ^ (n % 4) := by
  rcases Nat.eq_zero_or_pos (n / 4) with h0 | h0
  · have h1 : n % 4 = n := by omega
    rw [h0, h1, Int.pow_zero, Int.one_mul]
    exact Int.ofNat_le.mpr (Nat.le_pow h)
  · have h10 : (10 : Int) ≤ 10 ^ (n / 4) := Int.ofNat_le.mpr (Nat.le_pow h0)
    have h1 : (1 : Int) ≤ 2 ^ (n % 4) := Int.pow_pos (by decide)
    calc (2 : Int) ≤ 10 * 1 := by decide
      _ ≤ 10 ^ (n / 4) * 2 ^ (n % 4) := Int.mul_le_mul h10 h1 (by decide) (Int.le_trans (by decide) h10)

/-- a physical leaf is unbounded (size unknown or < 1) or the interval of its type's values -/
theorem leafRange_cases (k : LeafKind) (size : Option Int) :
    (leafRange k size = unboundedLeaf ∧ (∀ s, size = some s → s < 1) ∧ ∀ v, InPhys k size v) ∨
    ∃ lo hi, lo < hi ∧ leafRange k size = ⟨.fin lo, .fin hi, .fin 1, .fin 0⟩ ∧
      ∀ v, InPhys k size v ↔ lo ≤ v ∧ v ≤ hi := by
  cases size with
  | none => exact Or.inl ⟨rfl, nofun, fun _ => trivial⟩
  | some s =>
    by_cases hs : s < 1
    · exact Or.inl ⟨by simp only [leafRange, hs, if_true], fun _ h => Option.some.inj h ▸ hs,
        fun _ => by simp only [InPhys, hs, if_true]⟩
    · right
      have h2 : (2 : Int) ≤ 2 ^ s.toNat := Int.ofNat_le.mpr (Nat.le_pow (by omega))
      have h3 : (0 : Int) < 2 ^ (s.toNat - 1) := Int.pow_pos (by decide)
      have h4 := bcd_ge_two s.toNat (by omega)
      simp only [leafRange, InPhys, hs, if_false]
      generalize s.toNat = n at *
      cases k
      · exact ⟨_, _, by omega, rfl, fun v => by omega⟩
      · exact ⟨_, _, by omega, rfl, fun v => by omega⟩
      · exact ⟨_, _, by omega, rfl, fun v => by omega⟩

theorem leafRange_sound {k : LeafKind} {size : Option Int} {v : Int} (h : InPhys k size v) :
    Gamma (leafRange k size) v := by
  have hc : CongOk (.fin 1) (.fin 0) v := ⟨0, rfl, by simp [Modulus.toNat]⟩
  rcases leafRange_cases k size with ⟨e, -, -⟩ | ⟨lo, hi, -, e, hp⟩
  · rw [e]; exact ⟨trivial, trivial, hc⟩
  · rw [e]; exact ⟨((hp v).mp h).1, ((hp v).mp h).2, hc⟩

theorem boundFn_fin {a : AVal} {up : Bool} {c : Int}
    (h : (if up then a.max else a.min) = .fin c) : boundFn up a = constRange c := by
  simp only [boundFn, h, ExtInt.isInf, Bool.false_eq_true, if_false, constRange]

theorem boundFn_inf {a : AVal} {up : Bool}
    (h : (if up then a.max else a.min).isInf = true) : boundFn up a = unboundedLeaf := by
  simp only [boundFn, h, if_true, unboundedLeaf]

theorem constRange_sound (v : Int) : Gamma (constRange v) v :=
  ⟨by simp [constRange, LowOk], by simp [constRange, HighOk], v, rfl, by simp⟩

theorem staticSize_sound {v : Int} (h : 0 ≤ v) : Gamma staticSizeRange v :=
  ⟨h, trivial, 0, rfl, by simp [staticSizeRange, Modulus.toNat]⟩

/-! ### `atypeInts`, `valsInts`, `cvInts` return `some l` exactly on the image of `l` -/

theorem atypeInts_eq_some : ∀ {tys : List AType} {avs : List AVal},
    atypeInts tys = some avs → tys = avs.map .int
  | [], _, h => by cases h; rfl
  | .int x :: r, _, h => by
    obtain ⟨l, hl, rfl⟩ := Option.map_eq_some_iff.mp h
    rw [atypeInts_eq_some hl]; rfl
  | .bool _ :: _, _, h => by cases h
  | .enum _ :: _, _, h => by cases h

theorem atypeInts_map (l : List AVal) : atypeInts (l.map .int) = some l := by
  induction l with
  | nil => rfl
  | cons a as ih => simp [atypeInts, ih]

theorem valsInts_eq_some : ∀ {vs : List CVal} {l : List Int}, valsInts vs = some l → vs = l.map .int
  | [], _, h => by cases h; rfl
  | .int x :: r, _, h => by
    obtain ⟨l, hl, rfl⟩ := Option.map_eq_some_iff.mp h
    rw [valsInts_eq_some hl]; rfl
  | .bool _ :: _, _, h => by cases h
  | .enum _ :: _, _, h => by cases h

theorem valsInts_map (l : List Int) : valsInts (l.map .int) = some l := by
  induction l with
  | nil => rfl
  | cons a as ih => simp [valsInts, ih]

theorem cvInts_eq_some : ∀ {cvs : List CV} {l : List Int}, cvInts cvs = some l →
    cvs = l.map fun v => .val (.int v)
  | [], _, h => by cases h; rfl
  | .val (.int x) :: r, _, h => by
    obtain ⟨l, hl, rfl⟩ := Option.map_eq_some_iff.mp h
    rw [cvInts_eq_some hl]; rfl
  | .val (.bool _) :: _, _, h => by cases h
  | .val (.enum _) :: _, _, h => by cases h
  | .crash :: _, _, h => by cases h
  | .unknown :: _, _, h => by cases h

/-! ### `abs` and `eval` at the compound nodes: a result comes from results of the parts -/

theorem abs_bin_some {op : BinOp} {l r : Expr} {ty : AType} (h : abs (.bin op l r) = some ty) :
    ∃ a b, abs l = some a ∧ abs r = some b ∧ absBin op a b (cv l) (cv r) = some ty := by
  simp only [abs] at h
  split at h
  · exact ⟨_, _, ‹_›, ‹_›, h⟩
  · cases h

theorem abs_choice_some {c t f : Expr} {ty : AType} (h : abs (.choice c t f) = some ty) :
    ∃ a b d, abs c = some a ∧ abs t = some b ∧ abs f = some d ∧ absChoice a b d = some ty := by
  simp only [abs] at h
  split at h
  · exact ⟨_, _, _, ‹_›, ‹_›, ‹_›, h⟩
  · cases h

theorem abs_max_some {args : List Expr} {ty : AType} (h : abs (.max args) = some ty) :
    ∃ l, absList args = some l ∧ absMax l = some ty := by
  simp only [abs] at h
  split at h
  · exact ⟨_, ‹_›, h⟩
  · cases h

theorem absList_cons_some {e : Expr} {es : List Expr} {tys : List AType}
    (h : absList (e :: es) = some tys) :
    ∃ a l, abs e = some a ∧ absList es = some l ∧ tys = a :: l := by
  simp only [absList] at h
  split at h
  · exact ⟨_, _, ‹_›, ‹_›, (Option.some.inj h).symm⟩
  · cases h

theorem eval_bin_some {ρ : Env} {op : BinOp} {l r : Expr} {v : CVal}
    (h : eval ρ (.bin op l r) = some v) :
    ∃ a b, eval ρ l = some a ∧ eval ρ r = some b ∧ evalBin op a b = some v := by
  simp only [eval] at h
  split at h
  · exact ⟨_, _, ‹_›, ‹_›, h⟩
  · cases h

theorem eval_choice_some {ρ : Env} {c t f : Expr} {v : CVal} (h : eval ρ (.choice c t f) = some v) :
    ∃ b x y, eval ρ c = some (.bool b) ∧ eval ρ t = some x ∧ eval ρ f = some y ∧
      v = if b then x else y := by
  simp only [eval] at h
  split at h
  · exact ⟨_, _, _, ‹_›, ‹_›, ‹_›, (Option.some.inj h).symm⟩
  · cases h

/-- the arguments evaluate to integers `l` (`valsInts` is not seen outside this lemma) -/
theorem eval_max_some {ρ : Env} {args : List Expr} {v : CVal} (h : eval ρ (.max args) = some v) :
    ∃ l m, evalList ρ args = some (l.map .int) ∧ listMax l = some m ∧ v = .int m := by
  simp only [eval] at h
  split at h <;> try cases h
  rename_i vs hvs
  split at h <;> try cases h
  rename_i l hl
  obtain ⟨m, hm, rfl⟩ := Option.map_eq_some_iff.mp h
  exact ⟨l, m, valsInts_eq_some hl ▸ hvs, hm, rfl⟩

theorem evalList_cons_some {ρ : Env} {e : Expr} {es : List Expr} {vs : List CVal}
    (h : evalList ρ (e :: es) = some vs) :
    ∃ v vs', eval ρ e = some v ∧ evalList ρ es = some vs' ∧ vs = v :: vs' := by
  simp only [evalList] at h
  split at h
  · exact ⟨_, _, ‹_›, ‹_›, (Option.some.inj h).symm⟩
  · cases h

end Emboss.Bounds
