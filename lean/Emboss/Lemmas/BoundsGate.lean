/-
What an accepting 64-bit gate implies: every integer clause of a run-time operation is
finite and all of them fit one C++ type together.
-/
import Emboss.Lemmas.BoundsSound
import Emboss.Model.CppArith
namespace Emboss.Bounds
open ExtInt

/-- a type whose integer range (if any) is finite and fits int64 or uint64 -/
def OwnOk (ty : AType) : Prop :=
  ∀ a, ty = .int a → ∃ lo hi, a.min = .fin lo ∧ a.max = .fin hi ∧ fitsAny64 lo hi = true

theorem boundsErrors_nil {a : AVal} (hc : boundsCrash a = false) (h : boundsErrors a = []) :
    ∃ lo hi, a.min = .fin lo ∧ a.max = .fin hi ∧ fitsAny64 lo hi = true := by
  obtain ⟨mn, mx, _, _⟩ := a
  cases mn with
  | negInf => cases h
  | posInf =>
    cases mx with
    | posInf => cases h
    | negInf => cases hc
    | fin _ => cases hc
  | fin lo =>
    cases mx with
    | posInf => cases h
    | negInf => cases hc
    | fin hi =>
      refine ⟨lo, hi, rfl, rfl, ?_⟩
      simp only [boundsErrors] at h
      split at h
      · assumption
      · split at h <;> cases h

theorem gateArgs_nil : ∀ {args : List ATree}, gateArgs args = some [] → ∀ t ∈ args, gate t = some []
  | [], _ => nofun
  | a :: as, h => by
    simp only [gateArgs] at h
    split at h <;> try cases h
    rename_i e es he hes
    simp only [Option.some.injEq, List.append_eq_nil_iff] at h
    obtain ⟨rfl, rfl⟩ := h
    exact List.forall_mem_cons.mpr ⟨he, gateArgs_nil hes⟩

theorem gate_node {isFn : Bool} {ty : AType} {args : List ATree}
    (h : gate (.node isFn ty args) = some []) :
    OwnOk ty ∧
    ((isFn && !isConstType ty) = true →
      gateArgs args = some [] ∧
      ∃ cls, clauseClasses (ty :: argTys args) = some cls ∧ ¬ (cls.contains 1 = true ∧ cls.contains 2 = true)) := by
  simp only [gate] at h
  split at h
  · cases h
  · cases h
  · rename_i hargs
    split at h
    · cases h
    · cases h
    · rename_i hown
      have hown' : OwnOk ty := by
        intro a ha
        subst ha
        simp only at hown
        split at hown
        · cases hown
        · rename_i hc
          simp only [Option.some.injEq] at hown
          exact boundsErrors_nil (by simpa using hc) hown
      refine ⟨hown', ?_⟩
      intro hrt
      simp only [hrt, if_true] at hargs h
      refine ⟨hargs, ?_⟩
      split at h
      · cases h
      · rename_i cls hcls
        refine ⟨cls, hcls, ?_⟩
        split at h
        · cases h
        · rename_i hh; simpa using hh

theorem gate_own {t : ATree} (h : gate t = some []) : OwnOk t.ty := by
  cases t with
  | node isFn ty args => exact (gate_node h).1

theorem cppTypeForRange_eq_find (lo hi : Int) :
    cppTypeForRange lo hi = [CType.i32, .u32, .i64, .u64].find? (fun t => t.lo ≤ lo && hi ≤ t.hi) := by
  have ite_match {α : Type} (b : Bool) (x y : α) :
      (if b = true then x else y) = (match b with | true => x | false => y) := by cases b <;> rfl
  simp only [cppTypeForRange, List.find?_cons, List.find?_nil, CType.lo, CType.hi, ite_match]
  rfl

theorem cppTypeForRange_contains {lo hi : Int} {t : CType} (h : cppTypeForRange lo hi = some t) :
    t.lo ≤ lo ∧ hi ≤ t.hi := by
  rw [cppTypeForRange_eq_find] at h
  simpa using List.find?_some h

theorem cppTypeForRange_of_within {lo hi : Int} {t : CType} (h : t.lo ≤ lo ∧ hi ≤ t.hi) :
    ∃ it, cppTypeForRange lo hi = some it := by
  rw [cppTypeForRange_eq_find, ← Option.isSome_iff_exists, List.find?_isSome]
  exact ⟨t, by cases t <;> simp, by simpa using h⟩

theorem fitsI64_iff {lo hi : Int} : fitsI64 lo hi = true ↔ CType.i64.lo ≤ lo ∧ hi ≤ CType.i64.hi := by
  simp [fitsI64, CType.lo, CType.hi]

theorem fitsU64_iff {lo hi : Int} : fitsU64 lo hi = true ↔ CType.u64.lo ≤ lo ∧ hi ≤ CType.u64.hi := by
  simp [fitsU64, CType.lo, CType.hi]

theorem cppTypeForRange_exists {lo hi : Int} (h : fitsAny64 lo hi = true) :
    ∃ t, cppTypeForRange lo hi = some t := by
  rcases Bool.or_eq_true _ _ ▸ h with h | h
  · exact cppTypeForRange_of_within (fitsU64_iff.mp h)
  · exact cppTypeForRange_of_within (fitsI64_iff.mp h)

theorem hullOf_within : ∀ {rs : List (Int × Int)} {lo hi A B : Int}, hullOf rs = some (lo, hi) →
    ((A ≤ lo ∧ hi ≤ B) ↔ ∀ p ∈ rs, A ≤ p.1 ∧ p.2 ≤ B)
  | [], _, _, _, _, h => by cases h
  | q :: r, lo, hi, A, B, h => by
    rw [List.forall_mem_cons]
    simp only [hullOf] at h
    split at h <;> cases h
    · rename_i hr
      cases r with
      | nil => simp
      | cons x xs => simp only [hullOf] at hr; split at hr <;> cases hr
    · rename_i q' hr
      rw [← hullOf_within hr, ← Int.min_def, ← Int.max_def, Int.le_min, Int.max_le]
      exact and_and_and_comm

theorem one_type_of_within {rs : List (Int × Int)} {t : CType} (h : ∀ p ∈ rs, t.lo ≤ p.1 ∧ p.2 ≤ t.hi) :
    hullOf rs = none ∨
    ∃ lo hi it, hullOf rs = some (lo, hi) ∧ cppTypeForRange lo hi = some it ∧
      ∀ p ∈ rs, it.lo ≤ p.1 ∧ p.2 ≤ it.hi := by
  cases hh : hullOf rs with
  | none => exact Or.inl rfl
  | some p =>
    obtain ⟨it, hit⟩ := cppTypeForRange_of_within ((hullOf_within hh).mpr h)
    exact Or.inr ⟨_, _, it, rfl, hit, (hullOf_within hh).mp (cppTypeForRange_contains hit)⟩

/-- class 1 is "uint64 only", class 2 "int64 only" (`clauseClass`) -/
theorem clauseClass_fin {a : AVal} {lo hi : Int} {c : Nat} (h1 : a.min = .fin lo) (h2 : a.max = .fin hi)
    (hany : fitsAny64 lo hi = true) (h : clauseClass (.int a) = some c) :
    (c ≠ 1 → CType.i64.lo ≤ lo ∧ hi ≤ CType.i64.hi) ∧ (c ≠ 2 → CType.u64.lo ≤ lo ∧ hi ≤ CType.u64.hi) := by
  simp only [clauseClass, h1, h2] at h
  simp only [fitsAny64, Bool.or_eq_true] at hany
  simp only [← fitsI64_iff, ← fitsU64_iff]
  split at h
  · rename_i hi64
    cases h
    exact ⟨fun hc => absurd rfl hc, fun _ => hany.resolve_right (by simpa using hi64)⟩
  · rename_i hi64
    split at h <;> cases h
    · exact ⟨fun _ => by simpa using hi64, fun hc => absurd rfl hc⟩
    · rename_i hu64
      exact ⟨fun _ => by simpa using hi64, fun _ => by simpa using hu64⟩

/-- used with `k = 1, t = i64` and `k = 2, t = u64`: `hk` is a half of `clauseClass_fin` -/
theorem classes_ranges {k : Nat} {t : CType}
    (hk : ∀ {a : AVal} {lo hi : Int} {c : Nat}, a.min = .fin lo → a.max = .fin hi →
      fitsAny64 lo hi = true → clauseClass (.int a) = some c → c ≠ k → t.lo ≤ lo ∧ hi ≤ t.hi) :
    ∀ {tys : List AType} {cls : List Nat}, (∀ ty ∈ tys, OwnOk ty) → clauseClasses tys = some cls →
      cls.contains k = false → ∃ rs, intRanges tys = some rs ∧ ∀ p ∈ rs, t.lo ≤ p.1 ∧ p.2 ≤ t.hi
  | [], _, _, _, _ => ⟨[], rfl, nofun⟩
  | ty :: r, cls, hown, h, hn => by
    simp only [clauseClasses] at h
    split at h <;> try cases h
    rename_i c l hc hl
    simp only [List.contains_cons, Bool.or_eq_false_iff] at hn
    obtain ⟨rs, hrs, h1⟩ := classes_ranges hk (fun t ht => hown t (List.mem_cons_of_mem _ ht)) hl hn.2
    cases ty with
    | int a =>
      obtain ⟨lo, hi, e1, e2, hany⟩ := hown (.int a) List.mem_cons_self a rfl
      refine ⟨(lo, hi) :: rs, by simp [intRanges, rangeOf, e1, e2, hrs], ?_⟩
      rw [List.forall_mem_cons]
      exact ⟨hk e1 e2 hany hc (by intro hh; subst hh; simp at hn), h1⟩
    | bool b | enum b => exact ⟨rs, by simp [intRanges, hrs], h1⟩

theorem argTys_eq_map : ∀ args : List ATree, argTys args = args.map ATree.ty
  | [] => rfl
  | a :: as => by rw [argTys, argTys_eq_map as, List.map_cons]

theorem gate_one_type {ty : AType} {args : List ATree}
    (h : gate (.node true ty args) = some []) (hnc : isConstType ty = false) :
    (∀ t ∈ args, gate t = some []) ∧
    ∃ rs, intRanges (ty :: argTys args) = some rs ∧
      (hullOf rs = none ∨
       ∃ lo hi it, hullOf rs = some (lo, hi) ∧ cppTypeForRange lo hi = some it ∧
         ∀ p ∈ rs, it.lo ≤ p.1 ∧ p.2 ≤ it.hi) := by
  obtain ⟨hown, hrt⟩ := gate_node h
  obtain ⟨hargs, cls, hcls, hmix⟩ := hrt (by simp [hnc])
  have hall := gateArgs_nil hargs
  refine ⟨hall, ?_⟩
  have hown' : ∀ t ∈ ty :: argTys args, OwnOk t := by
    rw [argTys_eq_map, List.forall_mem_cons, List.forall_mem_map]
    exact ⟨hown, fun t' ht' => gate_own (hall t' ht')⟩
  have hfit : ∃ (t : CType) (rs : _), intRanges (ty :: argTys args) = some rs ∧
      ∀ p ∈ rs, t.lo ≤ p.1 ∧ p.2 ≤ t.hi := by
    cases c1 : cls.contains 1
    · exact ⟨.i64, classes_ranges (fun e1 e2 ha hc => (clauseClass_fin e1 e2 ha hc).1) hown' hcls c1⟩
    · cases c2 : cls.contains 2
      · exact ⟨.u64, classes_ranges (fun e1 e2 ha hc => (clauseClass_fin e1 e2 ha hc).2) hown' hcls c2⟩
      · exact absurd ⟨c1, c2⟩ hmix
  obtain ⟨t, rs, hrs, ht⟩ := hfit
  exact ⟨rs, hrs, one_type_of_within ht⟩

end Emboss.Bounds
