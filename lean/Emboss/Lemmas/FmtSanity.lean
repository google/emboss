/-
The comparison loop of `sanity_check_format_result`: when it answers `ok` and when
`differs k` (the third answer follows in Properties/C11.lean).
-/
import Emboss.Model.Fmt
namespace Emboss.Fmt

/-- Two tokens the self-check regards as equal. -/
def tokEq (a b : Tok) : Prop := a.sym = b.sym ∧ strip a.text = strip b.text

instance (a b : Tok) : Decidable (tokEq a b) := by unfold tokEq; exact inferInstance

/-- The collapsed streams agree: same length, pairwise `tokEq`. -/
inductive StreamsAgree : List Tok → List Tok → Prop
  | nil : StreamsAgree [] []
  | cons {a b : Tok} {os fs : List Tok} : tokEq a b → StreamsAgree os fs → StreamsAgree (a :: os) (b :: fs)

theorem StreamsAgree.length_eq {o f : List Tok} (h : StreamsAgree o f) : o.length = f.length := by
  induction h with
  | nil => rfl
  | cons _ _ ih => simp [ih]

theorem sanityLoop_cons (i : Nat) (a b : Tok) (os fs : List Tok) :
    sanityLoop i (a :: os) (b :: fs) = if tokEq a b then sanityLoop (i + 1) os fs else .differs i := by
  simp only [sanityLoop, tokEq, ne_eq, ← Decidable.not_and_iff_not_or_not, ite_not]

theorem sanityLoop_ok_iff : ∀ (o f : List Tok) (i : Nat),
    sanityLoop i o f = .ok ↔ StreamsAgree o f
  | [], [], _ => ⟨fun _ => .nil, fun _ => rfl⟩
  | [], _ :: _, _ => ⟨nofun, nofun⟩
  | _ :: _, [], _ => ⟨nofun, nofun⟩
  | a :: os, b :: fs, i => by
    rw [sanityLoop_cons]
    split
    · rename_i hab
      rw [sanityLoop_ok_iff os fs (i + 1)]
      exact ⟨.cons hab, fun | .cons _ h => h⟩
    · rename_i hab
      exact ⟨nofun, fun | .cons h _ => absurd h hab⟩

/-- Position `j` is the first one at which the streams differ: they agree before it and
both have a token at `j`, which the self-check regards as different. -/
def FirstDiff (o f : List Tok) (j : Nat) : Prop :=
  ∃ o1 a o2 f1 b f2, o = o1 ++ a :: o2 ∧ f = f1 ++ b :: f2 ∧ StreamsAgree o1 f1 ∧
    o1.length = j ∧ ¬ tokEq a b

theorem sanityLoop_agree {o1 f1 : List Tok} (h : StreamsAgree o1 f1) (o2 f2 : List Tok) :
    ∀ i, sanityLoop i (o1 ++ o2) (f1 ++ f2) = sanityLoop (i + o1.length) o2 f2 := by
  induction h with
  | nil => intro i; rfl
  | cons hab _ ih =>
    intro i
    rw [List.cons_append, List.cons_append, sanityLoop_cons, if_pos hab, ih, List.length_cons,
      Nat.add_right_comm, Nat.add_assoc]

theorem firstDiff_of_differs : ∀ (o f : List Tok) (i k : Nat),
    sanityLoop i o f = .differs k → ∃ j, k = i + j ∧ FirstDiff o f j
  | [], [], _, _ => nofun
  | [], _ :: _, _, _ => nofun
  | _ :: _, [], _, _ => nofun
  | a :: os, b :: fs, i, k => by
    rw [sanityLoop_cons]
    split
    · rename_i hab
      intro h
      obtain ⟨j, hk, o1, a', o2, f1, b', f2, rfl, rfl, hag, hlen, hn⟩ := firstDiff_of_differs os fs (i + 1) k h
      exact ⟨j + 1, by omega, a :: o1, a', o2, b :: f1, b', f2, rfl, rfl, .cons hab hag,
        congrArg (· + 1) hlen, hn⟩
    · rename_i hnab
      intro h
      cases h
      exact ⟨0, rfl, [], a, os, [], b, fs, rfl, rfl, .nil, rfl, hnab⟩

theorem sanityLoop_differs_iff (o f : List Tok) (i k : Nat) :
    sanityLoop i o f = .differs k ↔ ∃ j, k = i + j ∧ FirstDiff o f j := by
  refine ⟨firstDiff_of_differs o f i k, ?_⟩
  rintro ⟨_, rfl, o1, a, o2, f1, b, f2, rfl, rfl, hag, rfl, hn⟩
  rw [sanityLoop_agree hag, sanityLoop_cons, if_neg hn]

end Emboss.Fmt
