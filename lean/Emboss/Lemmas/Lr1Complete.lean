/-
Completeness of the shift-reduce driver over a validated table: for every parse tree `t` of
`G` whose yield is the next part of the input, the parser — sitting in a state that has an
item with `t.root` after the dot, and whose lookahead after `t` is compatible — pushes
exactly `t` (standard LR(1) argument, by induction on the tree; the FIRST table only needs
to be closed).  Positions are spoken of through what is left of the input (`w.drop k = t.yield ++
rest`, the lookahead after `t` is `lookahead A rest 0`), so there is no arithmetic on the cursor.
-/
import Emboss.Lemmas.Lr1Sound
namespace Emboss.Lr1

variable {G : Grammar} {A : Automaton} {C : Cert}

/-! ### FIRST is complete for parse trees -/

def FirstOK (C : Cert) (t : Tree) : Prop :=
  (t.yield = [] → C.nullableOf t.root = true) ∧
  (∀ tok ys, t.yield = tok :: ys → tok.sym ∈ C.firstOf t.root)

/-- the symbol under the cursor is in FIRST of the roots followed by `tail`; only an empty forest asks for `tail` -/
theorem first_list (A : Automaton) : ∀ (cs : List Tree), (∀ c ∈ cs, FirstOK C c) →
    (Tree.yieldL cs = [] → (cs.map Tree.root).all C.nullableOf = true) ∧
    ∀ (rest : List Token) (tail : List Nat), (Tree.yieldL cs = [] → lookahead A rest 0 ∈ tail) →
      lookahead A (Tree.yieldL cs ++ rest) 0 ∈ C.firstSeq (cs.map Tree.root) tail
  | [], _ => ⟨fun _ => rfl, fun _ _ h => h rfl⟩
  | c :: cs, h => by
    have hc := h c List.mem_cons_self
    have ih := first_list A cs (fun c' hc' => h c' (List.mem_cons_of_mem _ hc'))
    simp only [Tree.yieldL, List.map_cons, Cert.firstSeq]
    cases hy : c.yield with
    | nil =>
      simp only [List.nil_append, hc.1 hy, if_true, List.all_cons, Bool.true_and]
      exact ⟨ih.1, fun rest tail h' => List.mem_append_right _ (ih.2 rest tail h')⟩
    | cons tok ys => exact ⟨nofun, fun _ _ _ => List.mem_append_left _ (hc.2 tok ys hy)⟩

theorem first_tree (hv : Valid G A C) : ∀ {t : Tree}, ParseTree G t → FirstOK C t := by
  intro t ht
  induction ht with
  | leaf tok hnt =>
    refine ⟨by simp [Tree.yield], ?_⟩
    intro tok' ys h
    simp only [Tree.yield, List.cons.injEq] at h
    rw [← h.1]
    simp [Cert.firstOf, hv.isNT, Tree.root, hnt]
  | node p cs hp _ hroots ih =>
    have hf := hv.first p (by rw [hv.rules_eq]; exact List.mem_append_left _ hp)
    have hl := first_list A cs ih
    rw [hroots] at hl
    refine ⟨fun hy => hf.1 (hl.1 hy), fun tok ys hy => hf.2 _ ?_⟩
    rw [Tree.yield] at hy
    simpa [hy, lookahead] using hl.2 [] [] (by simp [hy])

theorem first_forest (hv : Valid G A C) {cs : List Tree} (hcs : ∀ c ∈ cs, ParseTree G c)
    (rest : List Token) :
    lookahead A (Tree.yieldL cs ++ rest) 0 ∈ C.firstSeq (cs.map Tree.root) [lookahead A rest 0] :=
  (first_list A cs fun c hc => first_tree hv (hcs c hc)).2 rest _ fun _ => List.mem_cons_self

/-! ### the parser pushes exactly the tree -/

theorem lookahead_of_drop {w rest : List Token} {k : Nat} (h : w.drop k = rest) :
    lookahead A w k = lookahead A rest 0 := by
  simp [lookahead, ← h]

/-- the induction hypothesis of completeness -/
def Pushes (A : Automaton) (C : Cert) (w : List Token) (t : Tree) : Prop :=
  ∀ (st : List (Nat × Tree)) (k pi d la : Nat) (q : Rule) (rest : List Token),
    (⟨pi, d, la⟩ : Item) ∈ C.itemsOf (topState st) → C.ruleAt pi = some q → q.rhs[d]? = some t.root →
    w.drop k = t.yield ++ rest → lookahead A rest 0 ∈ C.firstSeq (q.rhs.drop (d + 1)) [la] →
    ∃ s' k', w.drop k' = rest ∧ Reaches A w ⟨st, k⟩ ⟨(s', t) :: st, k'⟩ ∧
      (⟨pi, d + 1, la⟩ : Item) ∈ C.itemsOf s'

theorem parse_children (hv : Valid G A C) (w : List Token) : ∀ (cs : List Tree),
    (∀ c ∈ cs, ParseTree G c ∧ Pushes A C w c) →
    ∀ (st : List (Nat × Tree)) (k pi d la : Nat) (q : Rule) (rest : List Token),
      (⟨pi, d, la⟩ : Item) ∈ C.itemsOf (topState st) → C.ruleAt pi = some q →
      cs.map Tree.root = q.rhs.drop d → w.drop k = Tree.yieldL cs ++ rest → lookahead A rest 0 = la →
      ∃ st' k', w.drop k' = rest ∧ Reaches A w ⟨st, k⟩ ⟨st' ++ st, k'⟩ ∧
        st'.map (·.2) = cs.reverse ∧
        (⟨pi, d + cs.length, la⟩ : Item) ∈ C.itemsOf (topState (st' ++ st))
  | [], _, st, k, pi, d, la, q, rest, hit, _, _, hd, _ =>
    ⟨[], k, hd, Reaches.refl _, rfl, by simpa using hit⟩
  | c :: cs, hcs, st, k, pi, d, la, q, rest, hit, hq, hroots, hd, hla => by
    obtain ⟨hpc, hbc⟩ := hcs c List.mem_cons_self
    have hcs' : ∀ c' ∈ cs, ParseTree G c' ∧ Pushes A C w c' := fun c' h => hcs c' (List.mem_cons_of_mem _ h)
    simp only [List.map_cons] at hroots
    obtain ⟨hx, hdrop⟩ := drop_eq_cons hroots.symm
    simp only [Tree.yieldL, List.append_assoc] at hd
    have hfirst : lookahead A (Tree.yieldL cs ++ rest) 0 ∈ C.firstSeq (q.rhs.drop (d + 1)) [la] := by
      rw [hdrop, ← hla]
      exact first_forest hv (fun c' h => (hcs' c' h).1) rest
    obtain ⟨s1, k1, hd1, hr1, hit1⟩ := hbc st k pi d la q _ hit hq hx hd hfirst
    obtain ⟨st2, k', hd', hr2, hm2, hit2⟩ :=
      parse_children hv w cs hcs' ((s1, c) :: st) k1 pi (d + 1) la q rest hit1 hq hdrop.symm hd1 hla
    refine ⟨st2 ++ [(s1, c)], k', hd', ?_, ?_, ?_⟩
    · rw [List.append_assoc]
      exact hr1.trans hr2
    · rw [List.map_append, hm2, List.reverse_cons]
      rfl
    · rw [List.append_assoc, List.length_cons, Nat.add_comm cs.length, ← Nat.add_assoc]
      exact hit2

theorem parse_tree (hv : Valid G A C) (w : List Token) (hw : ∀ t ∈ w, t.sym ≠ A.eoi) :
    ∀ {t : Tree}, ParseTree G t → Pushes A C w t := by
  intro t ht
  induction ht with
  | leaf tok hnt =>
    intro st k pi d la q rest hit hq hx hd _
    have hs := Cert.lt_of_mem hit
    have hns : tok.sym ∈ C.nextSyms ⟨pi, d, la⟩ := (Cert.mem_nextSyms hq).mpr hx
    obtain ⟨a, (ha' : A.entry (topState st) tok.sym = some a), s', hs', hadv⟩ :=
      (hv.trans _ hs _ hit _ hns).2 (by rw [hv.isNT]; exact hnt)
    cases Action.shiftTarget_eq_some.mp hs'
    obtain ⟨hwk, hd'⟩ := drop_eq_cons (xs := rest) hd
    have hla : lookahead A w k = tok.sym := by simp [lookahead, hwk]
    have hact : nextAction A w (topState st) k = .shift s' :=
      nextAction_of_entry (clientEoi_false_of_forall hw _) hla ha'
    refine ⟨s', k + 1, hd', Reaches.step ?_, hadv⟩
    rw [step_shift hact, hwk]
  | node p cs hp hcs hroots ih =>
    intro st k pi d la q rest hit hq hx hd hfirst
    have hs := Cert.lt_of_mem hit
    simp only [Tree.root] at hx
    simp only [Tree.yield] at hd
    obtain ⟨j, hjlt, hjr, hAp, hjp⟩ := hv.index_of_mem hp
    -- closure: the dot-0 item of p with the right lookahead is in the state
    have hcl' : (⟨j, 0, lookahead A rest 0⟩ : Item) ∈ C.itemsOf (topState st) :=
      hv.closure _ hs _ hit q hq p.lhs hx j hjp _ hfirst
    obtain ⟨st', k', hd', hr, hm, hit'⟩ :=
      parse_children hv w cs (fun c hc => ⟨hcs c hc, ih c hc⟩) st k j 0 _ p rest hcl' hjr
        (by simpa using hroots) hd rfl
    -- the complete item reduces on exactly this lookahead
    have hlen : cs.length = p.rhs.length := by rw [← hroots]; simp
    have hst'len : st'.length = p.rhs.length := by
      have := congrArg List.length hm; simpa [hlen] using this
    have hs' := Cert.lt_of_mem hit'
    have hcomp := hv.complete _ hs' _ hit' p hjr (by simp [hlen])
    rw [if_neg (Nat.ne_of_lt hjlt)] at hcomp
    -- goto from the state below
    have hns : p.lhs ∈ C.nextSyms ⟨pi, d, la⟩ := (Cert.mem_nextSyms hq).mpr hx
    obtain ⟨s2, (hg' : A.gotoOf (topState st) p.lhs = some s2), hadv⟩ :=
      (hv.trans _ hs _ hit _ hns).1 (hv.isNT_lhs (Cert.ruleAt_mem hv.rules_eq hjr))
    have hact : nextAction A w (topState (st' ++ st)) k' = .reduce j :=
      nextAction_of_entry (clientEoi_false_of_forall hw _) (lookahead_of_drop hd') hcomp
    refine ⟨s2, k', hd', hr.trans (Reaches.step ?_), hadv⟩
    rw [step_reduce_pop hact hAp hst'len, hg', hm, List.reverse_reverse]

/-- the leaves of a parse tree whose root is not the end-of-input marker are not client
end-of-input tokens (no production mentions the marker) -/
theorem yield_no_eoi (hv : Valid G A C) : ∀ {t : Tree}, ParseTree G t → t.root ≠ G.eoi →
    ∀ tok ∈ t.yield, tok.sym ≠ G.eoi := by
  intro t ht
  induction ht with
  | leaf tok _ =>
    intro hr tok' h
    simp only [Tree.yield, List.mem_singleton] at h
    subst h; exact hr
  | node p cs hp _ hroots ih =>
    intro _ tok h
    rw [Tree.yield, yieldL_eq] at h
    obtain ⟨c, hc, h⟩ := List.mem_flatMap.mp h
    refine ih c hc ((hv.no_eoi (List.mem_append_left _ hp)).2 _ ?_) tok h
    rw [← hroots]; exact List.mem_map_of_mem hc

theorem reaches_accept (hv : Valid G A C) {t : Tree} {w : List Token} (hd : Derives G t w) :
    ∃ s' k, Reaches A w init ⟨[(s', t)], k⟩ ∧ step A w ⟨[(s', t)], k⟩ = .done (.accept t) := by
  obtain ⟨hp, hr, hy⟩ := hd
  have hw : ∀ t ∈ w, t.sym ≠ A.eoi := by
    rw [hv.eoi_eq, ← hy]
    exact yield_no_eoi hv hp (by rw [hr]; exact hv.start_ne_eoi)
  have hit : (⟨C.seedIdx, 0, G.eoi⟩ : Item) ∈ C.itemsOf (topState []) := hv.start.1
  obtain ⟨s', k, hk, hreach, hit'⟩ := parse_tree (A := A) hv w hw hp [] 0 C.seedIdx 0 G.eoi G.seed []
    hit (Cert.ruleAt_seed hv.rules_eq) (by simp [Grammar.seed, hr]) (by simp [hy])
    (by simp [Grammar.seed, Cert.firstSeq, lookahead, hv.eoi_eq])
  refine ⟨s', k, hreach, ?_⟩
  have hcomp := hv.complete _ (Cert.lt_of_mem hit') _ hit' G.seed (Cert.ruleAt_seed hv.rules_eq)
    (by simp [Grammar.seed])
  simp only [if_true] at hcomp
  have hla : lookahead A w k = A.eoi := lookahead_of_drop hk
  have hact : nextAction A w s' k = .accept :=
    nextAction_of_entry (clientEoi_false_of_forall hw _) (hla.trans hv.eoi_eq) hcomp
  rw [step_accept (c := ⟨[(s', t)], k⟩) hact]
  exact if_pos hla

theorem run_complete (hv : Valid G A C) {t : Tree} {w : List Token} (hd : Derives G t w) :
    ∃ f0, ∀ fuel, f0 ≤ fuel → run A fuel w = .accept t := by
  obtain ⟨s', k, ⟨n, hn⟩, hstep⟩ := reaches_accept hv hd
  refine ⟨n + 1, fun fuel hf => ?_⟩
  obtain ⟨f, rfl⟩ : ∃ f, fuel = n + (f + 1) := ⟨fuel - n - 1, by omega⟩
  unfold run
  rw [runFrom_stepsTo _ hn]
  simp [runFrom, hstep]

theorem run_accepts_iff (hv : Valid G A C) {w : List Token} (t : Tree) :
    (∃ fuel, run A fuel w = .accept t) ↔ Derives G t w :=
  ⟨fun ⟨_, h⟩ => run_post hv h,
    fun hd => (run_complete hv hd).imp fun f hf => hf f (Nat.le_refl f)⟩

end Emboss.Lr1
