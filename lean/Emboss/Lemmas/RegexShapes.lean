/-
Literal heads of patterns (C10): `litC`, `litThen` and `litRegex` for the matcher
(`matchLen_litRegex` = `str.startswith`), for the language (`lang_litThen_iff`,
`lang_litRegex_iff`), for `Heads` and for `Compat`; `span` on concatenations, and `D{n}`
through it (`rep_exact`).
-/
import Emboss.Lemmas.RegexLongest
namespace Emboss.Regex

theorem seq_chr_fail (c : CClass) (r : Regex) (x : Char) (s : List Char) (hc : c.mem x = false) :
    matchLen (.seq (.chr c) r) (x :: s) = .fail := by
  simp [matchLen, matchK, hc]

def litC (c : Char) : CClass := ⟨false, [.range c.toNat c.toNat]⟩

theorem range_single (a n : Nat) : (decide (a ≤ n) && decide (n ≤ a)) = (n == a) := by
  by_cases h : n = a
  · subst h; simp
  · have : (n == a) = false := by simp [h]
    rw [this]; simp only [Bool.and_eq_false_iff, decide_eq_false_iff_not]; omega

@[simp] theorem litC_mem (c x : Char) : (litC c).mem x = (x == c) := by
  simp only [litC, CClass.mem, List.any_cons, List.any_nil, CItem.mem, Bool.or_false, Bool.false_bne,
    range_single]
  exact Bool.eq_iff_iff.mpr (by rw [beq_iff_eq, beq_iff_eq]; exact Char.toNat_inj)

/-- A literal prefix followed by `r`, right-nested as the translator emits it. -/
def litThen : List Char → Regex → Regex
  | [], r => r
  | c :: cs, r => .seq (.chr (litC c)) (litThen cs r)

theorem matchK_litThen (l : List Char) (r : Regex) : ∀ (s : List Char) (k : List Char → MRes),
    matchK (litThen l r) s k = if l.isPrefixOf s then matchK r (s.drop l.length) k else .fail := by
  induction l with
  | nil => intro s k; simp [litThen]
  | cons c cs ih =>
    intro s k
    cases s with
    | nil => simp [litThen]
    | cons x t =>
      simp only [litThen, matchK_seq, matchK_chr_cons, litC_mem, List.isPrefixOf, List.length_cons,
        List.drop_succ_cons]
      by_cases h : x = c
      · subst h; simp [ih]
      · have : (c == x) = false := by simp; exact fun hh => h hh.symm
        simp [h, this]

theorem matchK_litRegex (l : List Char) : ∀ (s : List Char) (k : List Char → MRes),
    matchK (litRegex l) s k = if l.isPrefixOf s then k (s.drop l.length) else .fail := by
  have key : ∀ l s k, matchK (litRegex l) s k = matchK (litThen l .eps) s k := by
    intro l
    induction l with
    | nil => exact fun _ _ => rfl
    | cons c cs ih =>
      intro s k
      cases cs with
      | nil => rfl
      | cons d ds => exact congrArg (matchK (.chr (litC c)) s) (funext fun t => ih t k)
  intro s k
  rw [key, matchK_litThen]
  rfl

/-- `str.startswith`. -/
theorem matchLen_litRegex (l s : List Char) :
    matchLen (litRegex l) s = if l.isPrefixOf s then .ok l.length else .fail := by
  rw [matchLen, matchK_litRegex]
  split
  · rename_i h
    exact congrArg MRes.ok (by
      rw [List.length_drop, Nat.sub_sub_self (List.isPrefixOf_iff_prefix.mp h).length_le])
  · rfl

theorem alt_lit_value (a b s : List Char) : matchLen (.alt (litRegex a) (litRegex b)) s =
    if a.isPrefixOf s then .ok a.length
    else if b.isPrefixOf s then .ok b.length else .fail := by
  show (match matchLen (litRegex a) s with | .fail => matchLen (litRegex b) s | x => x) = _
  rw [matchLen_litRegex, matchLen_litRegex]
  by_cases ha : a.isPrefixOf s = true
  · rw [if_pos ha, if_pos ha]
  · rw [if_neg ha, if_neg ha]

theorem lang_litC_iff {c : Char} {p q : List Char} : Lang (.chr (litC c)) p q ↔ p = [c] := by
  rw [lang_chr_iff]
  constructor
  · rintro ⟨x, rfl, hx⟩
    rw [litC_mem, beq_iff_eq] at hx
    rw [hx]
  · rintro rfl
    exact ⟨c, rfl, by rw [litC_mem]; exact beq_self_eq_true c⟩

theorem lang_litThen_iff : ∀ (l : List Char) {R : Regex} {p q : List Char},
    Lang (litThen l R) p q ↔ ∃ t, p = l ++ t ∧ Lang R t q
  | [], _, p, _ => ⟨fun h => ⟨p, rfl, h⟩, fun ⟨_, hp, h⟩ => hp ▸ h⟩
  | c :: cs, R, p, q => by
    rw [litThen, lang_seq_iff]
    constructor
    · rintro ⟨u, v, rfl, h1, h2⟩
      obtain ⟨t, rfl, ht⟩ := (lang_litThen_iff cs).mp h2
      rw [lang_litC_iff.mp h1]
      exact ⟨t, rfl, ht⟩
    · rintro ⟨t, rfl, ht⟩
      exact ⟨[c], cs ++ t, rfl, lang_litC_iff.mpr rfl, (lang_litThen_iff cs).mpr ⟨t, rfl, ht⟩⟩

theorem lang_litRegex_iff : ∀ (l : List Char) {p q : List Char}, Lang (litRegex l) p q ↔ p = l
  | [], _, _ => lang_eps_iff
  | [_], _, _ => lang_litC_iff
  | c :: d :: cs, p, q => by
    show Lang (.seq (.chr (litC c)) (litRegex (d :: cs))) p q ↔ _
    rw [lang_seq_iff]
    constructor
    · rintro ⟨u, v, rfl, h1, h2⟩
      rw [lang_litC_iff.mp h1, (lang_litRegex_iff (d :: cs)).mp h2]
      rfl
    · rintro rfl
      exact ⟨[c], d :: cs, rfl, lang_litC_iff.mpr rfl, (lang_litRegex_iff (d :: cs)).mpr rfl⟩

theorem heads_litC (q : Char) : Heads (.chr (litC q)) (· = q) :=
  heads_chr fun x h => by simpa using h

theorem heads_litRegex (x : Char) (l : List Char) : Heads (litRegex (x :: l)) (· = x) := by
  cases l with
  | nil => exact heads_litC x
  | cons d ds => exact heads_seq (heads_litC x) nofun

theorem compat_litThen (l : List Char) {X R : Regex} (h : Compat X R) : Compat (litThen l X) R := by
  induction l with
  | nil => exact h
  | cons c cs ih => exact .chr_seq ih

theorem compat_litRegex : ∀ (l : List Char) (R : Regex), Compat (litRegex l) R
  | [], _ => trivial
  | [_], _ => trivial
  | _ :: d :: cs, R => .chr_seq (compat_litRegex (d :: cs) R)

theorem noEol_litRegex : ∀ l : List Char, noEol (litRegex l) = true := by
  intro l
  induction l with
  | nil => rfl
  | cons c cs ih =>
    cases cs with
    | nil => rfl
    | cons d ds => simp only [litRegex, noEol, Bool.true_and]; exact ih

theorem noEol_litThen (l : List Char) (R : Regex) : noEol (litThen l R) = noEol R := by
  induction l with
  | nil => rfl
  | cons c cs ih => simp only [litThen, noEol, Bool.true_and]; exact ih

theorem take_span_all (c : CClass) (s : List Char) (j : Nat) (hj : j ≤ span c s) :
    (s.take j).all c.mem = true :=
  -- `s.take j` is a prefix of the run `s.takeWhile c.mem`
  List.all_eq_true.mpr fun x hx => List.all_eq_true.mp List.all_takeWhile x
    ((List.prefix_of_prefix_length_le (List.take_prefix j s) (List.takeWhile_prefix c.mem)
      (Nat.le_trans (List.length_take_le j s) hj)).subset hx)

theorem span_append_all (c : CClass) (g w : List Char) (h : g.all c.mem = true) :
    span c (g ++ w) = g.length + span c w := by
  rw [span, List.takeWhile_append_of_pos (List.all_eq_true.mp h), List.length_append]; rfl

theorem span_ge_of_all (c : CClass) (g r : List Char) (h : g.all c.mem = true) :
    g.length ≤ span c (g ++ r) :=
  span_append_all c g r h ▸ Nat.le_add_right ..

theorem span_stop {c : CClass} {rest : List Char}
    (hrest : ∀ x, rest.head? = some x → c.mem x = false) : span c rest = 0 := by
  cases rest with
  | nil => rfl
  | cons x t => rw [span_cons, if_neg (by rw [hrest x rfl]; exact Bool.false_ne_true)]

theorem span_append_full (c : CClass) (w rest : List Char)
    (hrest : ∀ x, rest.head? = some x → c.mem x = false) :
    span c (w ++ rest) = w.length ↔ w.all c.mem = true := by
  constructor
  · intro h
    have := take_span_all c (w ++ rest) w.length (Nat.le_of_eq h.symm)
    rwa [List.take_left' rfl] at this
  · intro h
    rw [span_append_all c w rest h, span_stop hrest]; rfl

theorem span_append_le (c : CClass) (w rest : List Char)
    (hrest : ∀ x, rest.head? = some x → c.mem x = false) :
    span c (w ++ rest) ≤ w.length := by
  rw [span, List.takeWhile_append]
  split
  · rw [List.length_append, show (rest.takeWhile c.mem).length = 0 from span_stop hrest]
    exact Nat.le_refl _
  · exact (List.takeWhile_prefix _).length_le

/-- `D{n}`: exactly `n` characters of the class, no choice. -/
theorem rep_exact (c : CClass) (k : List Char → MRes) : ∀ (n : Nat) (s : List Char),
    matchK (.rep (.chr c) n (some n)) s k = if n ≤ span c s then k (s.drop n) else .fail := by
  intro n
  induction n with
  | zero => intro s; rw [matchK_rep]; simp
  | succ n ih =>
    intro s
    cases s with
    | nil => rw [rep_chr_nil]; simp
    | cons x t =>
      rw [rep_chr_cons, span_cons]
      by_cases hc : c.mem x = true
      · simp only [ne_eq, Option.some.injEq, Nat.add_eq_zero_iff, Nat.succ_ne_self, and_false,
          not_false_eq_true, hc, and_self, if_true, Option.map_some, Nat.add_sub_cancel, ih,
          Nat.add_le_add_iff_right, List.drop_succ_cons]
        split
        · rename_i h; exact h.symm
        · rfl
      · simp [hc]

end Emboss.Regex
