/- The end of `strong_connect` establishes `Post`; `strongConnect` and the loop over the keys, ending in
`tarjan_final` and `findCycles_eq`, the two facts `Properties/C15` uses. -/
import Emboss.Lemmas.TarjanInv
namespace Emboss.Deps

variable {g : Graph} {v : Nat} {s0 t : TState} {seg : List Nat}

/-- At a root the edges out of `seg ++ [v]` land at index `lowlink[v] = index[v]` or above, clear of
the older part of the stack. -/
theorem LoopInv.root_edges (hL : LoopInv g v s0 t seg (lw t v) (succs g v))
    (heq : lw t v = ix t v) :
    ∀ w ∈ seg ++ [v], ∀ d, Edge g w d → indexed t d = true ∧ d ∉ s0.stack := by
  intro w hw d he
  have hd : EdgesOk t (lw t v) (succs g w) := by
    rcases List.mem_append.mp hw with hw | hw
    · exact (hL.segOk w hw).edges
    · rw [List.mem_singleton.mp hw]; exact hL.proc
  refine ⟨(hd d he).1, fun ho => ?_⟩
  have hlt := hL.inv.above hL.stk_comp v (List.mem_append_right _ (List.mem_singleton_self v)) d ho
  have hds : d ∈ t.stack := hL.stk ▸ List.mem_append_right _ (List.mem_cons_of_mem _ ho)
  exact Nat.lt_irrefl _ (Nat.lt_of_lt_of_le hlt (heq ▸ (hd d he).2 hds))

theorem LoopInv.root_scc (hL : LoopInv g v s0 t seg (lw t v) (succs g v))
    (heq : lw t v = ix t v) : IsSCC g (seg ++ [v]) := by
  have hstk := hL.stk_comp
  have memC : ∀ {y}, y ∈ seg ++ [v] ↔ y ∈ seg ∨ y = v := by
    intro y; rw [List.mem_append, List.mem_singleton]
  have edges := hL.root_edges heq
  -- by induction on the index: the node whose index is `lowlink[b]` is `v` or lower in `seg`
  have toV : ∀ n, ∀ b ∈ seg, ix t b ≤ n → Reach g b v := by
    intro n
    induction n with
    | zero =>
      intro b hb hle
      exact absurd (Nat.lt_of_lt_of_le (hL.inv.above hL.stk b hb v (List.mem_cons_self ..)) hle)
        (Nat.not_lt_zero _)
    | succ n ih =>
      intro b hb hle
      have b3 := hL.segOk b hb
      obtain ⟨_, y, hy1, hy2, hy3⟩ := hL.inv.low b (hL.stk ▸ List.mem_append_left _ hb)
      rw [hstk, List.mem_append, memC] at hy1
      rcases hy1 with (hy1 | rfl) | hy1
      · exact hy3.trans (ih y hy1 (Nat.le_of_lt_succ (Nat.lt_of_lt_of_le (hy2 ▸ b3.notRoot) hle)))
      · exact hy3
      · have hge : ix t v ≤ ix t y := by rw [hy2, ← heq]; exact b3.lowGe
        exact absurd (hL.inv.above hstk v (memC.mpr (.inr rfl)) y hy1) (Nat.not_lt.mpr hge)
  have scc : ∀ b, b ∈ seg ++ [v] ↔ Mutual g v b := by
    refine fun b => ⟨fun hb => ?_, fun ⟨h1, h2⟩ => ?_⟩
    · rcases memC.mp hb with hb | rfl
      · exact ⟨(hL.segOk b hb).reach, toV _ b hb (Nat.le_refl _)⟩
      · exact Mutual.refl _ _
    · -- what `v` reaches is in the component or done; what is done does not reach the stack
      let done := fun a => indexed t a = true ∧ a ∉ t.stack
      have hdone : ∀ a b, done a → Edge g a b → done b :=
        fun a b ha he => hL.inv.doneClosed a b ha.1 ha.2 he
      have hcl : ∀ a b, a ∈ seg ++ [v] ∨ done a → Edge g a b → b ∈ seg ++ [v] ∨ done b := by
        intro a b ha he
        rcases ha with ha | ha
        · obtain ⟨e1, e2⟩ := edges a ha b he
          by_cases hb : b ∈ seg ++ [v]
          · exact .inl hb
          · refine .inr ⟨e1, fun hbs => ?_⟩
            rw [hstk, List.mem_append] at hbs
            exact hbs.elim hb e2
        · exact .inr (hdone a b ha he)
      rcases Reach.closed hcl h1 (.inl (memC.mpr (.inr rfl))) with hb | hb
      · exact hb
      · exact absurd hL.v_mem (Reach.closed hdone h2 hb).2
  refine ⟨List.append_ne_nil_of_right_ne_nil _ (List.cons_ne_nil _ _), fun a ha b => ?_⟩
  have hma := (scc a).mp ha
  rw [scc b]
  exact ⟨fun h => hma.symm.trans h, fun h => hma.trans h⟩

theorem finish_post (hL : LoopInv g v s0 t seg (lw t v) (succs g v)) :
    Post g v s0 (finish g v t) := by
  by_cases heq : lw t v = ix t v
  · rw [finish_pop hL.inv.onst hL.stk (fun h => hL.seg_ne v h rfl) heq]
    exact { inv := hL.inv.pop hL.stk_comp (hL.root_edges heq) (hL.root_scc heq) rfl,
            old := hL.old, vidx := hL.vidx, stk := ⟨[], rfl, nofun⟩, vlow := .inr ⟨heq, rfl⟩ }
  · have : finish g v t = t := if_neg heq
    rw [this]
    refine { inv := hL.inv, old := hL.old, vidx := hL.vidx,
             stk := ⟨seg ++ [v], hL.stk_comp, fun w hw => ?_⟩,
             vlow := .inl hL.v_mem }
    rcases List.mem_append.mp hw with hw | hw
    · exact hL.segOk w hw
    · rw [List.mem_singleton.mp hw]
      exact ⟨.refl _, Nat.lt_of_le_of_ne (hL.inv.low v hL.v_mem).1 heq, Nat.le_refl _, hL.proc⟩

theorem strongConnect_spec (hc : closed g = true) :
    ∀ fuel, SCSpec g fuel (strongConnect g fuel) := by
  intro fuel
  induction fuel with
  | zero =>
    intro v s _ hi hv hf
    have hpos : 0 < unvisited g s := List.countP_pos_iff.mpr ⟨v, hv, by rw [hi]; rfl⟩
    exact absurd (Nat.lt_of_lt_of_le hpos hf) (Nat.lt_irrefl 0)
  | succ n ih =>
    intro v s hinv hi hv hf
    show Post g v s (finish g v (visitEdges (strongConnect g n) v (succs g v) (push v s)))
    have h0 := LoopInv.init hinv v hi
    obtain ⟨seg, h1⟩ := visitEdges_spec ih hc v s (succs g v) (push v s) _ _ h0 (fun d hd => hd)
      (Nat.le_of_lt_succ (Nat.lt_of_lt_of_le (unvisited_push hv hi) hf))
    exact finish_post h1

theorem Post.stack_nil {s s' : TState} (h : Post g v s s')
    (hs : s.stack = []) : s'.stack = [] := by
  rcases h.vlow with hv | ⟨_, he⟩
  · -- the node whose index is `lowlink[v]` would be a new node, with lowlink below its index
    obtain ⟨new, hstk, hnew⟩ := h.stk
    rw [hs, List.append_nil] at hstk
    obtain ⟨_, y, hy, hyix, _⟩ := h.inv.low v hv
    have hseg := hnew y (hstk ▸ hy)
    have := hseg.notRoot
    rw [hyix] at this
    exact absurd hseg.lowGe (Nat.not_le.mpr this)
  · rw [he, hs]

theorem tarjanLoop_spec (hc : closed g = true) (fuel : Nat) :
    ∀ (vs : List Nat) (s : TState), Inv g s → s.stack = [] → (∀ v ∈ vs, v ∈ keys g) →
      unvisited g s ≤ fuel →
      Inv g (tarjanLoop g fuel vs s) ∧ (tarjanLoop g fuel vs s).stack = [] ∧
      Keeps s (tarjanLoop g fuel vs s) ∧
      (∀ v ∈ vs, indexed (tarjanLoop g fuel vs s) v = true) := by
  intro vs
  induction vs with
  | nil => intro s hinv hs _ _; exact ⟨hinv, hs, fun _ hw => ⟨hw, rfl, rfl⟩, nofun⟩
  | cons v vs ih =>
    intro s hinv hs hk hf
    rw [tarjanLoop]
    generalize hs1 : (if indexed s v = false then strongConnect g fuel v s else s) = s1
    have step : Inv g s1 ∧ s1.stack = [] ∧ Keeps s s1 ∧ indexed s1 v = true := by
      subst hs1
      split
      · rename_i hi
        have hP := strongConnect_spec hc fuel v s hinv hi (hk v (List.mem_cons_self ..)) hf
        exact ⟨hP.inv, hP.stack_nil hs, hP.old, hP.vidx.1⟩
      · rename_i hi
        exact ⟨hinv, hs, fun _ h => ⟨h, rfl, rfl⟩, Bool.of_not_eq_false hi⟩
    obtain ⟨b1, b2, b3, b4⟩ := step
    obtain ⟨a1, a2, a3, a4⟩ := ih s1 b1 b2 (fun x hx => hk x (List.mem_cons_of_mem _ hx))
      (Nat.le_trans (unvisited_mono g b3) hf)
    refine ⟨a1, a2, b3.trans a3, fun x hx => ?_⟩
    rcases List.mem_cons.mp hx with rfl | hx
    · exact (a3 x b4).1
    · exact a4 x hx

theorem tarjan_final (g : Graph) (hc : closed g = true) {fuel : Nat} (hf : (keys g).length ≤ fuel) :
    Inv g (tarjan g fuel) ∧ (tarjan g fuel).stack = [] ∧
      ∀ v ∈ keys g, indexed (tarjan g fuel) v = true := by
  have h := tarjanLoop_spec hc fuel (keys g) TState.init (Inv.init g) rfl
    (fun v hv => hv) (Nat.le_trans List.countP_le_length hf)
  exact ⟨h.1, h.2.1, h.2.2.2⟩

/-- The number of keys is fuel enough: `_find_cycles` raises `KeyError` or returns the components. -/
theorem findCycles_eq (g : Graph) : findCycles g =
    if closed g = true then .ok (tarjan g (keys g).length).comps else .keyError := by
  unfold findCycles findCyclesFuel
  cases hc : closed g
  · rfl
  · simp [(tarjan_final g hc (Nat.le_refl _)).1.noOof]

end Emboss.Deps
