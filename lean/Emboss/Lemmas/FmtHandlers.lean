/-
Every handler at every signature (`run_ok`): on arguments of the kinds of a signature the
handler returns a value (no exception, no failing `assert`) of the result kind, whose content
is the concatenation of the contents of the arguments it does not ignore (`blankAt`).
-/
import Emboss.Lemmas.FmtPasses
namespace Emboss.Fmt

theorem content_of_asRows {v : Fmt} {l : List Row} (h : asRows v = some l) : content v = rowsContent l := by
  cases v <;> simp [asRows] at h <;> subst h <;> rfl

theorem content_of_asBlocks {v : Fmt} {l : List Block} (h : asBlocks v = some l) :
    content v = blocksContent l := by
  cases v <;> simp [asBlocks] at h <;> subst h <;> rfl

theorem content_of_asSections {v : Fmt} {l : List (List Row)} (h : asSections v = some l) :
    content v = (l.map rowsContent).flatten := by
  cases v <;> simp [asSections] at h <;> subst h <;> rfl

@[simp] theorem content_str (s : Str) : content (.str s) = despace s := rfl
@[simp] theorem content_strs (l : List Str) : content (.strs l) = despace l.flatten := rfl
@[simp] theorem content_nil : content .nil = [] := rfl
@[simp] theorem content_rows (l : List Row) : content (.rows l) = rowsContent l := rfl
@[simp] theorem content_blocks (l : List Block) : content (.blocks l) = blocksContent l := rfl
@[simp] theorem content_sections (l : List (List Row)) : content (.sections l) = (l.map rowsContent).flatten := rfl
@[simp] theorem content_inlineBody (h : List Row) (f : List Block) :
    content (.inlineBody h f) = rowsContent h ++ blocksContent f := rfl

@[simp] theorem contents_nil : contents [] = [] := rfl
@[simp] theorem contents_cons (v : Fmt) (l : List Fmt) : contents (v :: l) = content v ++ contents l := by
  simp [contents]

theorem asBlocks_eq_some {v : Fmt} {l : List Block} (h : asBlocks v = some l) :
    v = .blocks l ∨ v = .nil ∧ l = [] := by
  cases v <;> simp [asBlocks] at h <;> simp [h]

theorem asRows_eq_some {v : Fmt} {l : List Row} (h : asRows v = some l) :
    v = .rows l ∨ v = .nil ∧ l = [] := by
  cases v <;> simp [asRows] at h <;> simp [h]

/-- `Q`: what the kind of the sum says of its blocks. -/
theorem pyAdd_blocks {a b : Fmt} {la lb : List Block} (ha : asBlocks a = some la) (hb : asBlocks b = some lb)
    {Q : List Block → Prop} (hq : Q (la ++ lb)) :
    ∃ v, pyAdd a b = some v ∧ (∃ l, asBlocks v = some l ∧ Q l) ∧ content v = contents [a, b] := by
  rcases asBlocks_eq_some ha with rfl | ⟨rfl, rfl⟩ <;> rcases asBlocks_eq_some hb with rfl | ⟨rfl, rfl⟩ <;>
    exact ⟨_, rfl, ⟨_, rfl, by simpa using hq⟩, by simp⟩

theorem pyAdd_rows {a b : Fmt} {la lb : List Row} (ha : asRows a = some la) (hb : asRows b = some lb)
    {Q : List Row → Prop} (hq : Q (la ++ lb)) :
    ∃ v, pyAdd a b = some v ∧ (∃ l, asRows v = some l ∧ Q l) ∧ content v = contents [a, b] := by
  rcases asRows_eq_some ha with rfl | ⟨rfl, rfl⟩ <;> rcases asRows_eq_some hb with rfl | ⟨rfl, rfl⟩ <;>
    exact ⟨_, rfl, ⟨_, rfl, by simpa using hq⟩, by simp⟩

theorem allStrs_ok (args : List Fmt) (ks : List Kind) (hk : HasKinds args ks)
    (hs : ks.all (· == .str) = true) :
    ∃ l, allStrs args = some l ∧ contents args = despace l.flatten := by
  fun_induction HasKinds args ks with
  | case1 => exact ⟨[], rfl, rfl⟩
  | case2 a rest k ks ih =>
    simp only [List.all_cons, Bool.and_eq_true, beq_iff_eq] at hs
    obtain ⟨rfl, hs'⟩ := hs
    obtain ⟨s, rfl⟩ := hk.1
    obtain ⟨l, hl, hc⟩ := ih hk.2 hs'
    exact ⟨s :: l, by simp [allStrs, asStr, hl], by simp [hc]⟩
  | case3 => exact hk.elim

theorem spacing_cols {c : Bool} {n : RowName} : cols (if c then [({ name := n } : Row)] else []) = [] := by
  cases c <;> rfl

theorem hasKinds_cons {args : List Fmt} {k : Kind} {ks : List Kind} (h : HasKinds args (k :: ks)) :
    ∃ a rest, args = a :: rest ∧ HasKind a k ∧ HasKinds rest ks := by
  cases args with
  | nil => simp [HasKinds] at h
  | cons a rest => exact ⟨a, rest, rfl, h.1, h.2⟩

theorem hasKinds_nil {args : List Fmt} (h : HasKinds args []) : args = [] := by
  cases args with
  | nil => rfl
  | cons a rest => simp [HasKinds] at h

theorem hasKinds_one {args : List Fmt} {k : Kind} (h : HasKinds args [k]) : ∃ a, args = [a] ∧ HasKind a k := by
  obtain ⟨a, _, rfl, ha, hr⟩ := hasKinds_cons h
  exact ⟨a, by rw [hasKinds_nil hr], ha⟩

theorem HasKind.weaken {v : Fmt} {k k' : Kind} (h : HasKind v k) (hle : k.le k' = true) : HasKind v k' := by
  unfold Kind.le at hle
  split at hle
  · obtain ⟨l, hl, _, p⟩ := h
    exact ⟨l, hl, p⟩
  · exact eq_of_beq hle ▸ h

def blankAt (d : List Nat) : Nat → List Fmt → List Fmt
  | _, [] => []
  | i, a :: as => (if i ∈ d then .nil else a) :: blankAt d (i + 1) as

@[simp] theorem blankAt_nil : ∀ (args : List Fmt) (i : Nat), blankAt [] i args = args
  | [], _ => rfl
  | a :: as, i => by simp [blankAt, blankAt_nil as]

theorem contents_blankAt (d : List Nat) : ∀ (args : List Fmt) (i : Nat),
    (∀ j v, i + j ∈ d → args[j]? = some v → content v = []) → contents (blankAt d i args) = contents args
  | [], _, _ => rfl
  | a :: as, i, h => by
    rw [blankAt, contents_cons, contents_cons,
      contents_blankAt d as (i + 1) fun j v hj hv => h (j + 1) v (by rw [← Nat.add_assoc, Nat.add_right_comm]; exact hj) hv]
    split
    · rw [h 0 a ‹_› rfl]; rfl
    · rfl

/-- `P` holds of every argument list with one value per entry of `ks`, of that kind; where the
kind fixes the constructor the argument is given in that form. -/
def ForKinds : List Kind → (List Fmt → Prop) → Prop
  | [], P => P []
  | .str :: ks, P => ∀ s, ForKinds ks fun as => P (.str s :: as)
  | .strs2 :: ks, P => ∀ a b, ForKinds ks fun as => P (.strs [a, b] :: as)
  | .inlineBody :: ks, P => ∀ h f, PlainRows h → (∀ b ∈ f, BlockOK fieldNames b) →
      ForKinds ks fun as => P (.inlineBody h f :: as)
  | k :: ks, P => ∀ a, HasKind a k → ForKinds ks fun as => P (a :: as)

theorem HasKinds.elim {P : List Fmt → Prop} {ks : List Kind} {args : List Fmt}
    (hk : HasKinds args ks) (hp : ForKinds ks P) : P args := by
  fun_induction HasKinds args ks generalizing P with
  | case1 => exact hp
  | case2 a as k ks ih =>
    obtain ⟨ha, hr⟩ := hk
    cases k with
    | str => obtain ⟨s, rfl⟩ := ha; exact ih (P := fun as => P (.str s :: as)) hr (hp s)
    | strs2 => obtain ⟨x, y, rfl⟩ := ha; exact ih (P := fun as => P (.strs [x, y] :: as)) hr (hp x y)
    | inlineBody =>
      obtain ⟨x, y, rfl, px, py⟩ := ha
      exact ih (P := fun as => P (.inlineBody x y :: as)) hr (hp x y px py)
    | _ => exact ih (P := fun as => P (a :: as)) hr (hp a ha)
  | case3 => exact hk.elim

abbrev RunOK (iw : Nat) (h : Handler) (k : Kind) (args : List Fmt) : Prop :=
  ∃ v, h.run iw args = some v ∧ HasKind v k ∧ content v = contents (blankAt h.dropped 0 args)

theorem HasKinds.run {h : Handler} {iw : Nat} {ks ks₀ : List Kind} {k k₀ : Kind} {args : List Fmt}
    (hk : HasKinds args ks) (hs : (if ks = ks₀ then some k₀ else none) = some k)
    (hp : ForKinds ks₀ (RunOK iw h k₀)) : RunOK iw h k args := by
  obtain ⟨rfl, rfl⟩ := Option.ite_some_none_eq_some.mp hs
  exact hk.elim hp

theorem run_ok (iw : Nat) (h : Handler) (args : List Fmt) (ks : List Kind) (k : Kind)
    (hdoc : h = .docLine → args[1]? = some (.str [])) (hk : HasKinds args ks) (hs : h.sig ks = some k) :
    RunOK iw h k args := by
  cases h <;> simp only [Handler.sig] at hs
  case module =>
    refine hk.run hs fun a ⟨la, hla, pa⟩ b ⟨lb, hlb, pb⟩ c ⟨lc, hlc, pc⟩ d ⟨ld, hld, pd⟩ e ⟨le, hle, pe⟩ => ?_
    have hcols := cols_modulePasses la lb lc ld le
    obtain ⟨t, ht, hc'⟩ := renderRows_total _ iw (PlainRows.of_cols hcols (by simpa [pa, pb, pc, pd] using pe))
    refine ⟨.str t, ?_, ⟨_, rfl⟩, ?_⟩
    · simp only [Handler.run, hModule, hla, hlb, hlc, hld, hle, bind, Option.bind] at ht ⊢
      simp only [ht]; rfl
    · rw [content_str, hc', rowsContent_of_cols hcols]
      simp [blankAt, Handler.dropped, content_of_asRows hla, content_of_asRows hlb, content_of_asRows hlc,
        content_of_asRows hld, content_of_asSections hle]
  case docLine =>
    obtain ⟨rfl, rfl⟩ := Option.ite_some_none_eq_some.mp hs
    refine hk.elim (P := fun as => as[1]? = some (.str []) → RunOK iw .docLine .rows as)
      (fun a b c ⟨lc, hlc, pc⟩ hb => ?_) (hdoc rfl)
    obtain rfl : b = [] := by simpa using hb
    exact ⟨_, by simp [Handler.run, hDocLine, asStr, hlc]; rfl, ⟨_, rfl, .cons (by simp) pc⟩,
      by simp [blankAt, Handler.dropped, content_of_asRows hlc, Row.content]⟩
  case importLine =>
    exact hk.run hs fun a b c d e f ⟨lf, hlf, pf⟩ =>
      ⟨_, by simp [Handler.run, hImportLine, asStr, hlf]; rfl, ⟨_, rfl, .cons (by simp) pf⟩,
        by simp [blankAt, Handler.dropped, content_of_asRows hlf, Row.content]⟩
  case attributeLine =>
    exact hk.run hs fun a b c ⟨lc, hlc, pc⟩ =>
      ⟨_, by simp [Handler.run, hAttributeLine, asStr, hlc]; rfl, ⟨_, rfl, .cons (by simp) pc⟩,
        by simp [blankAt, Handler.dropped, content_of_asRows hlc, Row.content]⟩
  case «attribute» =>
    exact hk.run hs fun a b c d e f g =>
      ⟨_, by simp [Handler.run, hAttribute, asStr]; rfl, ⟨_, rfl⟩, by simp [blankAt, Handler.dropped]⟩
  case parameterDefinition =>
    exact hk.run hs fun a b c =>
      ⟨_, by simp [Handler.run, hParameterDefinition, asStr]; rfl, ⟨_, rfl⟩, by simp [blankAt, Handler.dropped]⟩
  case typeDefinitions =>
    exact hk.run hs fun a ⟨la, hla, pa⟩ b ⟨lb, hlb, pb⟩ =>
      ⟨_, by simp [Handler.run, hTypeDefinitions, hla, hlb]; rfl, ⟨_, rfl, List.forall_mem_cons.2 ⟨pa, pb⟩⟩,
        by simp [blankAt, Handler.dropped, content_of_asRows hla, content_of_asSections hlb]⟩
  case structureType =>
    exact hk.run hs fun a b c d e f ⟨lf, hlf, pf⟩ g ⟨lg, hlg, pg⟩ =>
      ⟨_, by simp [Handler.run, hStructureType, asStr, hlf, hlg]; rfl,
        ⟨_, rfl, .cons (by simp) (pf.append pg)⟩,
        by simp [blankAt, Handler.dropped, content_of_asRows hlf, content_of_asRows hlg, Row.content]⟩
  case type_ =>
    exact hk.run hs fun a b c d e ⟨le, hle, pe⟩ f ⟨lf, hlf, pf⟩ =>
      ⟨_, by simp [Handler.run, hType, asStr, hle, hlf]; rfl, ⟨_, rfl, .cons (by simp) (pe.append pf)⟩,
        by simp [blankAt, Handler.dropped, content_of_asRows hle, content_of_asRows hlf, Row.content]⟩
  case structureBody =>
    exact hk.run hs fun a b ⟨lb, hlb, pb⟩ c ⟨lc, hlc, pc⟩ d ⟨ld, hld, pd⟩ e ⟨le, hle, pe⟩ f =>
      ⟨_, by simp [Handler.run, hStructureBody, hlb, hlc, hld, hle,
          columnize_some pe (by decide) iw 2]; rfl,
        ⟨_, rfl, (PlainRows.intersperse spacing_cols (List.forall_mem_cons.2 ⟨pb,
          List.forall_mem_cons.2 ⟨pc, fun s hs => (List.mem_append.1 hs).elim (pd s)
            (plain_columnized le le iw 2 pe s)⟩⟩)).indent⟩,
        by
          rw [content_rows, rowsContent_indentRows, rowsContent_intersperse spacing_cols]
          simp [blankAt, Handler.dropped, content_of_asRows hlb, content_of_asRows hlc,
            content_of_asSections hld, content_of_asBlocks hle, content_columnized]⟩
  case fieldLocation =>
    exact hk.run hs fun a b c d e =>
      ⟨.strs [a, b ++ c ++ d ++ e], by simp [Handler.run, hFieldLocation, asStr], ⟨_, _, rfl⟩,
        by simp [blankAt, Handler.dropped]⟩
  case structureBlock =>
    split at hs
    · rename_i hks
      cases hs; subst hks
      exact hk.elim (P := RunOK iw _ _) fun a ⟨la, hla, hne, pa⟩ b ⟨lb, hlb, pb⟩ =>
        pyAdd_blocks hla hlb ⟨by simp [hne], List.forall_mem_append.2 ⟨pa, pb⟩⟩
    · exact hk.run hs fun a ⟨la, hla, pa⟩ b ⟨lb, hlb, pb⟩ =>
        pyAdd_blocks hla hlb (List.forall_mem_append.2 ⟨pa, pb⟩)
  case virtualField =>
    exact hk.run hs fun a b c d e f ⟨lf, hlf, pf⟩ g ⟨lg, hlg, pg⟩ =>
      ⟨_, by simp [Handler.run, hVirtualField, asStr, hlf, hlg]; rfl, ⟨_, rfl, List.cons_ne_nil _ _,
        List.forall_mem_singleton.2 ⟨PlainRows.nil, pf.append pg, by simp [fieldNames]⟩⟩,
        by simp [blankAt, Handler.dropped, content_of_asRows hlf, content_of_asRows hlg, Block.content, Row.content]⟩
  case unconditionalField =>
    exact hk.run hs fun a1 a2 b c d e f g h ⟨lh, hlh, ph⟩ i ⟨li, hli, pi⟩ =>
      ⟨_, by simp [Handler.run, hUnconditionalField, asStr, asStrs, hlh, hli]; rfl, ⟨_, rfl,
        List.cons_ne_nil _ _, List.forall_mem_singleton.2 ⟨PlainRows.nil, ph.append pi, by simp [fieldNames]⟩⟩,
        by simp [blankAt, Handler.dropped, content_of_asRows hlh, content_of_asRows hli, Block.content, Row.content]⟩
  case fieldBody | enumValueBody =>
    exact hk.run hs fun a b ⟨lb, hlb, pb⟩ c ⟨lc, hlc, pc⟩ d =>
      ⟨_, by simp [Handler.run, hFieldBody, hlb, hlc]; rfl, ⟨_, rfl, (pb.append pc).indent⟩, by
        simp [blankAt, Handler.dropped, content_of_asRows hlb, content_of_asRows hlc]⟩
  case inlineBits =>
    exact hk.run hs fun a1 a2 b c d e ⟨le, hle, pe⟩ fh ff pfh pff =>
      ⟨_, by simp only [Handler.run, hInlineBits, asStr, asStrs, hle, Option.pure_def, Option.bind_eq_bind,
        Option.bind_some]; rfl, ⟨_, rfl, List.cons_ne_nil _ _, List.forall_mem_cons.2
          ⟨⟨PlainRows.nil, pe.append pfh, by simp [fieldNames]⟩, pff⟩⟩,
        by simp [blankAt, Handler.dropped, content_of_asRows hle, Block.content, Row.content]⟩
  case inlineType =>
    exact hk.run hs fun a1 a2 b c d e f g ⟨lg, hlg, pg⟩ h ⟨lh, hlh, ph⟩ =>
      ⟨_, by simp [Handler.run, hInlineType, asStr, asStrs, hlg, hlh]; rfl, ⟨_, rfl, List.cons_ne_nil _ _,
        List.forall_mem_singleton.2 ⟨PlainRows.nil, pg.append ph, by simp [fieldNames]⟩⟩,
        by simp [blankAt, Handler.dropped, content_of_asRows hlg, content_of_asRows hlh, Block.content, Row.content]⟩
  case conditionalField =>
    refine hk.run hs fun a b c d e ⟨le, hle, pe⟩ f g ⟨lg, hlg, hne, pg⟩ h => ?_
    cases lg with
    | nil => exact absurd rfl hne
    | cons b0 rest =>
      have hib : indentBlocks (b0 :: rest) = indentBlock b0 :: indentBlocks rest := rfl
      have hb0 : BlockOK fieldNames (indentBlock b0) := (pg b0 (List.mem_cons_self ..)).indent
      refine ⟨_, by simp [Handler.run, hConditionalField, asStr, hle, hlg, hib]; rfl, ⟨_, rfl, by simp, ?_⟩,
        ?_⟩
      · exact List.forall_mem_cons.2 ⟨⟨.cons (by simp) (pe.append hb0.1), hb0.2.1, hb0.2.2⟩,
          blocksOK_indent fun y hy => pg y (List.mem_cons_of_mem _ hy)⟩
      · simp [blankAt, Handler.dropped, content_of_asRows hle, content_of_asBlocks hlg, Block.content,
          Row.content, indentBlock, indentRow]
  case inlineBitsBody =>
    exact hk.run hs fun a b ⟨lb, hlb, pb⟩ c ⟨lc, hlc, pc⟩ d =>
      ⟨.inlineBody (indentRows lb) (indentBlocks lc), by simp [Handler.run, hInlineBitsBody, hlb, hlc],
        ⟨_, _, rfl, pb.indent, blocksOK_indent pc⟩, by
          simp [blankAt, Handler.dropped, content_of_asRows hlb, content_of_asBlocks hlc]⟩
  case enumBody =>
    exact hk.run hs fun a b ⟨lb, hlb, pb⟩ c ⟨lc, hlc, pc⟩ d ⟨ld, hld, pd⟩ e =>
      ⟨_, by simp [Handler.run, hEnumBody, hlb, hlc, hld,
          columnize_some pd (by decide) iw 1]; rfl,
        ⟨_, rfl, (PlainRows.intersperse spacing_cols (List.forall_mem_cons.2
          ⟨pb, List.forall_mem_cons.2 ⟨pc, plain_columnized ld ld iw 1 pd⟩⟩)).indent⟩,
        by
          rw [content_rows, rowsContent_indentRows, rowsContent_intersperse spacing_cols]
          simp [blankAt, Handler.dropped, content_of_asRows hlb, content_of_asRows hlc,
            content_of_asBlocks hld, content_columnized]⟩
  case enumValues =>
    exact hk.run hs fun a ⟨la, hla, pa⟩ b ⟨lb, hlb, pb⟩ =>
      pyAdd_blocks hla hlb (List.forall_mem_append.2 ⟨pa, pb⟩)
  case enumValue =>
    exact hk.run hs fun a b c d e f g ⟨lg, hlg, pg⟩ h ⟨lh, hlh, ph⟩ =>
      ⟨_, by simp [Handler.run, hEnumValue, asStr, hlg, hlh]; rfl,
        ⟨_, rfl, List.forall_mem_singleton.2 ⟨PlainRows.nil, pg.append ph, by simp [enumNames]⟩⟩,
        by simp [blankAt, Handler.dropped, content_of_asRows hlg, content_of_asRows hlh, Block.content, Row.content]⟩
  case externalBody =>
    exact hk.run hs fun a b ⟨lb, hlb, pb⟩ c ⟨lc, hlc, pc⟩ d =>
      ⟨_, by simp [Handler.run, hExternalBody, hlb, hlc]; rfl,
        ⟨_, rfl, (PlainRows.intersperse cols_single (by simp [pb, pc])).indent⟩, by
          simp [blankAt, Handler.dropped, content_of_asRows hlb, content_of_asRows hlc, rowsContent_intersperse cols_single]⟩
  case commentLine =>
    refine hk.run hs fun a b => ?_
    cases a with
    | nil =>
      exact ⟨_, by simp [Handler.run, hCommentLine, asStr]; rfl, ⟨_, rfl, .cons (by simp) PlainRows.nil⟩, by
        simp [blankAt, Handler.dropped, Row.content]⟩
    | cons c cs =>
      exact ⟨.rows [{ name := .comment, columns := [c :: cs] }], by simp [Handler.run, hCommentLine, asStr],
        ⟨_, rfl, .cons (by simp) PlainRows.nil⟩, by
          simp [blankAt, Handler.dropped, Row.content]⟩
  case eol =>
    exact hk.run hs fun a b ⟨lb, hlb, pb⟩ =>
      ⟨_, by simp [Handler.run, hEol, hlb]; rfl, ⟨_, rfl, pb.stripEmpty⟩, by
        simp [blankAt, Handler.dropped, content_of_asRows hlb]⟩
  case emptyList => exact hk.run hs ⟨.nil, rfl, ⟨[], rfl, PlainRows.nil⟩, rfl⟩
  case emptyString => exact hk.run hs ⟨.str [], rfl, ⟨_, rfl⟩, rfl⟩
  case identity =>
    split at hs
    · cases hs
      obtain ⟨a, rfl, ha⟩ := hasKinds_one hk
      exact ⟨a, rfl, ha, by simp [blankAt, Handler.dropped]⟩
    · cases hs
  case concatenate | concatenateWithPrefixSpaces | concatenateWithSpaces =>
    obtain ⟨hall, rfl⟩ := Option.ite_some_none_eq_some.mp hs
    obtain ⟨l, hl, hc⟩ := allStrs_ok args ks hk hall
    exact ⟨_, by simp only [Handler.run, hl]; rfl, ⟨_, rfl⟩, by simp [Handler.dropped, hc]⟩
  case concatenateLists =>
    exact hk.run hs fun a ⟨la, hla, pa⟩ b ⟨lb, hlb, pb⟩ =>
      pyAdd_rows hla hlb (pa.append pb)
  case docRstrip =>
    exact hk.run hs fun a => ⟨.str (rstrip a), by simp [Handler.run, hDocRstrip, asStr], ⟨_, rfl⟩, by simp [blankAt, Handler.dropped]⟩
  case additiveExpressionRight =>
    refine hk.run hs fun a b => ?_
    by_cases h : a = ['-'] ∧ b.head? = some '-'
    · exact ⟨.str (a ++ sp ++ b), by simp [Handler.run, hAdditiveExpressionRight, asStr, h], ⟨_, rfl⟩,
        by simp [blankAt, Handler.dropped]⟩
    · exact ⟨.str (a ++ b), by simp [Handler.run, hAdditiveExpressionRight, asStr, h], ⟨_, rfl⟩,
        by simp [blankAt, Handler.dropped]⟩

end Emboss.Fmt
