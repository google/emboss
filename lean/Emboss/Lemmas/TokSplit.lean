/-
C10: `splitLines` (model of `str.splitlines`) loses nothing but line terminators, and no
line contains one.
-/
import Emboss.Model.Tok
namespace Emboss.Tok

def isBreakChar (c : Char) : Bool := isLineBreakNat c.toNat

theorem cr_is_break {c : Char} (h : (c.toNat == 13) = true) : isBreakChar c = true := by
  have : c.toNat = 13 := by simpa using h
  simp [isBreakChar, isLineBreakNat, this]

theorem lf_is_break {c : Char} (h : (c.toNat == 10) = true) : isBreakChar c = true := by
  have : c.toNat = 10 := by simpa using h
  simp [isBreakChar, isLineBreakNat, this]

theorem splitLinesAux_nil (cur : List Char) :
    splitLinesAux cur [] = if cur.isEmpty then [] else [cur.reverse] := by rw [splitLinesAux]

theorem splitLinesAux_cons (cur : List Char) (c : Char) (rest : List Char) :
    splitLinesAux cur (c :: rest) =
      if c.toNat == 13 then
        match rest with
        | d :: rest2 => if d.toNat == 10 then cur.reverse :: splitLinesAux [] rest2
                        else cur.reverse :: splitLinesAux [] (d :: rest2)
        | [] => [cur.reverse]
      else if isLineBreakNat c.toNat then cur.reverse :: splitLinesAux [] rest
      else splitLinesAux (c :: cur) rest := by
  conv => lhs; rw [splitLinesAux.eq_def]
  rfl

theorem splitLinesAux_flatten : ∀ (t cur : List Char),
    (splitLinesAux cur t).flatten = cur.reverse ++ t.filter (fun c => !isBreakChar c) := by
  intro t cur
  induction cur, t using splitLinesAux.induct with
  | case1 cur h => simp [splitLinesAux_nil, List.isEmpty_iff.mp h]
  | case2 cur h => simp [splitLinesAux_nil, h]
  | case3 cur c hc d rest2 hd ih =>
    simp [splitLinesAux_cons, hc, hd, ih, cr_is_break hc, lf_is_break hd]
  | case4 cur c hc d rest2 hd ih =>
    rw [splitLinesAux_cons]
    simp only [hc, hd, if_true, Bool.false_eq_true, if_false, List.flatten_cons, ih]
    simp [cr_is_break hc]
  | case5 cur c hc => simp [splitLinesAux_cons, hc, cr_is_break hc]
  | case6 cur c rest hc hb ih =>
    have hb' : isBreakChar c = true := hb
    simp [splitLinesAux_cons, hc, hb, ih, hb']
  | case7 cur c rest hc hb ih =>
    have hb' : isBreakChar c = false := by simpa [isBreakChar] using hb
    simp [splitLinesAux_cons, hc, hb, ih, hb']

/-- Concatenating the lines gives the text with exactly the line-boundary characters
(`\n \r \v \f \x1c \x1d \x1e \x85 U+2028 U+2029`) removed: nothing else is lost or reordered. -/
theorem splitLines_flatten (text : List Char) :
    (splitLines text).flatten = text.filter (fun c => !isBreakChar c) := by
  simpa [splitLines] using splitLinesAux_flatten text []

theorem splitLines_no_break (text : List Char) :
    ∀ l ∈ splitLines text, ∀ c ∈ l, isBreakChar c = false := fun l hl c hc => by
  have : c ∈ text.filter (fun c => !isBreakChar c) :=
    splitLines_flatten text ▸ List.mem_flatten.mpr ⟨l, hl, hc⟩
  simpa using (List.mem_filter.mp this).2

end Emboss.Tok
