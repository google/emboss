/-
Prefix monotonicity of the view model `G` (C01/C20).

`w₁ ⊑ w₂` (same definition, parameters known on the left are the same on the right, storage on
the left is a prefix of / a null version of the storage on the right) implies that every field
value and every presence flag known in `w₁` is known with the same value in `w₂`: accessors,
leaf reads and sub-views respect the order, so `step` preserves it, and `G` is monotone in the
view and in the fuel.  `Ok()` at every path is part of the same order (`OrLe`) for structures without
arrays; `okAt_nil_mono` is the step for the view's own `Ok()`, which Locality reuses for arrays.
-/
import Emboss.Lemmas.ViewStep
import Emboss.Lemmas.ExprMono
namespace Emboss.View

/-- Information order on storage: null is below everything; byte storage grows by appending
bytes; an Ok bit block stays what it is. -/
def StLe : Storage → Storage → Prop
  | .bytes none, _ => True
  | .bits none _, _ => True
  | .bytes (some d1), .bytes (some d2) => d1 <+: d2
  | .bits (some v) n, .bits v' n' => v' = some v ∧ n' = n
  | _, _ => False

structure VLe (w1 w2 : SView) : Prop where
  sd : w1.sd = w2.sd
  params : OLe w1.params w2.params
  st : StLe w1.st w2.st

/-- Order on oracles, restricted to what is monotone: values, presence, and `Ok()` as far as no
array is involved (a truncated array can be Ok while a longer one is not). -/
def OrLe (m : Module) (o1 o2 : Oracle) : Prop :=
  ∀ w1 w2, VLe w1 w2 → structWF m w1.sd = true → ∀ p,
    OLe (o1.read w1 p) (o2.read w2 p) ∧ OLe (o1.has w1 p) (o2.has w2 p) ∧
    (moduleNoArrays m = true → structNoArrays w1.sd = true →
      o1.okAt w1 p = true → o2.okAt w2 p = true)

theorem Storage.sub_not_ok {s : Storage} (h : s.ok = false) (off size : Nat) :
    (s.sub off size).ok = false := by
  cases s with
  | bytes d => cases d with
    | none => rfl
    | some d => cases h
  | bits v n => cases v with
    | none => simp [Storage.sub, Storage.ok]
    | some x => cases h

theorem Storage.adapt_not_ok {s : Storage} (h : s.ok = false) (bo : ByteOrder) (n : Nat) :
    (s.adapt bo n).ok = false := by
  cases s with
  | bytes d => cases d with
    | none => rfl
    | some d => cases h
  | bits v k => exact h

theorem Storage.adaptFor_not_ok {s : Storage} (h : s.ok = false) (pu tu : Nat) (bo : ByteOrder) (n : Nat) :
    (s.adaptFor pu tu bo n).ok = false := by
  unfold Storage.adaptFor
  split
  · exact Storage.adapt_not_ok h bo n
  · exact h

theorem StLe.of_not_ok {s1 : Storage} (h : s1.ok = false) (s2 : Storage) : StLe s1 s2 := by
  cases s1 with
  | bytes d => cases d with
    | none => trivial
    | some d => cases h
  | bits v n => cases v with
    | none => trivial
    | some x => cases h

theorem StLe.refl (s : Storage) : StLe s s := by
  cases s with
  | bytes d => cases d <;> simp [StLe]
  | bits v n => cases v <;> simp [StLe]

/-- Storage below storage is not Ok, the same, or a prefix of the bytes. -/
theorem StLe.cases {s1 s2 : Storage} (h : StLe s1 s2) :
    s1.ok = false ∨ s1 = s2 ∨ ∃ d1 d2, s1 = .bytes (some d1) ∧ s2 = .bytes (some d2) ∧ d1 <+: d2 := by
  cases s1 with
  | bytes d1 =>
    cases d1 with
    | none => exact Or.inl rfl
    | some d1 =>
      cases s2 with
      | bytes d2 =>
        cases d2 with
        | none => exact False.elim h
        | some d2 => exact Or.inr (Or.inr ⟨d1, d2, rfl, rfl, h⟩)
      | bits v n => exact False.elim h
  | bits v1 n1 =>
    cases v1 with
    | none => exact Or.inl rfl
    | some v1 =>
      cases s2 with
      | bytes d2 => exact False.elim h
      | bits v2 n2 =>
        obtain ⟨rfl, rfl⟩ := h
        exact Or.inr (Or.inl rfl)

theorem VLe.refl (w : SView) : VLe w w := ⟨rfl, OLe.refl _, StLe.refl _⟩

theorem prefix_sub {d1 d2 : List Nat} (h : d1 <+: d2) (off size : Nat) :
    (d1.drop off).take size <+: (d2.drop off).take size := by
  obtain ⟨t, rfl⟩ := h
  rw [List.drop_append, List.take_append]
  exact List.prefix_append _ _

theorem prefix_sub_eq {d1 d2 : List Nat} (h : d1 <+: d2) (off size : Nat)
    (hfull : ((d1.drop off).take size).length = size) :
    (d1.drop off).take size = (d2.drop off).take size :=
  (prefix_sub h off size).eq_of_length_le (hfull.symm ▸ List.length_take_le _ _)

theorem StLe.sub {s1 s2 : Storage} (h : StLe s1 s2) (off size : Nat) :
    StLe (s1.sub off size) (s2.sub off size) := by
  rcases h.cases with hn | rfl | ⟨d1, d2, rfl, rfl, hp⟩
  · exact StLe.of_not_ok (Storage.sub_not_ok hn off size) _
  · exact StLe.refl _
  · exact prefix_sub hp off size

/-- `hb`: a `BitBlock` put over the bytes has exactly the `8 * size` bits asked for. -/
theorem StLe.sub_adaptFor {s1 s2 : Storage} (h : StLe s1 s2) {off size pu tu : Nat} {bo : ByteOrder}
    {bits : Nat} (hb : pu = 8 → tu ≠ 8 → size * 8 = bits) :
    StLe ((s1.sub off size).adaptFor pu tu bo bits) ((s2.sub off size).adaptFor pu tu bo bits) := by
  unfold Storage.adaptFor
  by_cases hc : pu = 8 ∧ tu ≠ 8
  · rw [if_pos hc, if_pos hc, ← hb hc.1 hc.2]
    rcases h.cases with hn | rfl | ⟨d1, d2, rfl, rfl, hp⟩
    · exact StLe.of_not_ok (Storage.adapt_not_ok (Storage.sub_not_ok hn off size) bo _) _
    · exact StLe.refl _
    · simp only [Storage.sub, Storage.adapt]
      by_cases hl : ((d1.drop off).take size).length * 8 = size * 8
      · rw [prefix_sub_eq hp off size (by omega)]
        exact StLe.refl _
      · rw [if_neg hl]; trivial
  · rw [if_neg hc, if_neg hc]
    exact h.sub off size

theorem StLe.ok_size {s1 s2 : Storage} (h : StLe s1 s2) (hok : s1.ok = true) :
    s2.ok = true ∧ s1.size ≤ s2.size := by
  rcases h.cases with hn | rfl | ⟨d1, d2, rfl, rfl, hp⟩
  · rw [hok] at hn; cases hn
  · exact ⟨hok, Nat.le_refl _⟩
  · exact ⟨rfl, hp.length_le⟩

theorem StLe.sub_eq {a b : Storage} (h : StLe a b) (hok : a.ok = true) (off s : Nat)
    (hb : off + s ≤ a.size) : a.sub off s = b.sub off s := by
  rcases h.cases with hn | rfl | ⟨d1, d2, rfl, rfl, hp⟩
  · rw [hok] at hn; cases hn
  · rfl
  · simp only [Storage.size] at hb
    simp only [Storage.sub]
    rw [prefix_sub_eq hp off s (by rw [List.length_take, List.length_drop]; omega)]

theorem lookupParam_eq (ns : List String) (vs : List Val) (x : String) :
    lookupParam ns vs x = lookupParam ns vs x := rfl

theorem param_mono {w1 w2 : SView} (h : VLe w1 w2) (x : String) : OLe (w1.param x) (w2.param x) := by
  intro v hv
  unfold SView.param at hv ⊢
  cases hp : w1.params with
  | none => rw [hp] at hv; cases hv
  | some vs =>
    rw [h.params vs hp, ← h.sd]
    rw [hp] at hv; exact hv

theorem physStorage_size {o : Oracle} {w : SView} {f : Field} {start size : Expr} {st : Storage}
    {k : Int} (hk : constInt? size = some k) (h : physStorage o w f start size = some st) :
    ∃ off : Nat, st = w.st.sub off k.toNat := by
  obtain ⟨off, s, _, hs, _, _, _, rfl⟩ := physStorage_some h
  rw [evalInt_constInt hk] at hs
  cases hs
  exact ⟨_, rfl⟩

theorem physStorage_not_ok {o : Oracle} {w : SView} {f : Field} {start size : Expr} {st : Storage}
    (hw : w.st.ok = false) (h : physStorage o w f start size = some st) : st.ok = false := by
  obtain ⟨off, s, _, _, _, _, _, rfl⟩ := physStorage_some h
  exact Storage.sub_not_ok hw _ _

theorem nullView_le (sd : StructDef) (w : SView) (h : w.sd = sd) : VLe (nullView sd) w := by
  refine ⟨h.symm, OLe.none _, ?_⟩
  unfold nullView
  by_cases hu : sd.unit = 8 <;> simp [hu, StLe]

theorem subView_ge_null (o : Oracle) {m : Module} (w : SView) (f : Field) (start size : Expr)
    {name : String} (bits : Nat) (args : Exprs) (bo : ByteOrder) {sd' : StructDef}
    (hfind : m.find name = some sd') :
    ∃ w'', subView o m w f start size name bits args bo = some w'' ∧ VLe (nullView sd') w'' := by
  unfold subView
  rw [hfind]
  cases evalArgs (envOf o w none) args with
  | none => exact ⟨_, rfl, VLe.refl _⟩
  | some vs =>
    cases physStorage o w f start size with
    | none => exact ⟨_, rfl, VLe.refl _⟩
    | some st => exact ⟨_, rfl, nullView_le sd' _ rfl⟩

section
variable {m : Module} {o1 o2 : Oracle} (ho : OrLe m o1 o2) {w1 w2 : SView} (h : VLe w1 w2)
  (hwf : structWF m w1.sd = true)
include ho h hwf

theorem envOf_mono (lv : Option Val) : EnvLe (envOf o1 w1 lv) (envOf o2 w2 lv) :=
  ⟨fun p => (ho w1 w2 h hwf p).1, param_mono h, fun p => (ho w1 w2 h hwf p).2.1, OLe.refl _⟩

theorem hasField_mono (f : Field) : OLe (hasField o1 w1 f) (hasField o2 w2 f) :=
  evalBool_mono (envOf_mono ho h hwf none) f.cond

theorem valueIsOk_mono (req : Option Expr) (v : Val) (hv : valueIsOk o1 w1 req v = true) :
    valueIsOk o2 w2 req v = true := by
  cases req with
  | none => rfl
  | some r =>
    simp only [valueIsOk, beq_iff_eq] at hv ⊢
    exact evalBool_mono (envOf_mono ho h hwf (some v)) r true hv

/-- `hfit` (from `fieldWF`): a `BitBlock` is only put over a field of constant, matching size. -/
theorem physStorage_mono (f : Field) {start size : Expr} {tu bits : Nat} (bo : ByteOrder)
    (hfit : w1.sd.unit = 8 → tu ≠ 8 → ∃ c : Int, constInt? size = some c ∧ c.toNat * 8 = bits)
    {s1 : Storage} (h1 : physStorage o1 w1 f start size = some s1) :
    ∃ s2, physStorage o2 w2 f start size = some s2 ∧
      StLe (s1.adaptFor w1.sd.unit tu bo bits) (s2.adaptFor w1.sd.unit tu bo bits) := by
  obtain ⟨off, s, hh, hs, hst, hs0, ho0, rfl⟩ := physStorage_some h1
  have henv := envOf_mono ho h hwf none
  refine ⟨_, physStorage_of (hasField_mono ho h hwf f true hh) (evalInt_mono henv size s hs)
    (evalInt_mono henv start off hst) hs0 ho0, StLe.sub_adaptFor h.st fun hu ht => ?_⟩
  obtain ⟨c, hc, hcb⟩ := hfit hu ht
  rw [evalInt_constInt hc] at hs
  cases hs
  exact hcb

theorem leafRead_mono (k : ScalarKind) (bits : Nat) (req : Option Expr) {s1 s2 : Storage}
    (hs : StLe s1 s2) :
    OLe (leafRead o1 w1 k bits req s1) (leafRead o2 w2 k bits req s2) := by
  intro v hv
  cases s1 with
  | bytes d => cases hv
  | bits r n =>
    -- an Ok bit block stays what it is: only the validator sees more
    obtain ⟨raw, rfl, hsz, hd, hok⟩ := leafRead_bits hv
    cases s2 with
    | bytes d => exact hs.elim
    | bits r' n' =>
      obtain ⟨rfl, rfl⟩ := hs
      exact leafRead_of hsz hd (valueIsOk_mono ho h hwf req v hok)

theorem virtRead_mono (value : Expr) (req : Option Expr) :
    OLe (virtRead o1 w1 value req) (virtRead o2 w2 value req) := fun v hv =>
  have ⟨he, hok⟩ := virtRead_eq_some.mp hv
  virtRead_eq_some.mpr ⟨eval_mono (envOf_mono ho h hwf none) value v he, valueIsOk_mono ho h hwf req v hok⟩

theorem subView_mono {f : Field} {start size : Expr} {name : String} {bits : Nat} {args : Exprs}
    {bo : ByteOrder}
    (hf : fieldWF m w1.sd.unit f = true) (hk : f.kind = .phys start size (.struct name bits args) bo)
    {a : SView} (ha : subView o1 m w1 f start size name bits args bo = some a) :
    ∃ b, subView o2 m w2 f start size name bits args bo = some b ∧ VLe a b ∧
      m.find name = some a.sd := by
  unfold subView at ha ⊢
  cases hfind : m.find name with
  | none => rw [hfind] at ha; cases ha
  | some sd =>
    rw [hfind] at ha
    dsimp only at ha ⊢
    split at ha
    · rename_i vs s1 hargs hps
      cases ha
      obtain ⟨s2, hps2, hst⟩ := physStorage_mono ho h hwf f bo (tu := sd.unit) (bits := bits)
        (fun hu ht => fieldWF_fixed hf (by simp only [fixedBitsIn, hk, hu, hfind, ht, if_true, if_false])) hps
      rw [evalArgs_mono (envOf_mono ho h hwf none) args vs hargs, hps2]
      exact ⟨_, rfl, ⟨rfl, OLe.refl _, by rw [← h.sd]; exact hst⟩, rfl⟩
    · cases ha
      split <;> exact ⟨_, rfl, nullView_le sd _ rfl, rfl⟩

theorem sizeOf?_mono : OLe (sizeOf? o1 w1) (sizeOf? o2 w2) := by
  intro sz hs
  unfold sizeOf? at hs ⊢
  rw [← h.sd]
  cases hr : o1.read w1 [w1.sd.sizeField] with
  | none => rw [hr] at hs; cases hs
  | some v =>
    rw [(ho w1 w2 h hwf _).1 v hr]
    rw [hr] at hs
    exact hs

theorem isComplete_mono (hc : isComplete o1 w1 = true) :
    isComplete o2 w2 = true := by
  unfold isComplete at hc ⊢
  cases hs : sizeOf? o1 w1 with
  | none => rw [hs] at hc; cases hc
  | some sz =>
    rw [hs] at hc
    rw [sizeOf?_mono ho h hwf sz hs]
    simp only [Bool.and_eq_true, decide_eq_true_eq] at hc ⊢
    have hst := StLe.ok_size h.st hc.1
    exact ⟨hst.1, by omega⟩

end

theorem okAt_nil_mono {m : Module} {o1 o2 : Oracle} (ho : OrLe m o1 o2) {w1 w2 : SView}
    (h : VLe w1 w2) (hwf : structWF m w1.sd = true)
    (hfields : ∀ f ∈ w1.sd.fields, o1.okAt w1 [f.name] = true → o2.okAt w2 [f.name] = true)
    (hp : (step m o1).okAt w1 [] = true) : (step m o2).okAt w2 [] = true := by
  obtain ⟨⟨sz, hr, hok, hlen⟩, hpar, hfs, hreq⟩ := step_okAt_nil_iff.mp hp
  have hor := ho w1 w2 h hwf
  have hst := StLe.ok_size h.st hok
  rw [step_okAt_nil_iff, ← h.sd]
  refine ⟨⟨sz, (hor _).1 _ hr, hst.1, by omega⟩, hpar.imp_right fun hs => ?_, fun f hf => ?_,
    fun r hr => evalBool_mono (envOf_mono ho h hwf none) r true (hreq r hr)⟩
  · obtain ⟨vs, hvs⟩ := Option.isSome_iff_exists.mp hs
    rw [h.params vs hvs]
    rfl
  · exact (hfs f hf).imp ((hor _).2.1 _) fun ⟨h1, h2⟩ => ⟨(hor _).2.1 _ h1, hfields f hf h2⟩

theorem step_mono {m : Module} (hm : moduleWF m = true) {o1 o2 : Oracle} (ho : OrLe m o1 o2) :
    OrLe m (step m o1) (step m o2) := by
  intro w1 w2 h hwf p
  have hor := ho w1 w2 h hwf
  rcases p with _ | ⟨x, rest⟩
  · exact ⟨OLe.none _, OLe.none _, fun hna hsn => okAt_nil_mono ho h hwf fun f _ => (hor _).2.2 hna hsn⟩
  dsimp only [step]
  rw [← h.sd]
  cases hf : w1.sd.field x with
  | none => exact ⟨OLe.none _, OLe.none _, fun _ _ => nofun⟩
  | some f =>
    dsimp only
    have hfw := field_wf hwf hf
    have hhas := hasField_mono ho h hwf f
    -- the presence guard of the alias arms is monotone
    have hguard : ∀ {α : Type} {a b : Option α}, OLe a b →
        OLe (if hasField o1 w1 f = some true then a else none)
          (if hasField o2 w2 f = some true then b else none) := by
      intro α a b hab v hv
      by_cases hh : hasField o1 w1 f = some true
      · rw [if_pos hh] at hv
        rw [if_pos (hhas true hh)]
        exact hab v hv
      · rw [if_neg hh] at hv
        cases hv
    cases hk : f.kind with
    | virt value req =>
      have hv := virtRead_mono ho h hwf value req
      cases rest with
      | nil => exact ⟨hv, hhas, fun _ _ => hv.isSome⟩
      | cons y ys => exact ⟨OLe.none _, OLe.none _, fun _ _ => nofun⟩
    | alias target =>
      have hok : moduleNoArrays m = true → structNoArrays w1.sd = true →
          (decide (hasField o1 w1 f = some true) && o1.okAt w1 (target ++ rest)) = true →
          (decide (hasField o2 w2 f = some true) && o2.okAt w2 (target ++ rest)) = true := by
        intro hna hsn hp
        simp only [Bool.and_eq_true, decide_eq_true_eq] at hp ⊢
        exact ⟨hhas true hp.1, (hor _).2.2 hna hsn hp.2⟩
      cases rest with
      | nil => exact ⟨hguard (hor _).1, hhas, hok⟩
      | cons y ys => exact ⟨hguard (hor _).1, hguard (hor _).2.1, hok⟩
    | phys start size ty bo =>
      cases ty with
      | array e es =>
        cases rest with
        | nil =>
          -- `Ok()` of an array is not monotone: `structNoArrays` rules the field out
          refine ⟨OLe.none _, hhas, fun _ hsn => ?_⟩
          have hfn := field_noarr hsn hf
          simp [fieldNoArray, hk] at hfn
        | cons y ys => exact ⟨OLe.none _, OLe.none _, fun _ _ => nofun⟩
      | scalar k bits req =>
        cases rest with
        | cons y ys => exact ⟨OLe.none _, OLe.none _, fun _ _ => nofun⟩
        | nil =>
          dsimp only
          cases h1 : physStorage o1 w1 f start size with
          | none => exact ⟨OLe.none _, hhas, fun _ _ => nofun⟩
          | some s1 =>
            obtain ⟨s2, h2, hst⟩ := physStorage_mono ho h hwf f bo (bits := bits)
              (fun hu _ => fieldWF_fixed hfw (by simp only [fixedBitsIn, hk, hu, if_true])) h1
            rw [h2]
            have hleaf := leafRead_mono ho h hwf k bits req hst
            refine ⟨hleaf, hhas, fun _ _ hp => ?_⟩
            simp only [argsKnown, typeOk, Bool.true_and] at hp ⊢
            rw [← h.sd]
            exact hleaf.isSome hp
      | struct name bits args =>
        cases rest with
        | nil =>
          dsimp only
          cases h1 : subView o1 m w1 f start size name bits args bo with
          | none => exact ⟨OLe.none _, hhas, fun _ _ => nofun⟩
          | some a =>
            obtain ⟨b, h2, hab, hfa⟩ := subView_mono ho h hwf hfw hk h1
            rw [h2]
            exact ⟨OLe.none _, hhas,
              fun hna _ => (ho a b hab (find_wf hm hfa) _).2.2 hna (find_noarr hna hfa)⟩
        | cons y ys =>
          dsimp only
          cases h1 : subView o1 m w1 f start size name bits args bo with
          | none => exact ⟨OLe.none _, OLe.none _, fun _ _ => nofun⟩
          | some a =>
            obtain ⟨b, h2, hab, hfa⟩ := subView_mono ho h hwf hfw hk h1
            have hor' := ho a b hab (find_wf hm hfa) (y :: ys)
            rw [h2]
            exact ⟨hor'.1, hor'.2.1, fun hna _ => hor'.2.2 hna (find_noarr hna hfa)⟩

theorem bottom_le (m : Module) (o : Oracle) : OrLe m Oracle.bottom o :=
  fun _ _ _ _ _ => ⟨OLe.none _, OLe.none _, fun _ _ => nofun⟩

theorem G_le {m : Module} (hm : moduleWF m = true) : ∀ {j k : Nat}, j ≤ k → OrLe m (G m j) (G m k)
  | 0, _, _ => bottom_le m _
  | _ + 1, _ + 1, h => step_mono hm (G_le hm (Nat.le_of_succ_le_succ h))

/-- at one fuel, in the view -/
theorem G_mono {m : Module} (hm : moduleWF m = true) (n : Nat) : OrLe m (G m n) (G m n) :=
  G_le hm (Nat.le_refl n)

theorem rootView_le (sd : StructDef) (ps : List Val) {b b' : List Nat} (h : b <+: b') :
    VLe (rootView sd ps b) (rootView sd ps b') :=
  ⟨rfl, OLe.refl _, h⟩

end Emboss.View
