/-
C13, module level ("Mod").  Spec side: `PositionsOk` (what `check_types` demands), `AttrOk`, `ErrAt`
(where errors lie); `coded = true` adds what the code accepts beyond the reference (ordering on enums,
enum values of enum type: open findings pinned by emboss's own tests).  Then the passes, one theorem
each: a pass `Judges` its demand (silent iff it holds, no raise, errors at the module's items), and the
theorem is put together the way the pass is; `run` is a chain of `stage`s.
-/
import Emboss.Lemmas.TypesSub
namespace Emboss.Types

/-- passed parameters: same arity; where the declared parameter has a value type (integer,
boolean, enum) the argument has exactly that type — for enums: the same enum, module included. -/
def PassedArgsOk (coded : Bool) : List (Ty × Loc) → List Expr → Prop
  | tl :: ts, g :: gs => (tl.1.isValue = false ∨ HasType coded g tl.1) ∧ PassedArgsOk coded ts gs
  | [], [] => True
  | _, _ => False

structure PositionsOk (coded : Bool) (m : Module) : Prop where
  /-- field start and size are integers -/
  locations : ∀ p ∈ m.locations, HasType coded p.2.1 .int ∧ HasType coded p.2.2 .int
  /-- array lengths are integers -/
  arrays : ∀ a ∈ m.arrays, HasType coded a.2 .int
  /-- existence conditions are booleans -/
  conds : ∀ c ∈ m.conds, HasType coded c.2 .bool
  /-- enum values are integers (AS CODED ALSO: expressions of an enum type, `TEN = TEN2`) -/
  enumValues : ∀ v ∈ m.enumValues,
    HasType coded v.2 .int ∨ (coded = true ∧ ∃ n, HasType coded v.2 (.enum n))
  /-- runtime parameters are integers or enums (and not arrays) -/
  params : ∀ p ∈ m.params, p.ty = .int ∨ ∃ n, p.ty = .enum n
  passed : ∀ p ∈ m.passed, PassedArgsOk coded p.expected p.given

/-- the expressions `check_types` looks at -/
def inspected (m : Module) : List FExpr :=
  m.locations.flatMap (fun p => [(p.1, p.2.1), (p.1, p.2.2)]) ++ m.arrays ++ m.conds ++
    m.enumValues ++ m.passed.flatMap (fun p => p.given.map (fun g => (p.file, g)))

/-- the expressions the attribute validators look at -/
def attrExprs : List Attr → List FExpr
  | [] => []
  | a :: as => (match a.val with | .expr e => [(a.file, e)] | .str _ => []) ++ attrExprs as

/-- every inspected expression and every attribute value that is an expression is one of the
module's top-level expressions (what `annotate_types` traverses): guaranteed by the IR's shape. -/
def Module.wf (m : Module) : Prop := ∀ e ∈ inspected m ++ attrExprs m.attrs, e ∈ m.exprs

/-- `annotate_types` raised no objection to the expression -/
def Typed (e : FExpr) : Prop := (tc e.1 e.2).errs = []

instance (e : FExpr) : Decidable (Typed e) := by unfold Typed; infer_instance

structure InspTyped (m : Module) : Prop where
  locations : ∀ p ∈ m.locations, Typed (p.1, p.2.1) ∧ Typed (p.1, p.2.2)
  arrays : ∀ a ∈ m.arrays, Typed a
  conds : ∀ a ∈ m.conds, Typed a
  enumValues : ∀ a ∈ m.enumValues, Typed a
  passed : ∀ p ∈ m.passed, ∀ g ∈ p.given, Typed (p.file, g)

/-- what each kind of attribute demands of its value -/
def AttrOk (a : Attr) : Prop :=
  match a.kind, a.val with
  | .boolConst, .expr e => HasType true e .bool ∧ a.constOk e = true
  | .bool, .expr e => HasType true e .bool
  | .intConst, .expr e => HasType true e .int ∧ a.constOk e = true
  | .strList, .str v => v = true
  | .backEnds, .str v => v = true
  | _, _ => False

/-- the error is located — location and file name — at one of the module's own items: inside a
top-level expression (through references: inside the referred definition, in its file), at a
parameter declaration, at an inspected expression, at a type use with parameters, or at an
attribute value. -/
inductive ErrAt (m : Module) (er : Err) : Prop
  | expr {e : FExpr} : e ∈ m.exprs → LocIn er.l er.file e.1 e.2 → ErrAt m er
  | param {p : Param} : p ∈ m.params → er.l = p.l → er.file = p.file → ErrAt m er
  | position {e : FExpr} : e ∈ inspected m → er.l = e.2.loc → er.file = e.1 → ErrAt m er
  | passed {p : Passed} : p ∈ m.passed → er.l = p.l → er.file = p.file → ErrAt m er
  | attr {a : Attr} : a ∈ m.attrs → er.l = a.l → er.file = a.file → ErrAt m er

theorem typed_ty_iff {e : FExpr} (h : Typed e) {τ : Ty} : (tc e.1 e.2).ty = τ ↔ HasType true e.2 τ :=
  ⟨fun ht => (tc_iff e.2 e.1 τ).1 ⟨h, ht⟩, hasType_ty⟩

theorem orCrash_none {a b : Option Crash} : orCrash a b = none ↔ a = none ∧ b = none := by
  cases a <;> simp [orCrash]

abbrev PassRes.ok (r : PassRes) : Prop := r.errs = [] ∧ r.crash = none

theorem app_ok {a b : PassRes} : (a.app b).ok ↔ a.ok ∧ b.ok := by
  simp only [PassRes.ok, PassRes.app, List.append_eq_nil_iff, orCrash_none, and_and_and_comm]

theorem tcAll_eq : ∀ es : List FExpr, tcAll es = es.flatMap fun e => (tc e.1 e.2).errs
  | [] => rfl
  | e :: es => by rw [tcAll, tcAll_eq es, List.flatMap_cons]

theorem annotate_nil (m : Module) :
    annotate m = [] ↔ (∀ e ∈ m.exprs, Typed e) ∧ ∀ p ∈ m.params, p.pty ≠ .array := by
  simp only [annotate, List.append_eq_nil_iff, tcAll_eq, List.flatMap_eq_nil_iff, Typed,
    ite_eq_right_iff, reduceCtorEq, imp_false]

theorem annotate_at (m : Module) : ∀ er ∈ annotate m, ErrAt m er := by
  intro er h
  simp only [annotate, tcAll_eq, List.mem_append, List.mem_flatMap] at h
  rcases h with ⟨e, he, h⟩ | ⟨p, hp, h⟩
  · exact .expr he (tc_loc e.2 e.1 er h)
  · split at h
    · rw [List.mem_singleton.1 h]; exact .param hp rfl rfl
    · cases h

/-- `r` judges the demand `S`: given `T` it is silent exactly when `S` holds, given `U` as well it does
not raise (`T`, `U`: what `annotate_types` has established of the inputs); what it reports lies in `A`. -/
structure Judges (T U : Prop) (A : Err → Prop) (r : PassRes) (S : Prop) : Prop where
  ok : T → (r.ok ↔ S)
  safe : T → U → r.crash = none
  lies : ∀ er ∈ r.errs, A er

section
variable {T U : Prop} {A : Err → Prop} {S : Prop}

theorem Judges.fine (h : T → S) : Judges T U A ⟨[], none⟩ S :=
  ⟨fun t => by simp [PassRes.ok, h t], fun _ _ => rfl, fun _ h => nomatch h⟩

theorem Judges.one {x : Err} (hx : A x) (h : T → ¬ S) : Judges T U A ⟨[x], none⟩ S :=
  ⟨fun t => by simp [PassRes.ok, h t], fun _ _ => rfl, List.forall_mem_singleton.2 hx⟩

theorem Judges.raise {k : Crash} (h : T → ¬ S ∧ ¬ U) : Judges T U A ⟨[], some k⟩ S :=
  ⟨fun t => by simp [PassRes.ok, (h t).1], fun t u => absurd u (h t).2, fun _ h => nomatch h⟩

theorem Judges.ite {c : Prop} [Decidable c] {x : Err} (hx : A x) (h : T → (c ↔ S)) :
    Judges T U A ⟨if c then [] else [x], none⟩ S := by
  split
  · rename_i hc
    exact .fine fun t => (h t).1 hc
  · rename_i hc
    exact .one hx fun t s => hc ((h t).2 s)

/-- the unguarded reads of `.type.which_type`: they raise only on what `annotate_types` left untyped -/
theorem Judges.read {e : FExpr} {k : Crash} {r : PassRes} (ht : T → Typed e) (h : Judges T U A r S) :
    Judges T U A (if (tc e.1 e.2).ty = .none then ⟨[], some k⟩ else r) S := by
  split
  · rename_i hn
    exact .raise fun t => absurd (ht t) (tc_none_err hn)
  · exact h

theorem Judges.congr {r : PassRes} {S' : Prop} (h : Judges T U A r S) (hs : T → (S ↔ S')) :
    Judges T U A r S' :=
  ⟨fun t => (h.ok t).trans (hs t), h.safe, h.lies⟩

theorem Judges.app {a b : PassRes} {Sb : Prop} (ha : Judges T U A a S) (hb : Judges T U A b Sb) :
    Judges T U A (a.app b) (S ∧ Sb) :=
  ⟨fun t => app_ok.trans (and_congr (ha.ok t) (hb.ok t)), fun t u => orCrash_none.2 ⟨ha.safe t u, hb.safe t u⟩,
    List.forall_mem_append.2 ⟨ha.lies, hb.lies⟩⟩

/-- a pass over a list (`paramAll`, `passedAll`, `attrAll`, a `flatMap` of error lists): any `g` with
these two equations -/
theorem Judges.all {α} {f : α → PassRes} {g : List α → PassRes} {S : α → Prop} (nil : g [] = ⟨[], none⟩)
    (cons : ∀ x xs, g (x :: xs) = (f x).app (g xs)) : ∀ {l : List α},
    (∀ x ∈ l, Judges T U A (f x) (S x)) → Judges T U A (g l) (∀ x ∈ l, S x)
  | [], _ => nil ▸ .fine fun _ _ h => nomatch h
  | x :: xs, h =>
    have h := List.forall_mem_cons.1 h
    cons x xs ▸ (h.1.app (Judges.all nil cons h.2)).congr fun _ => List.forall_mem_cons.symm

theorem Judges.flatMap {α} {f : α → List Err} {S : α → Prop} {l : List α}
    (h : ∀ x ∈ l, Judges T U A ⟨f x, none⟩ (S x)) : Judges T U A ⟨l.flatMap f, none⟩ (∀ x ∈ l, S x) :=
  Judges.all (g := fun l => ⟨l.flatMap f, none⟩) rfl (fun _ _ => rfl) h

/- In the theorems of the passes, `ht`: what the pass reads is typed; `hx`: where it reports lies in `A`. -/

theorem wantTy_judges {want : Ty} {c : Cls} {e : FExpr} (ht : T → Typed e) (hx : A (err e.1 e.2.loc c)) :
    Judges T U A ⟨wantTy want c e, none⟩ (HasType true e.2 want) :=
  .ite hx fun t => typed_ty_iff (ht t)

theorem paramOne_judges (p : Param) (hu : U → p.pty ≠ .array) (hx : A (err p.file p.l .paramKind)) :
    Judges T U A (paramOne p) (p.ty = .int ∨ ∃ n, p.ty = .enum n) := by
  unfold paramOne Param.ty
  cases hp : p.pty with
  | array => exact .raise fun _ => ⟨by simp, fun u => hu u hp⟩
  | atomic t =>
    cases t
    · exact .fine fun _ => .inl rfl
    · exact .one hx fun _ => by simp [DTy.toTy]
    · exact .fine fun _ => .inr ⟨_, rfl⟩
    · exact .one hx fun _ => by simp [DTy.toTy]

theorem passedArgs_judges (p : Passed) : ∀ (i : Nat) (ts : List (Ty × Loc)) (gs : List Expr),
    ts.length = gs.length → (T → ∀ g ∈ gs, Typed (p.file, g)) →
    (∀ g ∈ gs, ∀ c n, A ⟨g.loc, p.file, c, n⟩) → Judges T U A (passedArgs p i ts gs) (PassedArgsOk true ts gs)
  | _, [], [], _, _, _ => .fine fun _ => trivial
  | _, [], _ :: _, h, _, _ => by simp at h
  | _, _ :: _, [], h, _, _ => by simp at h
  | i, (t, pl) :: ts, g :: gs, h, ht, hx => by
    have rest := passedArgs_judges p (i + 1) ts gs (by simpa using h)
      (fun t x hx => ht t x (List.mem_cons_of_mem _ hx)) fun x h => hx x (List.mem_cons_of_mem _ h)
    have hg (t : T) : Typed (p.file, g) := ht t g List.mem_cons_self
    cases hv : t.isValue <;>
      simp only [passedArgs, PassedArgsOk, hv, Bool.not_true, Bool.not_false, Bool.false_eq_true, if_false, if_true]
    · exact rest.congr fun _ => (and_iff_right (.inl trivial)).symm
    · by_cases hs : (tc p.file g).ty = t
      · rw [if_pos hs]
        exact rest.congr fun t' => (and_iff_right (.inr (hs ▸ (typed_ty_iff (hg t')).1 rfl))).symm
      · rw [if_neg hs]
        exact .read hg (((Judges.one (hx g List.mem_cons_self _ _) fun _ h => hs (hasType_ty h)).app rest).congr
          fun _ => by simp)

theorem PassedArgsOk.length_eq {c : Bool} {ts : List (Ty × Loc)} {gs : List Expr}
    (h : PassedArgsOk c ts gs) : ts.length = gs.length := by
  fun_induction PassedArgsOk c ts gs
  case case1 ih => exact congrArg (· + 1) (ih h.2)
  case case2 => rfl
  case case3 => exact h.elim

theorem passedOne_judges (p : Passed) (ht : T → ∀ g ∈ p.given, Typed (p.file, g))
    (hx : ∀ g ∈ p.given, ∀ c n, A ⟨g.loc, p.file, c, n⟩) (hp : ∀ c n, A ⟨p.l, p.file, c, n⟩) :
    Judges T U A (passedOne p) (PassedArgsOk true p.expected p.given) := by
  unfold passedOne
  split
  · rename_i hl
    exact .one (hp _ _) fun _ h => hl h.length_eq
  · rename_i hl
    exact passedArgs_judges p 0 _ _ (Decidable.not_not.1 hl) ht hx

/-- the right side is `PositionsOk.enumValues` at `coded := true`, word for word -/
theorem enumValueOk_iff {e : FExpr} (h : Typed e) :
    enumValueOk (tc e.1 e.2).ty = true ↔
      (HasType true e.2 .int ∨ ((true : Bool) = true ∧ ∃ n, HasType true e.2 (.enum n))) := by
  simp only [← typed_ty_iff h, true_and]
  cases (tc e.1 e.2).ty <;> simp [enumValueOk]

theorem inspected_forall {m : Module} {P : FExpr → Prop} : (∀ e ∈ inspected m, P e) ↔
    (∀ p ∈ m.locations, P (p.1, p.2.1) ∧ P (p.1, p.2.2)) ∧ (∀ a ∈ m.arrays, P a) ∧ (∀ a ∈ m.conds, P a) ∧
      (∀ a ∈ m.enumValues, P a) ∧ ∀ p ∈ m.passed, ∀ g ∈ p.given, P (p.file, g) := by
  simp only [inspected, List.forall_mem_append, List.forall_mem_flatMap, List.forall_mem_map, List.forall_mem_cons,
    List.not_mem_nil, false_imp_iff, implies_true, and_true, and_assoc]

theorem checkTypes_judges (m : Module) : Judges (∀ e ∈ inspected m, Typed e) (∀ p ∈ m.params, p.pty ≠ .array)
    (ErrAt m) (checkTypes m) (PositionsOk true m) := by
  have ⟨i1, i2, i3, i4, i5⟩ := inspected_forall.1 fun e (h : e ∈ inspected m) => h
  have pos {e : FExpr} (he : e ∈ inspected m) c n : ErrAt m ⟨e.2.loc, e.1, c, n⟩ := .position he rfl rfl
  have want {e : FExpr} (he : e ∈ inspected m) w c := wantTy_judges (T := ∀ e ∈ inspected m, Typed e)
    (U := ∀ p ∈ m.params, p.pty ≠ .array) (want := w) (c := c) (fun t => t e he) (pos he c [])
  exact ((((((Judges.flatMap fun p hp => (want (i1 p hp).1 _ _).app (want (i1 p hp).2 _ _)).app
      (.flatMap fun a ha => want (i2 a ha) _ _)).app (.flatMap fun a ha => want (i3 a ha) _ _)).app
      (.flatMap fun v hv => .ite (pos (i4 v hv) _ _) fun t => enumValueOk_iff (t v (i4 v hv)))).app
      (.all rfl (fun _ _ => rfl) fun p hp => paramOne_judges p (fun u => u p hp) (.param hp rfl rfl))).app
      (.all rfl (fun _ _ => rfl) fun p hp => passedOne_judges p (fun t g hg => t _ (i5 p hp g hg))
        (fun g hg => pos (i5 p hp g hg)) fun _ _ => .passed hp rfl rfl)).congr fun _ =>
    ⟨fun ⟨⟨⟨⟨⟨h1, h2⟩, h3⟩, h4⟩, h5⟩, h6⟩ => ⟨h1, h2, h3, h4, h5, h6⟩,
      fun h => ⟨⟨⟨⟨⟨h.locations, h.arrays⟩, h.conds⟩, h.enumValues⟩, h.params⟩, h.passed⟩⟩

theorem attrOne_judges (a : Attr) (ht : T → ∀ e, a.val = .expr e → Typed (a.file, e))
    (hx : ∀ c, A (err a.file a.l c)) : Judges T True A (attrOne a) (AttrOk a) := by
  rcases a with ⟨file, l, k, sg, v, c⟩
  cases v with
  | str s =>
    cases k <;> simp only [attrOne, AttrOk] <;>
      first | exact .one (hx _) fun _ => id | exact .ite (hx _) fun _ => by simp
  | expr e =>
    have hte (t : T) : Typed (file, e) := ht t e rfl
    have hty (t : T) τ : HasType true e τ ↔ (tc file e).ty = τ := (typed_ty_iff (hte t)).symm
    cases k <;> simp only [attrOne, AttrOk]
    · refine .read hte ?_
      split
      · rename_i hc
        exact .one (hx _) fun t h => by simp [← hty t, h.1, h.2] at hc
      · rename_i hc
        exact .fine fun t => by simpa [← hty t] using hc
    · exact .read hte (.ite (hx _) fun t => (hty t _).symm)
    · refine .read hte ?_
      split
      · rename_i hc
        exact .one (hx _) fun t h => hc ((hty t _).1 h.1)
      · split
        · rename_i hc
          exact .one (hx _) fun t h => by simp [h.2] at hc
        · rename_i hi hc
          exact .fine fun t => ⟨(hty t _).2 (Decidable.not_not.1 hi), by simpa using hc⟩
    · exact .one (hx _) fun _ => id
    · exact .one (hx _) fun _ => id

theorem attrExprs_mem {a : Attr} {e : Expr} : ∀ {as : List Attr}, a ∈ as → a.val = .expr e →
    (a.file, e) ∈ attrExprs as
  | b :: as, h, hv => by
    rcases List.mem_cons.1 h with rfl | h
    · simp [attrExprs, hv]
    · exact List.mem_append_right _ (attrExprs_mem h hv)

theorem attrAll_judges (m : Module) : Judges (∀ e ∈ attrExprs m.attrs, Typed e) True (ErrAt m) (attrAll m.attrs)
    (∀ a ∈ m.attrs, AttrOk a) :=
  .all rfl (fun _ _ => rfl) fun a ha =>
    attrOne_judges a (fun t _ he => t _ (attrExprs_mem ha he)) fun _ => .attr ha rfl rfl

end

theorem filter_split_nil {l : List Err} :
    (l.filter (fun e => !e.hidden) = [] ∧ l.filter (fun e => e.hidden) = []) ↔ l = [] := by
  induction l with
  | nil => simp
  | cons a l ih => cases h : a.hidden <;> simp [h]

/-- one pass: a raise ends the run, visible errors reject in pass `n`, otherwise `next` goes on -/
def stage (n : Nat) (p : PassRes) (next : Outcome) : Outcome :=
  match p.crash with
  | some k => .crashed k
  | none =>
    if p.errs.filter (!·.hidden) ≠ [] then .rejected n (p.errs.filter (!·.hidden)) else next

/-- the late attribute pass is a stage that reports nothing; last come the hidden errors -/
theorem run_stages (m : Module) : run m =
    stage 1 ⟨annotate m, none⟩ (stage 2 (checkTypes m) (stage 3 (attrAll m.attrs)
      (stage 0 ⟨[], attrLate m.attrs⟩
        (if (annotate m ++ (checkTypes m).errs ++ (attrAll m.attrs).errs).filter (·.hidden) ≠ [] then
          .rejected 9 ((annotate m ++ (checkTypes m).errs ++ (attrAll m.attrs).errs).filter (·.hidden))
         else .accepted)))) := rfl

theorem stage_accepted {n : Nat} {p : PassRes} {next : Outcome} : stage n p next = .accepted ↔
    p.crash = none ∧ p.errs.filter (!·.hidden) = [] ∧ next = .accepted := by
  unfold stage
  cases p.crash
  · by_cases h : p.errs.filter (!·.hidden) = [] <;> simp [h]
  · simp

theorem stage_crashed {n : Nat} {p : PassRes} {next : Outcome} {k : Crash} :
    stage n p next = .crashed k ↔
      p.crash = some k ∨ p.crash = none ∧ p.errs.filter (!·.hidden) = [] ∧ next = .crashed k := by
  unfold stage
  cases p.crash
  · by_cases h : p.errs.filter (!·.hidden) = [] <;> simp [h]
  · simp

/-- a step: if what `next` rejects is visible, so is what the stage rejects -/
theorem stage_rejected {n q : Nat} {p : PassRes} {next : Outcome} {es : List Err}
    (hn : next = .rejected q es → ∀ er ∈ es, er.hidden = false) (h : stage n p next = .rejected q es) :
    ∀ er ∈ es, er.hidden = false := by
  unfold stage at h
  cases hc : p.crash <;> simp only [hc] at h
  · split at h
    · injection h with _ h
      subst h
      exact fun er her => by simpa using (List.mem_filter.1 her).2
    · exact hn h
  · cases h

theorem attrLate_none : ∀ as : List Attr, attrLate as = none
  | [] => rfl
  | _ :: as => attrLate_none as

theorem run_accepted (m : Module) :
    run m = .accepted ↔
      annotate m = [] ∧ (checkTypes m).ok ∧ (attrAll m.attrs).ok ∧ attrLate m.attrs = none := by
  simp only [run_stages, stage_accepted, List.filter_nil, true_and, ite_eq_right_iff, reduceCtorEq,
    imp_false, Decidable.not_not, List.filter_append, List.append_eq_nil_iff]
  constructor
  · rintro ⟨h1, hc, h2, ht, h3, hl, ⟨h4, h5⟩, h6⟩
    exact ⟨filter_split_nil.1 ⟨h1, h4⟩, ⟨filter_split_nil.1 ⟨h2, h5⟩, hc⟩,
      ⟨filter_split_nil.1 ⟨h3, h6⟩, ht⟩, hl⟩
  · rintro ⟨h1, ⟨h2, hc⟩, ⟨h3, ht⟩, hl⟩
    simp [h1, h2, h3, hc, ht, hl]

theorem typed_of_wf {m : Module} (wf : m.wf) (hte : ∀ e ∈ m.exprs, Typed e) :
    (∀ e ∈ inspected m, Typed e) ∧ ∀ e ∈ attrExprs m.attrs, Typed e :=
  ⟨fun e he => hte e (wf e (List.mem_append_left _ he)),
    fun e he => hte e (wf e (List.mem_append_right _ he))⟩

/-- once `annotate_types` is silent, the unguarded reads of the later passes find a type -/
theorem run_crashed_hidden {m : Module} {k : Crash} (wf : m.wf)
    (h : run m = .crashed k) : annotate m ≠ [] ∧ ∀ er ∈ annotate m, er.hidden = true := by
  simp only [run_stages, stage_crashed, reduceCtorEq, false_or, true_and] at h
  obtain ⟨hv, h⟩ := h
  refine ⟨fun ha => ?_, fun er her => by simpa using List.filter_eq_nil_iff.1 hv er her⟩
  have ⟨hte, hpa⟩ := (annotate_nil m).1 ha
  have ⟨hti, hta⟩ := typed_of_wf wf hte
  rw [(checkTypes_judges m).safe hti hpa, (attrAll_judges m).safe hta trivial, attrLate_none] at h
  simp only [reduceCtorEq, false_or, true_and, List.filter_nil] at h
  obtain ⟨-, -, h⟩ := h
  split at h <;> cases h

end Emboss.Types
