/-
Lemmas for C10.  Line level: the pattern loop picks the longest match with ties to the
earlier pattern; `_tokenize_line` yields a lossless cover; fuel is never exhausted.
File level: every list of lines has a `FileCover` or `FileFails` (`cover_or_fails`); what a
`FileCover` implies (balance, chain of strict prefixes, one end-of-line token per line).
-/
import Emboss.Model.Tok
import Emboss.Spec.TokFail
import Emboss.Lemmas.Regex
namespace Emboss.Tok
open Emboss.Regex

@[simp] theorem tokensOf_nil : tokensOf [] = [] := rfl
@[simp] theorem tokensOf_gap (x : List Char) (segs : List Seg) :
    tokensOf (.gap x :: segs) = tokensOf segs := rfl
@[simp] theorem tokensOf_tok (t : Token) (segs : List Seg) :
    tokensOf (.tok t :: segs) = t :: tokensOf segs := rfl

theorem IsBest.cons {p ps s n sy} (h : IsBest ps s n sy)
    (hp : ∀ m, matchLen p.re s = .ok m → m < n) : IsBest (p :: ps) s n sy := by
  obtain ⟨pre, q, post, rfl, hm, hs, hpre, hpost⟩ := h
  exact ⟨p :: pre, q, post, rfl, hm, hs, List.forall_mem_cons.mpr ⟨hp, hpre⟩, hpost⟩

theorem bestMatch_spec (ps : List Pat) (s : List Char) :
    ∀ n0 sy0, ∃ n sy, bestMatch ps s n0 sy0 = some (n, sy) ∧
      ((n = n0 ∧ sy = sy0 ∧ ∀ q ∈ ps, ∀ m, matchLen q.re s = .ok m → m ≤ n0) ∨
       (n0 < n ∧ IsBest ps s n sy)) := by
  induction ps with
  | nil => exact fun n0 sy0 => ⟨n0, sy0, rfl, .inl ⟨rfl, rfl, nofun⟩⟩
  | cons p ps ih =>
    intro n0 sy0
    -- one turn of the loop: it goes on with a candidate `(n1, sy1)` that bounds `p`'s match
    -- and is either the old candidate or `p`'s strictly longer match
    obtain ⟨n1, sy1, hturn, hp, hstep⟩ : ∃ n1 sy1,
        bestMatch (p :: ps) s n0 sy0 = bestMatch ps s n1 sy1 ∧
        (∀ m, matchLen p.re s = .ok m → m ≤ n1) ∧
        ((n1 = n0 ∧ sy1 = sy0) ∨ (n0 < n1 ∧ matchLen p.re s = .ok n1 ∧ p.sym = sy1)) := by
      rw [bestMatch]
      cases hm0 : matchLen p.re s with
      | fuel => exact absurd hm0 (matchLen_no_fuel _ _)
      | fail => exact ⟨n0, sy0, rfl, nofun, .inl ⟨rfl, rfl⟩⟩
      | ok m0 =>
        by_cases hgt : m0 > n0
        · exact ⟨m0, p.sym, if_pos hgt, fun m hm => (MRes.ok.inj hm) ▸ Nat.le_refl _, .inr ⟨hgt, rfl, rfl⟩⟩
        · exact ⟨n0, sy0, if_neg hgt, fun m hm => (MRes.ok.inj hm) ▸ Nat.le_of_not_lt hgt, .inl ⟨rfl, rfl⟩⟩
    obtain ⟨n, sy, h', hres⟩ := ih n1 sy1
    refine ⟨n, sy, hturn.trans h', ?_⟩
    rcases hres with ⟨rfl, rfl, hall⟩ | ⟨hlt, hbest⟩
    · rcases hstep with ⟨rfl, rfl⟩ | ⟨hlt, hm, hs⟩
      · exact .inl ⟨rfl, rfl, List.forall_mem_cons.mpr ⟨hp, hall⟩⟩
      · exact .inr ⟨hlt, [], p, ps, rfl, hm, hs, nofun, hall⟩
    · have hn0 : n0 ≤ n1 := hstep.elim (fun h => h.1 ▸ Nat.le_refl _) (fun h => Nat.le_of_lt h.1)
      exact .inr ⟨Nat.lt_of_le_of_lt hn0 hlt,
        hbest.cons fun m hm => Nat.lt_of_le_of_lt (hp m hm) hlt⟩

theorem IsBest.le_length {pats s n sy} (h : IsBest pats s n sy) : n ≤ s.length := by
  obtain ⟨_, p, _, _, hm, _⟩ := h
  exact matchLen_le _ _ _ hm

theorem IsBest.find {pats s n sy} (h : IsBest pats s n sy) :
    ∃ p, pats.find? (fun p => matchLen p.re s == .ok n) = some p ∧ p.sym = sy := by
  obtain ⟨pre, p, post, hp, hm, hs, hpre, _⟩ := h
  refine ⟨p, List.find?_eq_some_iff_append.mpr ⟨beq_iff_eq.mpr hm, pre, post, hp, fun q hq => ?_⟩, hs⟩
  rw [Bool.not_eq_true', beq_eq_false_iff_ne]
  exact fun h => Nat.lt_irrefl n (hpre q hq n h)

theorem IsBest.winner {pats s n sy} (h : IsBest pats s n sy) :
    ∃ p ∈ pats, matchLen p.re s = .ok n ∧ p.sym = sy := by
  obtain ⟨pre, p, post, hp, hm, hs, _⟩ := h
  exact ⟨p, by simp [hp], hm, hs⟩

theorem IsBest.max {pats s n sy} (h : IsBest pats s n sy) :
    ∀ q ∈ pats, ∀ m, matchLen q.re s = .ok m → m ≤ n := by
  obtain ⟨pre, p, post, hp, hm, _, hpre, hpost⟩ := h
  intro q hq m hqm
  rw [hp, List.mem_append, List.mem_cons] at hq
  rcases hq with hq | rfl | hq
  · exact Nat.le_of_lt (hpre q hq m hqm)
  · rw [hm] at hqm; cases hqm; exact Nat.le_refl _
  · exact hpost q hq m hqm

theorem IsBest.unique {pats s n sy n' sy'} (h : IsBest pats s n sy) (h' : IsBest pats s n' sy') :
    n = n' ∧ sy = sy' := by
  obtain ⟨p, hp, hm, _⟩ := h.winner
  obtain ⟨p', hp', hm', _⟩ := h'.winner
  have hn : n = n' := Nat.le_antisymm (h'.max p hp n hm) (h.max p' hp' n' hm')
  subst hn
  obtain ⟨q, hf, hs⟩ := h.find
  obtain ⟨q', hf', hs'⟩ := h'.find
  rw [hf] at hf'
  cases hf'
  exact ⟨rfl, hs.symm.trans hs'⟩

theorem bestMatch_cases (ps : List Pat) (s : List Char) :
    (∃ sy, bestMatch ps s 0 none = some (0, sy) ∧ NoMatch ps s) ∨
      ∃ n sy, bestMatch ps s 0 none = some (n + 1, sy) ∧ IsBest ps s (n + 1) sy := by
  obtain ⟨n, sy, hb, ⟨rfl, _, h3⟩ | ⟨hlt, hbest⟩⟩ := bestMatch_spec ps s 0 none
  · exact .inl ⟨sy, hb, fun q hq m hm => Nat.le_zero.mp (h3 q hq m hm)⟩
  · obtain ⟨k, rfl⟩ : ∃ k, n = k + 1 := ⟨n - 1, by omega⟩
    exact .inr ⟨k, sy, hb, hbest⟩

theorem bestMatch_of_match {ps : List Pat} {s : List Char} {p : Pat} {m : Nat} (hp : p ∈ ps)
    (hm : matchLen p.re s = .ok m) (hpos : 0 < m) :
    ∃ n sy, bestMatch ps s 0 none = some (n, sy) ∧ IsBest ps s n sy ∧ m ≤ n := by
  rcases bestMatch_cases ps s with ⟨_, _, hno⟩ | ⟨n, sy, hb, hbest⟩
  · exact absurd (hno p hp m hm) (Nat.ne_of_gt hpos)
  · exact ⟨n + 1, sy, hb, hbest, hbest.max p hp m hm⟩

def LineAnswer (pats : List Pat) (ln fuel : Nat) (s : List Char) (off : Nat) : LineRes → Prop
  | .ok ts => ∃ segs, Covers pats ln s off segs ∧ ts = tokensOf segs
  | .err k => StuckAt pats s off k
  | .fuel => fuel < s.length

theorem tokLine_spec (pats : List Pat) (ln : Nat) :
    ∀ fuel s off, LineAnswer pats ln fuel s off (tokLine pats ln fuel s off) := by
  intro fuel
  induction fuel with
  | zero =>
    intro s off
    cases s with
    | nil => exact ⟨[], .nil off, rfl⟩
    | cons c cs => exact Nat.succ_pos _
  | succ f ih =>
    intro s off
    cases s with
    | nil => exact ⟨[], .nil off, rfl⟩
    | cons c cs =>
      rcases bestMatch_cases pats (c :: cs) with ⟨sy, hb, hno⟩ | ⟨n, sy, hb, hbest⟩ <;>
        simp only [tokLine, hb]
      · exact .here (List.cons_ne_nil _ _) hno
      · have hle := hbest.le_length
        have hrec := ih ((c :: cs).drop (n + 1)) (off + (n + 1))
        generalize tokLine pats ln f ((c :: cs).drop (n + 1)) (off + (n + 1)) = r at hrec
        cases r with
        | ok ts' =>
          obtain ⟨segs, hc, rfl⟩ := hrec
          cases sy with
          | some name => exact ⟨.tok _ :: segs, .tok (Nat.succ_pos n) hle hbest hc, rfl⟩
          | none => exact ⟨.gap _ :: segs, .gap (Nat.succ_pos n) hle hbest hc, rfl⟩
        | err k => exact .step (Nat.succ_pos n) hbest hrec
        | fuel =>
          have : f < ((c :: cs).drop (n + 1)).length := hrec
          rw [List.length_drop] at this
          show f + 1 < (c :: cs).length
          omega

theorem tokLine_covers {pats : List Pat} {ln fuel : Nat} {s off ts}
    (h : tokLine pats ln fuel s off = .ok ts) : ∃ segs, Covers pats ln s off segs ∧ ts = tokensOf segs := by
  have := tokLine_spec pats ln fuel s off
  rwa [h] at this

theorem tokLine_err_stuck {pats : List Pat} {ln fuel : Nat} {s off k}
    (h : tokLine pats ln fuel s off = .err k) : StuckAt pats s off k := by
  have := tokLine_spec pats ln fuel s off
  rwa [h] at this

theorem tokLine_no_fuel {pats : List Pat} {ln fuel : Nat} {s off} (hf : s.length ≤ fuel) :
    tokLine pats ln fuel s off ≠ .fuel := fun h => by
  have := tokLine_spec pats ln fuel s off
  rw [h] at this
  exact Nat.not_lt.mpr hf this

theorem cover_or_stuck (pats : List Pat) (ln : Nat) (s : List Char) (off : Nat) :
    (∃ segs, Covers pats ln s off segs) ∨ ∃ k, StuckAt pats s off k := by
  have h := tokLine_spec pats ln s.length s off
  generalize tokLine pats ln s.length s off = r at h
  cases r with
  | fuel => exact absurd h (Nat.lt_irrefl _)
  | err k => exact .inr ⟨k, h⟩
  | ok ts => exact let ⟨segs, hc, _⟩ := h; .inl ⟨segs, hc⟩

theorem Covers.concat {pats ln s off segs} (h : Covers pats ln s off segs) :
    (segs.map Seg.text).flatten = s := by
  induction h with
  | nil => rfl
  | tok _ _ _ _ ih => simp [Seg.text, ih]
  | gap _ _ _ _ ih => simp [Seg.text, ih]

theorem take_ne_nil {s : List Char} {n : Nat} (hn : 0 < n) (hle : n ≤ s.length) : s.take n ≠ [] := by
  intro h0
  have := congrArg List.length h0
  simp only [List.length_take, List.length_nil] at this; omega

/-- `t` is a piece of `line`: the best match at its start column, carrying exactly the matched
text. -/
structure TokenAt (pats : List Pat) (ln : Nat) (line : List Char) (t : Token) : Prop where
  ne : t.text ≠ []
  sl : t.sl = ln
  el : t.el = ln
  ec : t.ec = t.sc + t.text.length
  ec_le : t.ec ≤ line.length + 1
  text : t.text = (line.drop (t.sc - 1)).take t.text.length
  best : IsBest pats (line.drop (t.sc - 1)) t.text.length (some t.sym)

theorem TokenAt.text_slice {pats ln line t} (h : TokenAt pats ln line t) :
    t.text = (line.drop (t.sc - 1)).take (t.ec - t.sc) := by
  rw [h.ec, Nat.add_sub_cancel_left]; exact h.text

/-- Columns are absolute: `s` is the part of `line` still to be cut. -/
theorem Covers.token_facts {pats ln} {line : List Char} {s off segs} (h : Covers pats ln s off segs)
    (hs : s = line.drop off) : ∀ t ∈ tokensOf segs, TokenAt pats ln line t := by
  induction h with
  | nil => intro t ht; cases ht
  | @tok s off n name segs hn hle hb _ ih =>
    intro t ht
    rcases List.mem_cons.mp ht with rfl | ht
    · have hlen : (s.take n).length = n := List.length_take_of_le hle
      have hne := take_ne_nil hn hle
      subst hs
      rw [List.length_drop] at hle
      refine ⟨hne, rfl, rfl, ?_, ?_, ?_, ?_⟩
      · show off + n + 1 = off + 1 + ((line.drop off).take n).length
        omega
      · show off + n + 1 ≤ line.length + 1
        omega
      · show (line.drop off).take n = (line.drop (off + 1 - 1)).take ((line.drop off).take n).length
        rw [hlen, Nat.add_sub_cancel]
      · show IsBest pats (line.drop (off + 1 - 1)) ((line.drop off).take n).length (some name)
        rwa [hlen, Nat.add_sub_cancel]
    · exact ih (by rw [hs, List.drop_drop]) t ht
  | gap _ _ _ _ ih => exact ih (by rw [hs, List.drop_drop])

theorem Covers.sc_pos {pats ln s off segs} (h : Covers pats ln s off segs) :
    ∀ t ∈ tokensOf segs, off + 1 ≤ t.sc := by
  induction h with
  | nil => nofun
  | tok _ _ _ _ ih =>
    exact List.forall_mem_cons.mpr ⟨Nat.le_refl _, fun t ht => Nat.le_trans (by omega) (ih t ht)⟩
  | gap _ _ _ _ ih => exact fun t ht => Nat.le_trans (by omega) (ih t ht)

theorem Covers.ordered {pats ln s off segs} (h : Covers pats ln s off segs) :
    (tokensOf segs).Pairwise (fun a b => a.ec ≤ b.sc) := by
  induction h with
  | nil => exact .nil
  | tok _ _ _ hc ih => exact List.pairwise_cons.mpr ⟨hc.sc_pos, ih⟩
  | gap _ _ _ _ ih => exact ih

theorem Covers.syms {pats ln s off segs} (h : Covers pats ln s off segs) :
    ∀ t ∈ tokensOf segs, ∃ p ∈ pats, p.sym = some t.sym := by
  induction h with
  | nil => nofun
  | tok _ _ hb _ ih => exact List.forall_mem_cons.mpr ⟨let ⟨p, hp, _, hs⟩ := hb.winner; ⟨p, hp, hs⟩, ih⟩
  | gap _ _ _ _ ih => exact ih

theorem Covers.count_reserved {pats ln s off segs} (h : Covers pats ln s off segs)
    (hres : ReservedSyms pats) :
    countSym "Indent" (tokensOf segs) = 0 ∧ countSym "Dedent" (tokensOf segs) = 0 ∧
      countSym nlSym (tokensOf segs) = 0 := by
  have hs := h.syms
  have key : ∀ sym : String, (∀ p ∈ pats, p.sym ≠ some sym) → countSym sym (tokensOf segs) = 0 := by
    intro sym hno
    simp only [countSym, List.countP_eq_zero]
    intro t ht hc
    obtain ⟨p, hp, hps⟩ := hs t ht
    have : t.sym = sym := by simpa using hc
    exact hno p hp (by rw [hps, this])
  exact ⟨key _ fun p hp => (hres p hp).1, key _ fun p hp => (hres p hp).2.1,
    key _ fun p hp => (hres p hp).2.2⟩

theorem countSym_nil (sym : String) : countSym sym [] = 0 := rfl

theorem countSym_append (sym : String) (a b : List Token) :
    countSym sym (a ++ b) = countSym sym a + countSym sym b := List.countP_append

theorem countSym_replicate_dedent (sym : String) (k ln col : Nat) :
    countSym sym (List.replicate k (dedentTok ln col)) = if "Dedent" == sym then k else 0 :=
  List.countP_replicate

theorem countSym_singleton (sym : String) (t : Token) :
    countSym sym [t] = if t.sym == sym then 1 else 0 := List.countP_singleton

theorem synth_syms : ("Indent" == "Dedent") = false ∧ ("Indent" == nlSym) = false ∧
    ("Dedent" == "Indent") = false ∧ ("Dedent" == nlSym) = false ∧
    (nlSym == "Indent") = false ∧ (nlSym == "Dedent") = false := by decide

theorem chainOk_suffix : ∀ (popped : List (List Char)) (x : List Char) (rest : List (List Char)),
    ChainOk (popped ++ x :: rest) → ChainOk (x :: rest) := by
  intro popped
  induction popped with
  | nil => intro x rest h; simpa using h
  | cons p popped ih =>
    intro x rest h
    cases popped with
    | nil => simp only [List.cons_append, List.nil_append, ChainOk] at h; exact h.2
    | cons q popped =>
      simp only [List.cons_append, ChainOk] at h
      exact ih x rest h.2

theorem IndentStep.chain {ln line lts st synth st'} (h : IndentStep ln line lts st synth st')
    (hok : st.Ok) : st'.Ok := by
  cases h with
  | blank | same => exact hok
  | indent _ hne hpre =>
    simp only [IStack.Ok, ChainOk]
    exact ⟨⟨hpre, fun h => hne h.symm⟩, hok⟩
  | dedent popped _ _ _ heq _ _ =>
    simp only [IStack.Ok] at hok ⊢
    rw [heq] at hok
    exact chainOk_suffix _ _ _ hok

theorem IndentStep.top {ln line lts st synth st'} (h : IndentStep ln line lts st synth st')
    (hb : isBlankLine lts = false) : st'.top = leadingWs line := by
  cases h with
  | blank hb' => rw [hb] at hb'; cases hb'
  | same _ heq => exact heq.symm
  | indent => rfl
  | dedent _ _ _ _ _ htop _ => exact htop

theorem IndentStep.synth_mem {ln line lts st synth st'} (h : IndentStep ln line lts st synth st') :
    ∀ t ∈ synth, (t.sym = "Indent" ∨ t.sym = "Dedent") ∧ t.sl = ln ∧ t.el = ln := by
  intro t ht
  cases h with
  | blank | same => cases ht
  | indent => obtain rfl := List.mem_singleton.mp ht; exact ⟨.inl rfl, rfl, rfl⟩
  | dedent popped => obtain rfl := List.eq_of_mem_replicate ht; exact ⟨.inr rfl, rfl, rfl⟩

theorem IndentStep.total (ln : Nat) (line : List Char) (lts : List Token) (st : IStack) :
    (∃ synth st', IndentStep ln line lts st synth st') ∨
      (isBlankLine lts = false ∧ leadingWs line ≠ st.top ∧ ¬ st.top <+: leadingWs line ∧
        leadingWs line ∉ st.below) := by
  cases hb : isBlankLine lts with
  | true => exact .inl ⟨_, _, .blank hb⟩
  | false =>
    by_cases heq : leadingWs line = st.top
    · exact .inl ⟨_, _, .same hb heq⟩
    by_cases hpre : st.top <+: leadingWs line
    · exact .inl ⟨_, _, .indent hb heq hpre⟩
    by_cases hm : leadingWs line ∈ st.below
    · obtain ⟨pp, below', hbl, hn⟩ := List.eq_append_cons_of_mem hm
      exact .inl ⟨_, ⟨_, below'⟩, .dedent (st.top :: pp) hb heq hpre (congrArg (st.top :: ·) hbl) rfl
        (List.not_mem_cons_of_ne_of_not_mem heq hn)⟩
    · exact .inr ⟨rfl, heq, hpre, hm⟩

/-- With `FileCover.tokLines_eq` and `FileFails.tokLines_eq` this gives what `tokLines` may answer
(`tokLines_spec`). -/
theorem cover_or_fails (pats : List Pat) : ∀ lines ln st,
    (∃ toks, FileCover pats lines ln st toks) ∨
      ∃ msg a b c d, FileFails pats lines ln st msg a b c d := by
  intro lines
  induction lines with
  | nil => exact fun ln st => .inl ⟨_, .done⟩
  | cons line rest ih =>
    intro ln st
    rcases cover_or_stuck pats ln line 0 with ⟨segs, hc⟩ | ⟨k, hk⟩
    · rcases IndentStep.total ln line (tokensOf segs) st with ⟨synth, st', hi⟩ | ⟨h1, h2, h3, h4⟩
      · rcases ih (ln + 1) st' with ⟨ts, h⟩ | ⟨m, a, b, c, d, h⟩
        · exact .inl ⟨_, .line hc hi h⟩
        · exact .inr ⟨m, a, b, c, d, .later hc hi h⟩
      · exact .inr ⟨_, _, _, _, _, .indent hc h1 h2 h3 h4⟩
    · exact .inr ⟨_, _, _, _, _, .stuck hk⟩

theorem IndentStep.balance {ln line lts st synth st'} (h : IndentStep ln line lts st synth st') :
    countSym "Indent" synth + st.depth = countSym "Dedent" synth + st'.depth ∧
    countSym nlSym synth = 0 := by
  cases h with
  | blank | same => simp only [countSym_nil, and_true]
  | indent =>
    simp only [countSym_singleton, synth_syms, beq_self_eq_true, if_true, Bool.false_eq_true, if_false,
      IStack.depth, List.length_cons, Nat.zero_add, and_true]
    exact Nat.add_comm 1 _
  | dedent popped _ _ _ heq _ _ =>
    simp only [countSym_replicate_dedent, synth_syms, beq_self_eq_true, if_true, Bool.false_eq_true,
      if_false, IStack.depth, and_true]
    have := congrArg List.length heq
    simp only [List.length_cons, List.length_append] at this
    omega

theorem line_counts {pats ln line st st' synth segs em} (hres : ReservedSyms pats)
    (hc : Covers pats ln line 0 segs) (hi : IndentStep ln line (tokensOf segs) st synth st')
    (hem : em = synth ++ tokensOf segs ++ [newlineTok ln line.length]) :
    countSym "Indent" em + st.depth = countSym "Dedent" em + st'.depth ∧ countSym nlSym em = 1 := by
  obtain ⟨c1, c2, c3⟩ := hc.count_reserved hres
  obtain ⟨b1, b2⟩ := hi.balance
  simp only [hem, countSym_append, c1, c2, c3, b2, countSym_singleton, newlineTok, synth_syms,
    beq_self_eq_true, if_true, Bool.false_eq_true, if_false, Nat.add_zero, Nat.zero_add, and_true]
  exact b1

theorem FileCover.split {pats} (hres : ReservedSyms pats) :
    ∀ (l1 l2 : List (List Char)) ln st toks, FileCover pats (l1 ++ l2) ln st toks →
      ∃ t1 t2 stm, toks = t1 ++ t2 ∧ FileCover pats l2 (ln + l1.length) stm t2 ∧
        (st.Ok → stm.Ok) ∧
        countSym "Indent" t1 + st.depth = countSym "Dedent" t1 + stm.depth ∧
        countSym nlSym t1 = l1.length := by
  intro l1
  induction l1 with
  | nil => exact fun l2 ln st toks h => ⟨[], toks, st, rfl, h, id, by simp only [countSym_nil], rfl⟩
  | cons line l1 ih =>
    intro l2 ln st toks h
    cases h with
    | @line _ _ _ _ st' synth segs ts hc hi hrest =>
      obtain ⟨t1, t2, stm, rfl, hcov, hok, hbal, hnl⟩ := ih l2 (ln + 1) st' ts hrest
      generalize hem : synth ++ tokensOf segs ++ [newlineTok ln line.length] = em
      obtain ⟨c1, c2⟩ := line_counts hres hc hi hem.symm
      refine ⟨em ++ t1, t2, stm, (List.append_assoc ..).symm, ?_, fun h => hok (hi.chain h), ?_, ?_⟩
      · rwa [List.length_cons, Nat.add_comm l1.length, ← Nat.add_assoc]
      · rw [countSym_append, countSym_append]; omega
      · rw [countSym_append, c2, hnl, List.length_cons, Nat.add_comm]

theorem FileCover.balance {pats lines ln st toks} (h : FileCover pats lines ln st toks)
    (hres : ReservedSyms pats) :
    countSym "Indent" toks + st.depth = countSym "Dedent" toks ∧
      countSym nlSym toks = lines.length := by
  obtain ⟨t1, t2, stm, rfl, hcov, _, hbal, hnl⟩ :=
    FileCover.split hres lines [] ln st toks ((List.append_nil lines).symm ▸ h)
  cases hcov
  simp only [countSym_append, countSym_replicate_dedent, synth_syms, beq_self_eq_true, if_true,
    Bool.false_eq_true, if_false, Nat.add_zero]
  exact ⟨hbal, hnl⟩

theorem FileCover.newline_mem {pats lines ln st toks} (h : FileCover pats lines ln st toks) :
    ∀ i (hi : i < lines.length), newlineTok (ln + i) (lines[i]).length ∈ toks := by
  induction h with
  | done => intro i hi; simp at hi
  | @line line rest ln st st' synth segs ts _ _ _ ih =>
    intro i hi
    cases i with
    | zero => simp
    | succ i =>
      have := ih i (by simpa using hi)
      simp only [List.getElem_cons_succ, List.mem_append]
      right
      rw [show ln + (i + 1) = ln + 1 + i by omega]
      exact this

theorem FileCover.line_numbers {pats lines ln st toks} (h : FileCover pats lines ln st toks) :
    (∀ t ∈ toks, ln ≤ t.sl ∧ t.sl ≤ ln + lines.length ∧ t.el = t.sl) ∧
      toks.Pairwise (fun a b => a.sl ≤ b.sl) := by
  induction h with
  | @done ln st =>
    refine ⟨fun t ht => ?_, List.pairwise_replicate.mpr (.inr (Nat.le_refl _))⟩
    obtain rfl := List.eq_of_mem_replicate ht
    exact ⟨Nat.le_refl _, Nat.le_refl _, rfl⟩
  | @line line rest ln st st' synth segs ts hc hi _ ih =>
    have hline : ∀ t ∈ synth ++ tokensOf segs ++ [newlineTok ln line.length],
        t.sl = ln ∧ t.el = ln := by
      intro t ht
      rcases List.mem_append.mp ht with ht | ht
      · rcases List.mem_append.mp ht with ht | ht
        · exact (hi.synth_mem t ht).2
        · exact let f := hc.token_facts rfl t ht; ⟨f.sl, f.el⟩
      · obtain rfl := List.mem_singleton.mp ht; exact ⟨rfl, rfl⟩
    constructor
    · intro t ht
      rw [List.length_cons]
      rcases List.mem_append.mp ht with ht | ht
      · obtain ⟨h1, h2⟩ := hline t ht
        rw [h1, h2]; exact ⟨Nat.le_refl _, Nat.le_add_right _ _, rfl⟩
      · obtain ⟨h1, h2, h3⟩ := ih.1 t ht
        exact ⟨by omega, by omega, h3⟩
    · refine List.pairwise_append.mpr
        ⟨List.pairwise_of_forall_mem_list fun a ha b hb => ?_, ih.2, fun a ha b hb => ?_⟩
      · rw [(hline a ha).1, (hline b hb).1]; exact Nat.le_refl _
      · rw [(hline a ha).1]; exact Nat.le_of_succ_le (ih.1 b hb).1

end Emboss.Tok
