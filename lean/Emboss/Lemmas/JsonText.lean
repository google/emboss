/-
C18, JSON text layer: `parseJson` reads back what `Dv.render` writes.  Leaves (`parseStrBody`
inverts `renderStr`, `parseIntPrefix` inverts `intChars`), the mutual induction over `Dv`,
the fuel bound.
-/
import Emboss.Model.JsonText
import Emboss.Lemmas.JsonLoc
namespace Emboss.Json

theorem hexVal_hexDigit : ∀ n : Fin 16, hexVal (hexDigit n.val) = some n.val := by decide +kernel

theorem hexVal_hexDigit_mod (n : Nat) : hexVal (hexDigit (n % 16)) = some (n % 16) :=
  hexVal_hexDigit ⟨n % 16, Nat.mod_lt _ (by decide)⟩

theorem hex4_digits (n : Nat) (h : n < 65536) :
    hex4 (hexDigit (n / 4096 % 16)) (hexDigit (n / 256 % 16)) (hexDigit (n / 16 % 16))
      (hexDigit (n % 16)) = some n := by
  simp only [hex4, hexVal_hexDigit_mod]
  congr 1
  -- the digits of `n = n % 16⁴`, peeled off by `Nat.mod_mul` (`omega` is slow here)
  have e : n % (16 * 16 * 16 * 16) = n := Nat.mod_eq_of_lt h
  rw [Nat.mod_mul, Nat.mod_mul, Nat.mod_mul] at e
  rw [Nat.add_comm, Nat.add_comm _ (16 * _), Nat.add_comm _ (256 * _), ← Nat.add_assoc,
    ← Nat.add_assoc]
  exact e

/-- UTF-16 code units `json.dumps(ensure_ascii=True)` writes for `c` (code point itself in the BMP). -/
def unitsOf (c : Char) : List Nat :=
  if c.toNat < 65536 then [c.toNat]
  else [55296 + (c.toNat - 65536) / 1024 % 1024, 56320 + (c.toNat - 65536) % 1024]

theorem unitsOf_bmp {c : Char} (h : c.toNat < 65536) : unitsOf c = [c.toNat] := if_pos h

theorem scanStr_quote (rest : List Char) : scanStr ('"' :: rest) = some ([], rest) := by
  rw [scanStr.eq_def]
  exact if_pos rfl

theorem scanStr_u (a b c d : Char) (tail : List Char) :
    scanStr ('\\' :: 'u' :: a :: b :: c :: d :: tail) =
      match hex4 a b c d with
      | some n => consUnit n (scanStr tail)
      | none => none := by
  rw [scanStr.eq_def]
  simp only [Char.reduceEq, if_false, if_true]
  rfl

theorem scanStr_esc (e : Char) (tail : List Char) (n : Nat) (h : simpleEsc e = some n) :
    scanStr ('\\' :: e :: tail) = consUnit n (scanStr tail) := by
  have he : e ≠ 'u' := by
    rintro rfl
    cases h
  rw [scanStr.eq_def]
  simp only [Char.reduceEq, if_false, if_true, if_neg he, h]

theorem scanStr_plain (c : Char) (tail : List Char) (h1 : c ≠ '"') (h2 : c ≠ '\\')
    (h3 : 32 ≤ c.toNat) : scanStr (c :: tail) = consUnit c.toNat (scanStr tail) := by
  rw [scanStr.eq_def]
  simp only [if_neg h1, if_neg h2, if_neg (Nat.not_lt.mpr h3)]

theorem scanStr_u4 (n : Nat) (h : n < 65536) (tail : List Char) :
    scanStr (u4 n ++ tail) = consUnit n (scanStr tail) := by
  simp only [u4, List.cons_append, List.nil_append, scanStr_u, hex4_digits n h]

theorem char_range (c : Char) : c.toNat < 55296 ∨ (57343 < c.toNat ∧ c.toNat < 1114112) := c.valid

theorem scanStr_escChar (c : Char) (tail : List Char) :
    scanStr (escChar c ++ tail) = (unitsOf c).foldr consUnit (scanStr tail) := by
  unfold escChar
  by_cases h1 : c = '"'
  · rw [if_pos h1, h1]
    exact scanStr_esc '"' tail 34 rfl
  rw [if_neg h1]
  by_cases h2 : c = '\\'
  · rw [if_pos h2, h2]
    exact scanStr_esc '\\' tail 92 rfl
  rw [if_neg h2]
  by_cases h3 : c = '\n'
  · rw [if_pos h3, h3]
    exact scanStr_esc 'n' tail 10 rfl
  rw [if_neg h3]
  by_cases h4 : c = '\r'
  · rw [if_pos h4, h4]
    exact scanStr_esc 'r' tail 13 rfl
  rw [if_neg h4]
  by_cases h5 : c = '\t'
  · rw [if_pos h5, h5]
    exact scanStr_esc 't' tail 9 rfl
  rw [if_neg h5]
  by_cases h6 : c.toNat = 8
  · rw [if_pos h6, unitsOf_bmp (by omega), h6]
    exact scanStr_esc 'b' tail 8 rfl
  rw [if_neg h6]
  by_cases h7 : c.toNat = 12
  · rw [if_pos h7, unitsOf_bmp (by omega), h7]
    exact scanStr_esc 'f' tail 12 rfl
  rw [if_neg h7]
  by_cases h8 : (32 ≤ c.toNat && c.toNat ≤ 126) = true
  · rw [if_pos h8]
    simp only [Bool.and_eq_true, decide_eq_true_eq] at h8
    rw [unitsOf_bmp (by omega)]
    exact scanStr_plain c tail h1 h2 h8.1
  rw [if_neg h8]
  by_cases hb : c.toNat < 65536
  · rw [if_pos hb, unitsOf_bmp hb]
    exact scanStr_u4 _ hb tail
  · have hr := char_range c
    rw [if_neg hb, unitsOf, if_neg hb, List.append_assoc, scanStr_u4 _ (by omega),
      scanStr_u4 _ (by omega)]
    rfl

theorem foldr_consUnit (us xs : List Nat) (rest : List Char) :
    us.foldr consUnit (some (xs, rest)) = some (us ++ xs, rest) := by
  induction us with
  | nil => rfl
  | cons u us ih =>
    rw [List.foldr_cons, ih]
    rfl

theorem scanStr_render (l : List Char) (rest : List Char) :
    scanStr (l.flatMap escChar ++ '"' :: rest) = some (l.flatMap unitsOf, rest) := by
  induction l with
  | nil => exact scanStr_quote rest
  | cons c l ih =>
    rw [List.flatMap_cons, List.append_assoc, scanStr_escChar, ih, foldr_consUnit, List.flatMap_cons]

theorem consChar_some (n : Nat) (cs : List Char) : consChar n (some cs) = some (Char.ofNat n :: cs) := rfl

theorem joinUnits_scalar (u : Nat) (rest : List Nat) (h : u < 55296 ∨ (57343 < u ∧ u < 1114112)) :
    joinUnits (u :: rest) = consChar u (joinUnits rest) := by
  have a1 : ¬ (55296 ≤ u ∧ u < 56320) := by omega
  have a2 : ¬ (56320 ≤ u ∧ u < 57344) := by omega
  have hlt : u < 1114112 := by omega
  rw [joinUnits.eq_def]
  simp only [Bool.and_eq_true, decide_eq_true_eq, if_neg a1, if_neg a2, if_pos hlt]

theorem joinUnits_pair (a b : Nat) (rest : List Nat) (ha : a < 1024) (hb : b < 1024) :
    joinUnits ((55296 + a) :: (56320 + b) :: rest) =
      consChar (65536 + a * 1024 + b) (joinUnits rest) := by
  have hu : 55296 ≤ 55296 + a ∧ 55296 + a < 56320 := by omega
  have hl : 56320 ≤ 56320 + b ∧ 56320 + b < 57344 := by omega
  rw [joinUnits.eq_def]
  simp only [Bool.and_eq_true, decide_eq_true_eq, if_pos hu, if_pos hl, Nat.add_sub_cancel_left]

theorem joinUnits_unitsOf (c : Char) (us : List Nat) :
    joinUnits (unitsOf c ++ us) = consChar c.toNat (joinUnits us) := by
  have hr := char_range c
  unfold unitsOf
  by_cases hlt : c.toNat < 65536
  · rw [if_pos hlt, List.singleton_append, joinUnits_scalar _ _ hr]
  · have hn : (c.toNat - 65536) / 1024 < 1024 := Nat.div_lt_of_lt_mul (by omega)
    rw [if_neg hlt, List.cons_append, List.singleton_append,
      joinUnits_pair _ _ _ (Nat.mod_lt _ (by decide)) (Nat.mod_lt _ (by decide)),
      Nat.mod_eq_of_lt hn, Nat.add_assoc, Nat.div_add_mod', Nat.add_sub_cancel' (Nat.not_lt.mp hlt)]

theorem joinUnits_render (l : List Char) : joinUnits (l.flatMap unitsOf) = some l := by
  induction l with
  | nil => rfl
  | cons c l ih => rw [List.flatMap_cons, joinUnits_unitsOf, ih, consChar_some, Char.ofNat_toNat]

theorem parseStrBody_render (s : String) (rest : List Char) :
    parseStrBody (s.toList.flatMap escChar ++ '"' :: rest) = some (s, rest) := by
  simp only [parseStrBody, scanStr_render, joinUnits_render, String.ofList_toList]

theorem intCh_of_mem_intChars (i : Int) : ∀ c ∈ intChars i, intCh c = true := by
  intro c h
  cases i with
  | ofNat n =>
    simp only [intChars] at h
    simp [intCh, isDigit_of_mem_natChars h]
  | negSucc n =>
    simp only [intChars, List.mem_cons] at h
    rcases h with h | h
    · subst h; decide
    · simp [intCh, isDigit_of_mem_natChars h]

/-- What may follow a value in a rendered text: nothing, `,`, `]` or `}` — in particular
no character a number could continue with. -/
def Stop (rest : List Char) : Prop := rest.takeWhile intCh = []

theorem Stop.dropWhile {rest : List Char} (h : Stop rest) : rest.dropWhile intCh = rest := by
  have e := List.takeWhile_append_dropWhile (p := intCh) (l := rest)
  rwa [h, List.nil_append] at e

theorem parseIntPrefix_render (i : Int) (rest : List Char) (h : Stop rest) :
    parseIntPrefix (intChars i ++ rest) = some (i, rest) := by
  have hall := intCh_of_mem_intChars i
  have ht : rest.takeWhile intCh = [] := h
  simp only [parseIntPrefix, List.takeWhile_append_of_pos hall, List.dropWhile_append_of_pos hall,
    ht, h.dropWhile, List.append_nil, parseInt_intChars]

theorem renderStr_append (s : String) (rest : List Char) :
    renderStr s ++ rest = '"' :: (s.toList.flatMap escChar ++ '"' :: rest) := by
  simp only [renderStr, List.cons_append, List.append_assoc, List.nil_append]

theorem parseVal_str (s : String) (f : Nat) (rest : List Char) :
    parseVal (f + 1) (renderStr s ++ rest) = .ok (.str s) rest := by
  rw [renderStr_append, parseVal, parseStrBody_render]

/-- `parseIntPrefix` fails on the characters the other cases of `parseVal` begin with. -/
theorem parseVal_of_parseIntPrefix {cs rest : List Char} {i : Int} (f : Nat)
    (h : parseIntPrefix cs = some (i, rest)) : parseVal (f + 1) cs = .ok (.int i) rest := by
  rw [parseVal, h]
  all_goals
    rintro tl rfl
    cases h

/-- `parseElems` fails on a closing bracket, so a text it accepts does not begin with one. -/
theorem ne_rbracket_of_parseElems {f : Nat} {cs rest : List Char} {l : List Dv}
    (h : parseElems f cs = .ok l rest) (tl : List Char) : cs ≠ ']' :: tl := by
  rintro rfl
  -- `parseElems (f + 1)` calls `parseVal f`, which reduces only when `f` is `0` or a successor: three cases
  match f, h with
  | 0, h => cases h
  | 1, h => cases h
  | _ + 2, h => cases h

theorem ne_rbrace_of_parseMembers {f : Nat} {cs rest : List Char} {l : List (String × Dv)}
    (h : parseMembers f cs = .ok l rest) (tl : List Char) : cs ≠ '}' :: tl := by
  rintro rfl
  match f, h with
  | 0, h => cases h
  | _ + 1, h => cases h

theorem renderChars_list_append (xs : List Dv) (rest : List Char) :
    (Dv.list xs).renderChars ++ rest = '[' :: (renderList xs ++ ']' :: rest) := by
  simp only [Dv.renderChars, List.cons_append, List.append_assoc, List.nil_append]

theorem renderChars_dict_append (kvs : List (String × Dv)) (rest : List Char) :
    (Dv.dict kvs).renderChars ++ rest = '{' :: (renderKvs kvs ++ '}' :: rest) := by
  simp only [Dv.renderChars, List.cons_append, List.append_assoc, List.nil_append]

theorem renderList_cons_append (x y : Dv) (ys : List Dv) (rest : List Char) :
    renderList (x :: y :: ys) ++ rest = x.renderChars ++ ',' :: ' ' :: (renderList (y :: ys) ++ rest) :=
  List.append_assoc ..

theorem renderKvs_single_append (k : String) (d : Dv) (rest : List Char) :
    renderKvs [(k, d)] ++ rest = renderStr k ++ ':' :: ' ' :: (d.renderChars ++ rest) := by
  simp only [renderKvs, List.cons_append, List.append_assoc]

theorem renderKvs_cons_append (k : String) (d : Dv) (kv : String × Dv) (kvs : List (String × Dv))
    (rest : List Char) :
    renderKvs ((k, d) :: kv :: kvs) ++ rest =
      renderStr k ++ ':' :: ' ' :: (d.renderChars ++ ',' :: ' ' :: (renderKvs (kv :: kvs) ++ rest)) := by
  simp only [renderKvs, List.cons_append, List.append_assoc]

theorem Dv.nodes_pos (d : Dv) : 0 < d.nodes := by
  cases d <;> simp only [Dv.nodes] <;> omega

mutual
theorem parseVal_render : ∀ (d : Dv) (fuel : Nat) (rest : List Char), d.nodes ≤ fuel → Stop rest →
    parseVal fuel (d.renderChars ++ rest) = .ok d rest
  | d, 0, _, hf, _ => absurd hf (Nat.not_le.mpr d.nodes_pos)
  | d, f + 1, rest, hf, hs => by
    cases d with
    | null => rfl
    | bool b => cases b <;> rfl
    | str s => exact parseVal_str s f rest
    | int i => exact parseVal_of_parseIntPrefix f (parseIntPrefix_render i rest hs)
    | list xs =>
      cases xs with
      | nil => rfl
      | cons x xs =>
        have hf' : 1 + Dv.nodes.nodesList (x :: xs) ≤ f + 1 := hf
        have ih := parseElems_render (x :: xs) f rest (List.cons_ne_nil _ _) (by omega)
        -- the equation of `parseVal` for `'[' :: rest` asks that `rest` is not `']' :: _` (the empty list)
        rw [renderChars_list_append, parseVal, ih]
        exact ne_rbracket_of_parseElems ih
    | dict kvs =>
      cases kvs with
      | nil => rfl
      | cons kv kvs =>
        have hf' : 1 + Dv.nodes.nodesKvs (kv :: kvs) ≤ f + 1 := hf
        have ih := parseMembers_render (kv :: kvs) f rest (List.cons_ne_nil _ _) (by omega)
        rw [renderChars_dict_append, parseVal, ih]
        exact ne_rbrace_of_parseMembers ih
theorem parseElems_render : ∀ (l : List Dv) (fuel : Nat) (rest : List Char), l ≠ [] →
    Dv.nodes.nodesList l ≤ fuel → parseElems fuel (renderList l ++ ']' :: rest) = .ok l rest
  | [], _, _, h, _ => absurd rfl h
  | x :: xs, 0, _, _, hf => by
    have : 1 + x.nodes + Dv.nodes.nodesList xs ≤ 0 := hf
    omega
  | [x], f + 1, rest, _, hf => by
    have hf' : 1 + x.nodes + 0 ≤ f + 1 := hf
    have h1 := parseVal_render x f (']' :: rest) (by omega) rfl
    simp only [renderList, parseElems, h1]
  | x :: y :: ys, f + 1, rest, _, hf => by
    have hf' : 1 + x.nodes + Dv.nodes.nodesList (y :: ys) ≤ f + 1 := hf
    have h1 := parseVal_render x f (',' :: ' ' :: (renderList (y :: ys) ++ ']' :: rest)) (by omega) rfl
    have h2 := parseElems_render (y :: ys) f rest (List.cons_ne_nil _ _) (by omega)
    simp only [renderList_cons_append, parseElems, h1, h2]
theorem parseMembers_render : ∀ (l : List (String × Dv)) (fuel : Nat) (rest : List Char), l ≠ [] →
    Dv.nodes.nodesKvs l ≤ fuel → parseMembers fuel (renderKvs l ++ '}' :: rest) = .ok l rest
  | [], _, _, h, _ => absurd rfl h
  | (_, d) :: kvs, 0, _, _, hf => by
    have : 1 + d.nodes + Dv.nodes.nodesKvs kvs ≤ 0 := hf
    omega
  | [(k, d)], f + 1, rest, _, hf => by
    have hf' : 1 + d.nodes + 0 ≤ f + 1 := hf
    have h1 := parseVal_render d f ('}' :: rest) (by omega) rfl
    simp only [renderKvs_single_append, renderStr_append, parseMembers, parseStrBody_render, h1]
  | (k, d) :: kv :: kvs, f + 1, rest, _, hf => by
    have hf' : 1 + d.nodes + Dv.nodes.nodesKvs (kv :: kvs) ≤ f + 1 := hf
    have h1 := parseVal_render d f (',' :: ' ' :: (renderKvs (kv :: kvs) ++ '}' :: rest)) (by omega) rfl
    have h2 := parseMembers_render (kv :: kvs) f rest (List.cons_ne_nil _ _) (by omega)
    simp only [renderKvs_cons_append, renderStr_append, parseMembers, parseStrBody_render, h1, h2]
end

theorem nodes_le_length : ∀ d : Dv, d.nodes ≤ d.renderChars.length
  | .null => by decide +kernel
  | .bool true => by decide +kernel
  | .bool false => by decide +kernel
  | .str s => by
    simp only [Dv.nodes, Dv.renderChars, renderStr, List.length_cons]
    omega
  | .int i => List.length_pos_iff.mpr (intChars_ne_nil i)
  | .list xs => by
    have := nodesList_le xs
    simp only [Dv.nodes, Dv.renderChars, List.length_cons, List.length_append, List.length_nil]
    omega
  | .dict kvs => by
    have := nodesKvs_le kvs
    simp only [Dv.nodes, Dv.renderChars, List.length_cons, List.length_append, List.length_nil]
    omega
where
  nodesList_le : ∀ l : List Dv, Dv.nodes.nodesList l ≤ (renderList l).length + 1
    | [] => Nat.zero_le _
    | [x] => by
      have := nodes_le_length x
      simp only [Dv.nodes.nodesList, renderList]
      omega
    | x :: y :: ys => by
      have := nodes_le_length x
      have := nodesList_le (y :: ys)
      simp only [Dv.nodes.nodesList, renderList, List.length_cons, List.length_append] at *
      omega
  nodesKvs_le : ∀ l : List (String × Dv), Dv.nodes.nodesKvs l ≤ (renderKvs l).length + 1
    | [] => Nat.zero_le _
    | [(k, d)] => by
      have := nodes_le_length d
      simp only [Dv.nodes.nodesKvs, renderKvs, List.length_cons, List.length_append]
      omega
    | (k, d) :: kv :: kvs => by
      have := nodes_le_length d
      have := nodesKvs_le (kv :: kvs)
      simp only [Dv.nodes.nodesKvs, renderKvs, List.length_cons, List.length_append] at *
      omega

theorem parseJson_render (d : Dv) : parseJson d.render = .ok d [] := by
  have h := parseVal_render d (2 * d.renderChars.length + 2) []
    (by have := nodes_le_length d; omega) rfl
  rw [List.append_nil] at h
  simp only [parseJson, parseJsonFuel, Dv.render, String.toList_ofList, h]

theorem render_eq_of_toList {d : Dv} {s : String} (h : d.renderChars = s.toList) : d.render = s :=
  (congrArg String.ofList h).trans String.ofList_toList

theorem toJson_eq_of_toList {S : Schema} {m : Val} {s : String}
    (h : (toDict S m).map Dv.renderChars = some s.toList) : toJson S m = some s := by
  unfold toJson
  match toDict S m, h with
  | some d, h => exact congrArg some (render_eq_of_toList (Option.some.inj h))

end Emboss.Json
