/-
`fold_equiv`: on trees with the same productions and the same tokens except for the texts of
layout tokens and trailing blanks of Documentation tokens (`equivT`) the fold yields the *same*
value at every node: a handler does not look at the arguments it drops (`run_blank`), and `_doc`
strips.  The property theorems use the coarser relation `equivC` (Comment tokens as well), under
which the values are only related: FmtRelCFold.lean.  Nothing else rests on this file.
-/
import Emboss.Lemmas.FmtTree
namespace Emboss.Fmt

theorem run_blank (iw : Nat) (h : Handler) (args : List Fmt) :
    h.run iw args = h.run iw (blankAt h.dropped 0 args) := by
  by_cases hd : h.dropped = []
  · rw [hd, blankAt_nil]
  cases h <;> first | exact absurd rfl hd | skip
  -- whatever the length of `args`, both sides compute to the same term
  case structureBody =>
    rcases args with _ | ⟨a, _ | ⟨b, _ | ⟨c, _ | ⟨d, _ | ⟨e, _ | ⟨f, _ | ⟨g, _⟩⟩⟩⟩⟩⟩⟩ <;> rfl
  case fieldBody | enumValueBody | externalBody | inlineBitsBody =>
    rcases args with _ | ⟨a, _ | ⟨b, _ | ⟨c, _ | ⟨d, _ | ⟨e, _⟩⟩⟩⟩⟩ <;> rfl
  case conditionalField =>
    rcases args with _ | ⟨a, _ | ⟨b, _ | ⟨c, _ | ⟨d, _ | ⟨e, _ | ⟨f, _ | ⟨g, _ | ⟨h, _ | ⟨i, _⟩⟩⟩⟩⟩⟩⟩⟩⟩ <;> rfl
  case enumBody => rcases args with _ | ⟨a, _ | ⟨b, _ | ⟨c, _ | ⟨d, _ | ⟨e, _ | ⟨f, _⟩⟩⟩⟩⟩⟩ <;> rfl
  case commentLine | eol => rcases args with _ | ⟨a, _ | ⟨b, _ | ⟨c, _⟩⟩⟩ <;> rfl

/-- Values of two equivalent trees: anything at a layout token, strings equal up to
trailing blanks at a Documentation token, equal otherwise. -/
def Res : Tree → Fmt → Fmt → Prop
  | .tok s _, v, v' =>
    if isLayoutSym s = true then True
    else if s = docSym then ∃ x x', v = .str x ∧ v' = .str x' ∧ rstrip x = rstrip x'
    else v = v'
  | .node _ _, v, v' => v = v'

def ResL : List Tree → List Fmt → List Fmt → Prop
  | [], [], [] => True
  | t :: ts, v :: vs, v' :: vs' => Res t v v' ∧ ResL ts vs vs'
  | _, _, _ => False

theorem resL_blank (tbl : Table) (h : Handler) (hdoc : (h == Handler.docRstrip) = false)
    (cs : List Tree) (args args' : List Fmt) (i : Nat)
    (hn : normPos h i (cs.map (rootSym tbl)) = true) (hr : ResL cs args args') :
    blankAt h.dropped i args = blankAt h.dropped i args' := by
  fun_induction ResL cs args args' generalizing i with
  | case1 => rfl
  | case2 c cs a as a' as' ih =>
    simp only [List.map_cons, normPos, Bool.and_eq_true, Bool.or_eq_true, Bool.not_eq_true',
      List.contains_iff_mem, bne_iff_ne, ne_eq, hdoc, Bool.false_eq_true, or_false] at hn
    rw [blankAt, blankAt, ih (i + 1) hn.2 hr.2]
    congr 1
    split
    · rfl
    · rename_i hm
      cases c with
      | tok s x =>
        simp only [rootSym] at hn
        have hr1 := hr.1
        simp only [Res, hn.1.1.resolve_right hm, Bool.false_eq_true, if_false, hn.1.2] at hr1
        exact hr1
      | node p cs0 => exact hr.1
  | case3 => exact hr.elim

theorem run_congr (tbl : Table) (iw : Nat) (h : Handler) (cs : List Tree) (args args' : List Fmt)
    (hn : normPos h 0 (cs.map (rootSym tbl)) = true) (hr : ResL cs args args') :
    h.run iw args = h.run iw args' := by
  cases hdoc : (h == Handler.docRstrip) with
  | false => rw [run_blank iw h args, resL_blank tbl h hdoc cs args args' 0 hn hr, ← run_blank]
  | true =>
    obtain rfl : h = .docRstrip := by simpa using hdoc
    -- `_doc` takes one argument; on any other number both sides are undefined
    rcases cs with _ | ⟨c, _ | ⟨c2, cs⟩⟩ <;> rcases args with _ | ⟨a, _ | ⟨a2, as⟩⟩ <;>
      rcases args' with _ | ⟨a', _ | ⟨a2', as'⟩⟩ <;> simp only [ResL, and_false] at hr <;> try rfl
    cases c with
    | node p cs0 => rw [hr.1]
    | tok s x =>
      simp only [List.map_cons, rootSym, normPos, Handler.dropped, List.contains_nil, Bool.or_false,
        Bool.and_eq_true, Bool.not_eq_true'] at hn
      have hr1 := hr.1
      simp only [Res, hn.1.1, Bool.false_eq_true, if_false] at hr1
      split at hr1
      · obtain ⟨y, y', rfl, rfl, hyy⟩ := hr1
        simp only [Handler.run, hDocRstrip, asStr, Option.pure_def, Option.bind_eq_bind,
          Option.bind_some, hyy]
      · rw [hr1]

mutual
  theorem fold_equiv (tbl : Table) (iw : Nat) (ht : tableTyped tbl = true) (hn : tableNormal tbl = true) :
      ∀ (t t' : Tree), wf tbl t = true → equivT t t' = true →
        ∀ v, fold tbl iw t = some v → ∃ v', fold tbl iw t' = some v' ∧ Res t v v'
    | .tok s x, .tok s' x', _, he, v, hv => by
      simp only [equivT, Bool.and_eq_true, beq_iff_eq] at he
      obtain ⟨rfl, hte⟩ := he
      simp only [fold, Option.some.injEq] at hv
      subst hv
      refine ⟨.str x', rfl, ?_⟩
      simp only [tokEquiv, Bool.or_eq_true] at hte
      simp only [Res]
      split
      · trivial
      · rename_i hl
        have hte := hte.resolve_left hl
        split <;> rename_i hd
        · rw [hd, beq_self_eq_true, if_pos rfl, beq_iff_eq] at hte
          exact ⟨x, x', rfl, rfl, hte⟩
        · rw [if_neg (by simpa using hd), beq_iff_eq] at hte
          rw [hte]
    | .tok _ _, .node _ _, _, he, _, _ => by simp [equivT] at he
    | .node _ _, .tok _ _, _, he, _, _ => by simp [equivT] at he
    | .node p cs, .node p' cs', hw, he, v, hv => by
      simp only [equivT, Bool.and_eq_true, beq_iff_eq] at he
      obtain ⟨rfl, hel⟩ := he
      obtain ⟨e, h, he, hres', hrhs, hwl, -⟩ := wf_node hw
      have hno := List.all_eq_true.mp hn e (List.mem_of_getElem? he)
      simp only [normOK, normCore, hres', ← hrhs] at hno
      simp only [fold, he, hres'] at hv
      cases hargs : foldList tbl iw cs with
      | none => simp [hargs] at hv
      | some args =>
        obtain ⟨args', hargs', hres⟩ := foldList_equiv tbl iw ht hn cs cs' hwl hel args hargs
        simp only [hargs] at hv
        simp only [fold, he, hres', hargs', Res]
        exact ⟨v, by rw [← run_congr tbl iw h cs args args' hno hres]; exact hv, rfl⟩
  theorem foldList_equiv (tbl : Table) (iw : Nat) (ht : tableTyped tbl = true) (hn : tableNormal tbl = true) :
      ∀ (ts ts' : List Tree), wfList tbl ts = true → equivL ts ts' = true →
        ∀ vs, foldList tbl iw ts = some vs → ∃ vs', foldList tbl iw ts' = some vs' ∧ ResL ts vs vs'
    | [], [], _, _, vs, hvs => by
      simp only [foldList, Option.some.injEq] at hvs
      subst hvs
      exact ⟨[], rfl, trivial⟩
    | [], _ :: _, _, he, _, _ => by simp [equivL] at he
    | _ :: _, [], _, he, _, _ => by simp [equivL] at he
    | t :: ts, t' :: ts', hw, he, vs, hvs => by
      simp only [wfList, Bool.and_eq_true] at hw
      simp only [equivL, Bool.and_eq_true] at he
      simp only [foldList] at hvs
      split at hvs
      · cases hvs
      · rename_i v hv
        split at hvs
        · cases hvs
        · rename_i vr hvr
          cases hvs
          obtain ⟨v', hv', hr⟩ := fold_equiv tbl iw ht hn t t' hw.1 he.1 v hv
          obtain ⟨vr', hvr', hrr⟩ := foldList_equiv tbl iw ht hn ts ts' hw.2 he.2 vr hvr
          exact ⟨v' :: vr', by simp only [foldList, hv', hvr'], hr, hrr⟩
end

end Emboss.Fmt
