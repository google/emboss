/- What every file about the driver starts from: lookups into lists and tables, expected sets, the equations
of `step` by action and its outcomes as a relation (`Step`), runs by their steps (`stepsTo`), two automata
run on one input (`runFrom_lift`), the conjuncts of `Valid` under names; what follows from `C.rules.toList = G.all`
and productivity of symbol strings, for the driver and the generator proofs alike. -/
import Emboss.Spec.Lr1
namespace Emboss.Lr1

/-! ### lookups into lists and into the tables -/

theorem lookup_mem {β} {a : Nat} {b : β} : ∀ {l : List (Nat × β)}, l.lookup a = some b → (a, b) ∈ l := by
  intro l h
  obtain ⟨l₁, l₂, rfl, _⟩ := List.lookup_eq_some_iff.mp h
  simp

theorem lookup_some_mem_keys {β} {a : Nat} {b : β} {l : List (Nat × β)} (h : l.lookup a = some b) :
    a ∈ l.map (·.1) := List.mem_map.mpr ⟨(a, b), lookup_mem h, rfl⟩

theorem lookup_none_of_not_mem {β} {a : Nat} : ∀ {l : List (Nat × β)}, a ∉ l.map (·.1) → l.lookup a = none :=
  fun h => Option.eq_none_iff_forall_ne_some.mpr fun _ hl => h (lookup_some_mem_keys hl)

theorem lookup_singleton {β} (a a' : Nat) (v : β) :
    [(a, v)].lookup a' = if a' = a then some v else none := by
  by_cases h : a' = a
  · simp [List.lookup, h]
  · simp [List.lookup, beq_false_of_ne h, h]

theorem drop_eq_cons {α} {l : List α} {d : Nat} {x : α} {xs : List α} (h : l.drop d = x :: xs) :
    l[d]? = some x ∧ l.drop (d + 1) = xs := by
  constructor
  · have := congrArg (fun l => l[0]?) h
    simpa [List.getElem?_drop] using this
  · have := congrArg (fun l => l.drop 1) h
    simpa [List.drop_drop, Nat.add_comm] using this

theorem drop_of_getElem? {α} {l : List α} {d : Nat} {x : α} (h : l[d]? = some x) :
    l.drop d = x :: l.drop (d + 1) := by
  obtain ⟨hlt, rfl⟩ := List.getElem?_eq_some_iff.mp h
  exact List.drop_eq_getElem_cons hlt

theorem lt_size_of_ne {α β} {xs : Array α} {i : Nat} (f : Option α → β) {b : β} (h : f xs[i]? = b)
    (hb : f none ≠ b) : i < xs.size :=
  Nat.lt_of_not_le fun hle => hb (by rw [← h, Array.getElem?_eq_none_iff.mpr hle])

section
variable {A : Automaton}

theorem Automaton.entry_mem {s a : Nat} {x : Action} (h : A.entry s a = some x) :
    s < A.action.size ∧ ∃ r ∈ A.row s, (a, x) ∈ r := by
  unfold Automaton.entry at h
  split at h
  · rename_i r hr
    exact ⟨lt_size_of_ne Option.join hr nofun, r, hr, lookup_mem h⟩
  · cases h

theorem entry_some_row {s a : Nat} {x : Action} (h : A.entry s a = some x) :
    (A.row s).isSome = true := by
  obtain ⟨_, _, hr, _⟩ := Automaton.entry_mem h
  exact Option.isSome_of_mem hr

theorem Automaton.gotoOf_mem {s x s' : Nat} (h : A.gotoOf s x = some s') :
    s < A.goto.size ∧ (x, s') ∈ (A.goto[s]?).getD [] := by
  unfold Automaton.gotoOf at h
  exact ⟨lt_size_of_ne (fun o => (o.getD []).lookup x) h nofun, lookup_mem h⟩

theorem Automaton.actionOf_nonerror {s a : Nat} {x : Action}
    (h : A.actionOf s a = x) (hx : x.isError = false) : A.entry s a = some x := by
  unfold Automaton.actionOf at h
  split at h
  · rename_i y hy; rw [hy, h]
  · unfold Automaton.defaultAction at h
    split at h <;> (subst h; simp [Action.isError] at hx)

theorem actionOf_of_entry {s a : Nat} {x : Action} (h : A.entry s a = some x) : A.actionOf s a = x := by
  simp only [Automaton.actionOf, h]

theorem defaultAction_error (s : Nat) : ∃ c, A.defaultAction s = .error c := by
  unfold Automaton.defaultAction; split <;> exact ⟨_, rfl⟩

theorem nextAction_nonerror {w : List Token} {s i : Nat} {x : Action}
    (h : nextAction A w s i = x) (hx : x.isError = false) :
    clientEoi A w i = false ∧ A.entry s (lookahead A w i) = some x := by
  unfold nextAction at h
  split at h
  · obtain ⟨c, hc⟩ := defaultAction_error (A := A) s
    rw [← h, hc] at hx; cases hx
  · rename_i hc
    exact ⟨by simpa using hc, Automaton.actionOf_nonerror h hx⟩

theorem nextAction_of_entry {w : List Token} {s i a : Nat} {x : Action}
    (hc : clientEoi A w i = false) (ha : lookahead A w i = a) (he : A.entry s a = some x) :
    nextAction A w s i = x := by
  simp [nextAction, hc, Automaton.actionOf, ha, he]

theorem lookahead_congr {B : Automaton} (h : B.eoi = A.eoi) (w : List Token) (i : Nat) :
    lookahead B w i = lookahead A w i := by
  unfold lookahead; rw [h]

theorem clientEoi_congr {B : Automaton} (h : B.eoi = A.eoi) (w : List Token) (i : Nat) :
    clientEoi B w i = clientEoi A w i := by
  unfold clientEoi; rw [h]

theorem length_le_of_eoi {w : List Token} {k : Nat}
    (hc : clientEoi A w k = false) (h : lookahead A w k = A.eoi) : w.length ≤ k := by
  by_cases hk : k < w.length
  · exfalso
    have e : w[k]? = some w[k] := List.getElem?_eq_getElem hk
    simp only [lookahead, e] at h
    simp [clientEoi, e, h] at hc
  · exact Nat.le_of_not_lt hk

theorem clientEoi_false_of_forall {w : List Token} (hw : ∀ t ∈ w, t.sym ≠ A.eoi) (i : Nat) :
    clientEoi A w i = false := by
  unfold clientEoi
  cases h : w[i]? with
  | none => rfl
  | some t => simpa using hw t (List.mem_of_getElem? h)

end

/-! ### expected sets -/

section
variable {A : Automaton}

def Automaton.expectedOf (A : Automaton) (s : Nat) : List Nat :=
  match A.row s with
  | some r => expectedOfRow r
  | none => []

theorem mem_expectedOfRow {r : Row} {x : Nat} :
    x ∈ expectedOfRow r ↔ ∃ a, r.lookup x = some a ∧ a.isError = false := by
  simp only [expectedOfRow, List.mem_filter]
  constructor
  · intro ⟨_, h⟩
    cases hl : r.lookup x with
    | none => simp [hl] at h
    | some a => exact ⟨a, rfl, by simpa [hl] using h⟩
  · intro ⟨a, hl, ha⟩
    exact ⟨lookup_some_mem_keys hl, by simp [hl, ha]⟩

theorem mem_expectedOf {s x : Nat} :
    x ∈ A.expectedOf s ↔ ∃ a, A.entry s x = some a ∧ a.isError = false := by
  unfold Automaton.expectedOf Automaton.entry
  cases A.row s with
  | none => simp
  | some r => exact mem_expectedOfRow

end

/-! ### `step` by the action taken -/

section
variable {A : Automaton} {w : List Token} {c : Config}

theorem step_shift {s' : Nat} (h : nextAction A w (topState c.stack) c.cursor = .shift s') :
    step A w c = match w[c.cursor]? with
      | some t => .next ⟨(s', .leaf t) :: c.stack, c.cursor + 1⟩
      | none => .done (.internal "IndexError: shift of the end-of-input token") := by
  simp only [step, h]
  rfl

/-- the trees on the stack decide what an Accept does -/
theorem step_accept (h : nextAction A w (topState c.stack) c.cursor = .accept) :
    step A w c = match c.stack.map (·.2) with
      | [t] =>
        if lookahead A w c.cursor = A.eoi then .done (.accept t)
        else .done (.internal "AssertionError: accepted parse before end of input")
      | _ => .done (.internal "AssertionError: accepted incompletely-reduced input") := by
  simp only [step, h]
  match c.stack with
  | [] | [(_, _)] | _ :: _ :: _ => rfl

theorem step_reduce {pi : Nat} (h : nextAction A w (topState c.stack) c.cursor = .reduce pi) :
    step A w c = match A.prods[pi]? with
      | none => .done (.internal "reduce by an unknown production")
      | some p =>
        if p.rhs.length ≤ c.stack.length then
          match A.gotoOf (topState (c.stack.drop p.rhs.length)) p.lhs with
          | some s' => .next ⟨(s', .node p ((c.stack.take p.rhs.length).map (·.2)).reverse) ::
              c.stack.drop p.rhs.length, c.cursor⟩
          | none => .done (.internal "KeyError: goto")
        else .done (.internal "stack underflow") := by
  simp only [step, h]
  rfl

theorem step_error {code : Option Nat} (h : nextAction A w (topState c.stack) c.cursor = .error code) :
    step A w c =
      if A.strict = true → (A.row (topState c.stack)).isSome = true then
        .done (.error code c.cursor (topState c.stack) (A.expectedOf (topState c.stack)))
      else .done (.internal "KeyError: action row") := by
  simp only [step, h, Automaton.expectedOf]
  cases A.row (topState c.stack) with
  | some r => simp
  | none => cases A.strict <;> rfl

/-- the outcomes of `step`; an error is reported at the cursor, for the state on top -/
inductive Step (A : Automaton) (w : List Token) (c : Config) : StepOut → Prop
  | shift {s' : Nat} {t : Token} : nextAction A w (topState c.stack) c.cursor = .shift s' →
      w[c.cursor]? = some t → Step A w c (.next ⟨(s', .leaf t) :: c.stack, c.cursor + 1⟩)
  | reduce {pi : Nat} {p : Rule} {s' : Nat} : nextAction A w (topState c.stack) c.cursor = .reduce pi →
      A.prods[pi]? = some p → p.rhs.length ≤ c.stack.length →
      A.gotoOf (topState (c.stack.drop p.rhs.length)) p.lhs = some s' →
      Step A w c (.next ⟨(s', .node p ((c.stack.take p.rhs.length).map (·.2)).reverse) ::
        c.stack.drop p.rhs.length, c.cursor⟩)
  | accept (t : Tree) : Step A w c (.done (.accept t))
  | error (code : Option Nat) (e : List Nat) :
      Step A w c (.done (.error code c.cursor (topState c.stack) e))
  | internal (m : String) : Step A w c (.done (.internal m))

theorem step_cases {o : StepOut} (h : step A w c = o) : Step A w c o := by
  subst h
  cases hact : nextAction A w (topState c.stack) c.cursor with
  | shift s' =>
    rw [step_shift hact]
    cases hw : w[c.cursor]? with
    | none => exact .internal _
    | some t => exact .shift hact hw
  | accept =>
    rw [step_accept hact]
    split
    · split
      · exact .accept _
      · exact .internal _
    · exact .internal _
  | reduce pi =>
    rw [step_reduce hact]
    cases hp : A.prods[pi]? with
    | none => exact .internal _
    | some p =>
      dsimp only
      split
      · cases hg : A.gotoOf (topState (c.stack.drop p.rhs.length)) p.lhs with
        | none => exact .internal _
        | some s' => exact .reduce hact hp ‹_› hg
      · exact .internal _
  | error code =>
    rw [step_error hact]
    split
    · exact .error _ _
    · exact .internal _

theorem step_reduce_pop {i pi : Nat} {p : Rule} {above base : List (Nat × Tree)}
    (h : nextAction A w (topState (above ++ base)) i = .reduce pi) (hp : A.prods[pi]? = some p)
    (hl : above.length = p.rhs.length) :
    step A w ⟨above ++ base, i⟩ = match A.gotoOf (topState base) p.lhs with
      | some s' => .next ⟨(s', .node p (above.map (·.2)).reverse) :: base, i⟩
      | none => .done (.internal "KeyError: goto") := by
  rw [step_reduce h, hp]
  simp only [← hl, List.length_append, Nat.le_add_right, if_true, List.take_left, List.drop_left]

end

/-! ### along one run -/

section
variable {A : Automaton}

theorem step_cursor_le {w : List Token} {c c' : Config} (h : step A w c = .next c') :
    c.cursor ≤ c'.cursor := by
  cases step_cases h with
  | shift => exact Nat.le_succ _
  | reduce => exact Nat.le_refl _

theorem step_error_index {w : List Token} {c : Config} {code : Option Nat} {i s : Nat} {e : List Nat}
    (h : step A w c = .done (.error code i s e)) : i = c.cursor := by
  cases step_cases h
  rfl

theorem step_congr {w₁ w₂ : List Token} {c : Config} (h : w₁[c.cursor]? = w₂[c.cursor]?) :
    step A w₁ c = step A w₂ c := by
  unfold step nextAction clientEoi lookahead
  rw [h]

theorem runFrom_mono {w : List Token} (f : Nat) (c : Config) (k : Nat) :
    runFrom A w f c ≠ .outOfFuel → runFrom A w (f + k) c = runFrom A w f c := by
  fun_induction runFrom A w f c with
  | case1 => exact fun h => absurd rfl h
  | case2 f c c' hs ih => rw [Nat.succ_add, runFrom, hs]; exact ih
  | case3 f c r hs => rw [Nat.succ_add, runFrom, hs]; exact fun _ => rfl

def stepsTo (A : Automaton) (w : List Token) : Nat → Config → Config → Prop
  | 0, c, c' => c = c'
  | n + 1, c, c' => ∃ c1, step A w c = .next c1 ∧ stepsTo A w n c1 c'

-- what Lr1Complete needs; Lr1Term keeps the count (`Halts` speaks of `stepsTo`): its fuel is the sum of the counts
def Reaches (A : Automaton) (w : List Token) (c c' : Config) : Prop := ∃ n, stepsTo A w n c c'

theorem stepsTo_trans {w : List Token} : ∀ {n m : Nat} {c c1 c2 : Config},
    stepsTo A w n c c1 → stepsTo A w m c1 c2 → stepsTo A w (n + m) c c2
  | 0, m, c, c1, c2, h1, h2 => by cases h1; simpa using h2
  | n + 1, m, c, c1, c2, ⟨c', hs, h1⟩, h2 => by
    rw [Nat.add_right_comm]
    exact ⟨c', hs, stepsTo_trans h1 h2⟩

theorem Reaches.refl {w : List Token} (c : Config) : Reaches A w c c := ⟨0, rfl⟩
theorem Reaches.trans {w : List Token} {c c1 c2 : Config} (h1 : Reaches A w c c1) (h2 : Reaches A w c1 c2) :
    Reaches A w c c2 := by
  obtain ⟨n, h1⟩ := h1; obtain ⟨m, h2⟩ := h2; exact ⟨n + m, stepsTo_trans h1 h2⟩
theorem Reaches.step {w : List Token} {c c1 : Config} (h : step A w c = .next c1) : Reaches A w c c1 :=
  ⟨1, c1, h, rfl⟩

theorem runFrom_stepsTo {w : List Token} : ∀ {n : Nat} {c c' : Config} (f : Nat),
    stepsTo A w n c c' → runFrom A w (n + f) c = runFrom A w f c'
  | 0, c, c', f, h => by cases h; simp
  | n + 1, c, c', f, ⟨c1, hs, h⟩ => by
    rw [Nat.add_right_comm]
    simp only [runFrom, hs]
    exact runFrom_stepsTo f h

end

/-! ### two automata on one input -/

def StepLift (R : Config → Config → Prop) (Q : Result → Result → Prop) : StepOut → StepOut → Prop
  | .next c₁, .next c₂ => R c₁ c₂
  | .done r₁, .done r₂ => Q r₁ r₂
  | _, _ => False

theorem runFrom_lift {A B : Automaton} {w : List Token} {R : Config → Config → Prop}
    {Q : Result → Result → Prop} (h0 : Q .outOfFuel .outOfFuel)
    (hs : ∀ c₁ c₂, R c₁ c₂ → StepLift R Q (step A w c₁) (step B w c₂)) :
    ∀ (f : Nat) {c₁ c₂ : Config}, R c₁ c₂ → Q (runFrom A w f c₁) (runFrom B w f c₂)
  | 0, _, _, _ => h0
  | f + 1, c₁, c₂, hc => by
    have h := hs c₁ c₂ hc
    rw [runFrom, runFrom]
    cases h1 : step A w c₁ <;> cases h2 : step B w c₂ <;> rw [h1, h2] at h
    · exact runFrom_lift h0 hs f h
    · exact h.elim
    · exact h.elim
    · exact h

/-! ### the certificate against the grammar -/

theorem Cert.mem_nextSyms {C : Cert} {it : Item} {q : Rule} {x : Nat} (hq : C.ruleAt it.pi = some q) :
    x ∈ C.nextSyms it ↔ q.rhs[it.dot]? = some x := by
  simp [Cert.nextSyms, hq]

theorem Action.shiftTarget_eq_some {a : Action} {s : Nat} : a.shiftTarget = some s ↔ a = .shift s := by
  cases a <;> simp [Action.shiftTarget]

theorem Cert.le_seedIdx {C : Cert} {i : Nat} {p : Rule} (h : C.ruleAt i = some p) : i ≤ C.seedIdx := by
  have := (Array.getElem?_eq_some_iff.mp h).1
  unfold Cert.seedIdx
  omega

theorem Cert.lt_of_ne_nil {C : Cert} {s : Nat} (h : C.itemsOf s ≠ []) : s < C.items.size :=
  lt_size_of_ne (·.getD []) rfl h.symm

theorem Cert.lt_of_mem {C : Cert} {s : Nat} {it : Item} (h : it ∈ C.itemsOf s) : s < C.items.size :=
  Cert.lt_of_ne_nil (List.ne_nil_of_mem h)

section
variable {G : Grammar} {C : Cert}

theorem Cert.ruleAt_eq (h : C.rules.toList = G.all) (i : Nat) : C.ruleAt i = G.all[i]? := by
  unfold Cert.ruleAt; rw [← h]; simp

theorem Cert.seedIdx_eq (h : C.rules.toList = G.all) : C.seedIdx = G.prods.length := by
  unfold Cert.seedIdx
  have : C.rules.size = G.all.length := by rw [← h]; simp
  rw [this]; simp [Grammar.all]

theorem Cert.ruleAt_seed (h : C.rules.toList = G.all) : C.ruleAt C.seedIdx = some G.seed := by
  rw [Cert.ruleAt_eq h, Cert.seedIdx_eq h]; simp [Grammar.all]

theorem Cert.ruleAt_mem (h : C.rules.toList = G.all) {i : Nat} {p : Rule} (hp : C.ruleAt i = some p) :
    p ∈ G.all := by
  rw [Cert.ruleAt_eq h] at hp; exact List.mem_of_getElem? hp

theorem Cert.ruleAt_user (h : C.rules.toList = G.all) {i : Nat} {p : Rule} (hi : i < C.seedIdx)
    (hp : C.ruleAt i = some p) : p ∈ G.prods := by
  rw [Cert.seedIdx_eq h] at hi
  rw [Cert.ruleAt_eq h, Grammar.all, List.getElem?_append_left hi] at hp
  exact List.mem_of_getElem? hp

end

/-! ### grammars: nonterminals, productive symbols -/

section
variable {G : Grammar}

theorem Grammar.isNT_iff {x : Nat} : G.isNT x = true ↔ ∃ p ∈ G.all, p.lhs = x := by
  simp [Grammar.isNT]

theorem Grammar.rhs_ne_startPrime (h1 : G.start ≠ G.startPrime)
    (h5 : ∀ p ∈ G.prods, p.lhs ≠ G.startPrime ∧ ∀ x ∈ p.rhs, x ≠ G.startPrime) {p : Rule} (hp : p ∈ G.all) :
    ∀ x ∈ p.rhs, x ≠ G.startPrime := by
  rcases List.mem_append.mp hp with hp | hp
  · exact (h5 p hp).2
  · simp only [List.mem_singleton] at hp
    subst hp
    intro x hx
    simp only [Grammar.seed, List.mem_singleton] at hx
    subst hx; exact h1

theorem Productive.of_terminal {x : Nat} (h : G.isNT x = false) : Productive G x :=
  ⟨.leaf ⟨x, 0⟩, ParseTree.leaf _ h, rfl⟩

theorem Productive.forest : ∀ (β : List Nat), (∀ x ∈ β, Productive G x) →
    ∃ cs : List Tree, (∀ c ∈ cs, ParseTree G c) ∧ cs.map Tree.root = β
  | [], _ => ⟨[], by simp, rfl⟩
  | x :: β, h => by
    obtain ⟨t, ht, hroot⟩ := h x List.mem_cons_self
    obtain ⟨cs, hcs, hm⟩ := Productive.forest β (fun y hy => h y (List.mem_cons_of_mem _ hy))
    exact ⟨t :: cs, List.forall_mem_cons.mpr ⟨ht, hcs⟩, by simp [hroot, hm]⟩

end

/-! ### the conjuncts of `Valid` under names -/

-- the only place that takes `Valid` and `VWf` apart by position; `Done.valid` (Lr1GenValid) builds them, in the same order
section
variable {G : Grammar} {A : Automaton} {C : Cert}

theorem Valid.wf (h : Valid G A C) : VWf G A C := h.1
theorem Valid.start (h : Valid G A C) : VStart (listMem C) G C := h.2.1
theorem Valid.trans (h : Valid G A C) : VTrans (listMem C) A C := h.2.2.1
theorem Valid.closure (h : Valid G A C) : VClosure (listMem C) C := h.2.2.2.1
theorem Valid.complete (h : Valid G A C) : VComplete A C := h.2.2.2.2.1
theorem Valid.kernel (h : Valid G A C) : VKernel (listMem C) A C := h.2.2.2.2.2.1
theorem Valid.order (h : Valid G A C) : VOrder C := h.2.2.2.2.2.2.1
theorem Valid.actJust (h : Valid G A C) : VActJust (listMem C) G A C := h.2.2.2.2.2.2.2.1
theorem Valid.first (h : Valid G A C) : VFirst C := h.2.2.2.2.2.2.2.2

theorem Valid.prods_eq (h : Valid G A C) : A.prods = G.all := h.wf.1
theorem Valid.eoi_eq (h : Valid G A C) : A.eoi = G.eoi := h.wf.2.1
theorem Valid.rules_eq (h : Valid G A C) : C.rules.toList = G.all := h.wf.2.2.2.2.2.2.2.1
theorem Valid.start_ne_startPrime (h : Valid G A C) : G.start ≠ G.startPrime := h.wf.2.2.1
theorem Valid.start_ne_eoi (h : Valid G A C) : G.start ≠ G.eoi := h.wf.2.2.2.2.1
theorem Valid.no_eoi (h : Valid G A C) {p : Rule} (hp : p ∈ G.all) :
    p.lhs ≠ G.eoi ∧ ∀ x ∈ p.rhs, x ≠ G.eoi := h.wf.2.2.2.2.2.1 p hp
theorem Valid.no_startPrime (h : Valid G A C) {p : Rule} (hp : p ∈ G.prods) :
    p.lhs ≠ G.startPrime ∧ ∀ x ∈ p.rhs, x ≠ G.startPrime := h.wf.2.2.2.2.2.2.1 p hp
theorem Valid.prodsFor_mem (h : Valid G A C) : ∀ qj ∈ G.all.zipIdx, qj.2 ∈ C.prodsFor qj.1.lhs :=
  h.wf.2.2.2.2.2.2.2.2.1
theorem Valid.isNT_sound (h : Valid G A C) : ∀ x < C.nt.size, C.isNT x = true → G.isNT x = true :=
  h.wf.2.2.2.2.2.2.2.2.2.2.1
theorem Valid.row0 (h : Valid G A C) : A.strict = true → (A.row 0).isSome = true :=
  h.wf.2.2.2.2.2.2.2.2.2.2.2

theorem Valid.ruleAt_user (h : Valid G A C) {i : Nat} (hi : i < C.seedIdx) {p : Rule}
    (hp : C.ruleAt i = some p) : p ∈ G.prods ∧ A.prods[i]? = some p :=
  ⟨Cert.ruleAt_user h.rules_eq hi hp, by rw [h.prods_eq, ← Cert.ruleAt_eq h.rules_eq]; exact hp⟩

theorem Valid.index_of_mem (h : Valid G A C) {p : Rule} (hp : p ∈ G.prods) :
    ∃ j, j < C.seedIdx ∧ C.ruleAt j = some p ∧ A.prods[j]? = some p ∧ j ∈ C.prodsFor p.lhs := by
  obtain ⟨j, hjlt, hj⟩ := List.getElem_of_mem hp
  have hjall : G.all[j]? = some p := by
    rw [Grammar.all, List.getElem?_append_left hjlt, List.getElem?_eq_getElem hjlt, hj]
  exact ⟨j, Cert.seedIdx_eq h.rules_eq ▸ hjlt, by rw [Cert.ruleAt_eq h.rules_eq]; exact hjall,
    by rw [h.prods_eq]; exact hjall, h.prodsFor_mem (p, j) (List.mem_zipIdx_iff_getElem?.mpr hjall)⟩

theorem Valid.isNT_lhs (h : Valid G A C) {p : Rule} (hp : p ∈ G.all) : C.isNT p.lhs = true :=
  h.wf.2.2.2.2.2.2.2.2.2.1 p hp

theorem Valid.isNT (h : Valid G A C) (x : Nat) : C.isNT x = G.isNT x :=
  Bool.eq_iff_iff.mpr ⟨fun hc => h.isNT_sound x
      (lt_size_of_ne (·.getD false) hc nofun) hc,
    fun hg => let ⟨_, hp, e⟩ := Grammar.isNT_iff.mp hg; e ▸ h.isNT_lhs hp⟩

end
end Emboss.Lr1
