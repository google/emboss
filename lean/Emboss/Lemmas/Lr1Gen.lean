/-
Level B: closure / goto core of the generator model (Model/Lr1Gen.lean): the worklist
closure returns a set that contains its seed, is closed under "an item with `X` after the dot
brings `[X → . γ, c]` for every `c ∈ FIRST(β a)`" (the validator's `VClosure`, over the generator's
own FIRST table), and adds only dot-0 items that some item of the result brings in; it preserves
every item predicate that the one-step closure preserves; and the order in which it finds the
items is a justification order (the validator's `VOrder`).  Also what `norm` / `normN` compute: `norm` a sorted
duplicate-free list with the same members (`Item.lt` is a strict total order), `normN` a list with the same members.
-/
import Emboss.Model.Lr1Gen
import Emboss.Lemmas.Lr1Basic
namespace Emboss.Lr1
namespace Gen

variable {C : Cert}

/-! ### one-step closure (`succsOf`), symbol after the dot (`nextSyms`) -/

theorem mem_succsOf {it y : Item} : y ∈ succsOf C it ↔
    ∃ p x, C.ruleAt it.pi = some p ∧ p.rhs[it.dot]? = some x ∧
      ∃ j ∈ C.prodsFor x, ∃ c ∈ C.firstSeq (p.rhs.drop (it.dot + 1)) [it.la], y = ⟨j, 0, c⟩ := by
  unfold succsOf
  constructor
  · intro h
    split at h
    · cases h
    · next p hp =>
      split at h
      · cases h
      · next x hx =>
        obtain ⟨j, hj, hm⟩ := List.mem_flatMap.mp h
        obtain ⟨c, hc, rfl⟩ := List.mem_map.mp hm
        exact ⟨p, x, hp, hx, j, hj, c, hc, rfl⟩
  · rintro ⟨p, x, hp, hx, j, hj, c, hc, rfl⟩
    simp only [hp, hx]
    exact List.mem_flatMap.mpr ⟨j, hj, List.mem_map.mpr ⟨c, hc, rfl⟩⟩

theorem succsOf_dot {it y : Item} (h : y ∈ succsOf C it) : y.dot = 0 := by
  obtain ⟨_, _, _, _, _, _, _, _, rfl⟩ := mem_succsOf.mp h
  rfl

theorem nextSyms_eq_toList (it : Item) :
    C.nextSyms it = ((C.ruleAt it.pi).bind fun p => p.rhs[it.dot]?).toList := by
  unfold Cert.nextSyms
  cases C.ruleAt it.pi <;> rfl

theorem mem_nextSyms_iff {it : Item} {x : Nat} :
    x ∈ C.nextSyms it ↔ ∃ p, C.ruleAt it.pi = some p ∧ p.rhs[it.dot]? = some x := by
  rw [nextSyms_eq_toList, Option.mem_toList, Option.bind_eq_some_iff]

theorem nextSyms_singleton {it : Item} {x : Nat} : x ∈ C.nextSyms it ↔ C.nextSyms it = [x] := by
  rw [nextSyms_eq_toList, Option.mem_toList, Option.toList_eq_singleton_iff]

/-- `x` is the symbol after the dot of `it`, in the form the model and `EdgeOK` carry it -/
theorem nextSyms_eq_singleton_iff {it : Item} {x : Nat} :
    C.nextSyms it = [x] ↔ ∃ p, C.ruleAt it.pi = some p ∧ p.rhs[it.dot]? = some x :=
  nextSyms_singleton.symm.trans mem_nextSyms_iff

/-- closed under the one-step closure relation -/
def Closed (C : Cert) (S : List Item) : Prop := ∀ it ∈ S, ∀ y ∈ succsOf C it, y ∈ S

theorem Closed.vclosure {S : List Item} (h : Closed C S) :
    ∀ it ∈ S, ∀ p ∈ C.ruleAt it.pi, ∀ x ∈ p.rhs[it.dot]?, ∀ j ∈ C.prodsFor x,
      ∀ c ∈ C.firstSeq (p.rhs.drop (it.dot + 1)) [it.la], (⟨j, 0, c⟩ : Item) ∈ S := by
  intro it hit p hp x hx j hj c hc
  exact h it hit _ (mem_succsOf.mpr ⟨p, x, hp, hx, j, hj, c, hc, rfl⟩)

/-! ### the worklist (`addNew`, `closeLoop`, `closure`) and what it builds (`Grown`) -/

theorem mem_addNew_fst {x : Item} {js acc todo : List Item} :
    x ∈ (addNew acc todo js).1 ↔ x ∈ acc ∨ x ∈ js := by
  fun_induction addNew acc todo js with
  | case1 => simp
  | case2 acc todo j js hc ih =>
    have hj : j ∈ acc := by simpa using hc
    rw [ih, List.mem_cons]
    refine ⟨Or.imp_right Or.inr, ?_⟩
    rintro (h | rfl | h)
    · exact .inl h
    · exact .inl hj
    · exact .inr h
  | case3 acc todo j js hc ih => rw [ih, List.mem_cons, List.mem_cons, or_assoc, or_left_comm]

theorem mem_addNew_snd {x : Item} {js acc todo : List Item} :
    x ∈ (addNew acc todo js).2 ↔ x ∈ todo ∨ (x ∈ js ∧ x ∉ acc) := by
  fun_induction addNew acc todo js with
  | case1 => simp
  | case2 acc todo j js hc ih =>
    have hj : j ∈ acc := by simpa using hc
    rw [ih, List.mem_cons]
    by_cases hx : x = j
    · subst hx; simp [hj]
    · simp [hx]
  | case3 acc todo j js hc ih =>
    have hj : j ∉ acc := by simpa using hc
    rw [ih, List.mem_cons, List.mem_cons, List.mem_cons]
    by_cases hx : x = j
    · subst hx; simp [hj]
    · simp [hx]

theorem addNew_sub {it : Item} {todo acc : List Item} (hsub : ∀ x ∈ it :: todo, x ∈ acc)
    (js : List Item) : ∀ x ∈ (addNew acc todo js).2, x ∈ (addNew acc todo js).1 := by
  intro x hx
  rw [mem_addNew_fst]
  rcases mem_addNew_snd.mp hx with ht | ⟨hj, _⟩
  · exact .inl (hsub x (List.mem_cons_of_mem _ ht))
  · exact .inr hj

theorem closeLoop_induct {P : List Item → List Item → Prop}
    (step : ∀ it todo acc, P (it :: todo) acc →
      P (addNew acc todo (succsOf C it)).2 (addNew acc todo (succsOf C it)).1) {f : Nat}
    {todo acc S : List Item} : closeLoop C f todo acc = some S → P todo acc → P [] S := by
  fun_induction closeLoop C f todo acc with
  | case1 => rintro ⟨⟩ hP; exact hP
  | case2 => nofun
  | case3 f it todo acc r ih => exact fun h hP => ih h (step it todo acc hP)

inductive Grown (C : Cert) (seed : List Item) : List Item → Prop
  | seed : Grown C seed seed
  | add {acc : List Item} {y x : Item} : Grown C seed acc → y ∈ acc → x ∈ succsOf C y → Grown C seed (x :: acc)

theorem addNew_grown {seed : List Item} {y : Item} {js acc todo : List Item} :
    Grown C seed acc → y ∈ acc → (∀ j ∈ js, j ∈ succsOf C y) → Grown C seed (addNew acc todo js).1 := by
  fun_induction addNew acc todo js with
  | case1 => exact fun h _ _ => h
  | case2 acc todo j js _ ih => exact fun h hy hj => ih h hy fun k hk => hj k (List.mem_cons_of_mem _ hk)
  | case3 acc todo j js _ ih =>
    exact fun h hy hj => ih (h.add hy (hj j List.mem_cons_self)) (List.mem_cons_of_mem _ hy)
      fun k hk => hj k (List.mem_cons_of_mem _ hk)

theorem closure_grown {seed S : List Item} (h : closure C seed = some S) : Grown C seed S ∧ Closed C S := by
  have key := closeLoop_induct (C := C) (P := fun todo acc =>
      (∀ x ∈ todo, x ∈ acc) ∧ Grown C seed acc ∧
      (∀ x ∈ acc, x ∉ todo → ∀ y ∈ succsOf C x, y ∈ acc))
    (fun it todo acc ⟨hsub, hg, hcl⟩ => by
      refine ⟨addNew_sub hsub _, addNew_grown hg (hsub it List.mem_cons_self) fun _ hj => hj, ?_⟩
      intro x hx hnx y hy
      rw [mem_addNew_snd, not_or, not_and, Classical.not_not] at hnx
      rw [mem_addNew_fst] at hx ⊢
      have hxa : x ∈ acc := hx.elim id hnx.2
      by_cases he : x = it
      · subst he; exact .inr hy
      · exact .inl (hcl x hxa (fun hm => (List.mem_cons.mp hm).elim he hnx.1) y hy))
    h ⟨fun _ hx => hx, .seed, fun x hx hnx => absurd hx hnx⟩
  exact ⟨key.2.1, fun x hx => key.2.2 x hx List.not_mem_nil⟩

theorem Grown.sub {seed S : List Item} (g : Grown C seed S) : ∀ x ∈ seed, x ∈ S := by
  induction g with
  | seed => exact fun _ h => h
  | add _ _ _ ih => exact fun x hx => List.mem_cons_of_mem _ (ih x hx)

theorem Grown.all {seed S : List Item} (g : Grown C seed S) {P : Item → Prop}
    (hstep : ∀ it, P it → ∀ y ∈ succsOf C it, P y) (hP : ∀ x ∈ seed, P x) : ∀ x ∈ S, P x := by
  induction g with
  | seed => exact hP
  | add _ hy hx ih => exact List.forall_mem_cons.mpr ⟨hstep _ (ih _ hy) _ hx, ih⟩

theorem Grown.just {seed S : List Item} (g : Grown C seed S) :
    ∀ x ∈ S, x ∈ seed ∨ (x.dot = 0 ∧ ∃ y ∈ S, x ∈ succsOf C y) := by
  induction g with
  | seed => exact fun _ h => .inl h
  | add _ hy hx ih =>
    refine List.forall_mem_cons.mpr ⟨.inr ⟨succsOf_dot hx, _, List.mem_cons_of_mem _ hy, hx⟩, fun z hz => ?_⟩
    exact (ih z hz).imp_right fun ⟨h0, y, hy, hzy⟩ => ⟨h0, y, List.mem_cons_of_mem _ hy, hzy⟩

theorem closure_spec {seed S : List Item} (h : closure C seed = some S) :
    (∀ x ∈ seed, x ∈ S) ∧ Closed C S ∧
      (∀ x ∈ S, x ∈ seed ∨ (x.dot = 0 ∧ ∃ y ∈ S, x ∈ succsOf C y)) :=
  let ⟨g, c⟩ := closure_grown h
  ⟨g.sub, c, g.just⟩

/-! ### sets as sorted duplicate-free lists: members (`insertS`, `norm`; `insertN`, `normN`), order and sortedness (`norm`) -/

theorem mem_insertS {x z : Item} {l : List Item} : z ∈ insertS x l ↔ z = x ∨ z ∈ l := by
  fun_induction insertS x l with
  | case1 => simp
  | case2 ys => rw [List.mem_cons, ← or_assoc, or_self]
  | case3 => rw [List.mem_cons]
  | case4 y ys _ _ ih => rw [List.mem_cons, ih, List.mem_cons, or_left_comm]

theorem mem_norm {z : Item} {l : List Item} : z ∈ norm l ↔ z ∈ l := by
  induction l with
  | nil => simp [norm]
  | cons x xs ih => rw [norm, List.foldr_cons, mem_insertS, ← norm, ih, List.mem_cons]

theorem mem_insertN {x z : Nat} {l : List Nat} : z ∈ insertN x l ↔ z = x ∨ z ∈ l := by
  fun_induction insertN x l with
  | case1 => simp
  | case2 ys => rw [List.mem_cons, ← or_assoc, or_self]
  | case3 => rw [List.mem_cons]
  | case4 y ys _ _ ih => rw [List.mem_cons, ih, List.mem_cons, or_left_comm]

theorem mem_normN {z : Nat} {l : List Nat} : z ∈ normN l ↔ z ∈ l := by
  induction l with
  | nil => simp [normN]
  | cons x xs ih => rw [normN, List.foldr_cons, mem_insertN, ← normN, ih, List.mem_cons]

theorem Closed.norm {S : List Item} (h : Closed C S) : Closed C (norm S) :=
  fun it hit y hy => mem_norm.mpr (h it (mem_norm.mp hit) y hy)

/-- `Item.lt` is `<` on keys (`Item.lt_iff`), so its order laws are those of lists of numbers -/
def itemKey (a : Item) : List Nat := [a.pi, a.dot, a.la]

theorem Item.lt_iff {a b : Item} : Item.lt a b = true ↔ itemKey a < itemKey b := by
  simp [Item.lt, itemKey, List.cons_lt_cons_iff]

theorem itemKey_inj {a b : Item} (h : itemKey a = itemKey b) : a = b := by
  cases a; cases b; simp_all [itemKey]

theorem Item.lt_irrefl (a : Item) : ¬ Item.lt a a = true :=
  fun h => List.lt_irrefl _ (Item.lt_iff.mp h)

theorem Item.lt_trans {a b c : Item} (h1 : Item.lt a b = true) (h2 : Item.lt b c = true) : Item.lt a c = true :=
  Item.lt_iff.mpr (List.lt_trans (Item.lt_iff.mp h1) (Item.lt_iff.mp h2))

theorem Item.lt_of_not {a b : Item} (hne : a ≠ b) (h : ¬ Item.lt a b = true) : Item.lt b a = true := by
  rw [Item.lt_iff] at *
  exact (List.le_iff_lt_or_eq.mp h).resolve_right fun e => hne (itemKey_inj e.symm)

def Sorted (l : List Item) : Prop := List.Pairwise (fun a b => Item.lt a b = true) l

theorem insertS_sorted {x : Item} {l : List Item} : Sorted l → Sorted (insertS x l) := by
  fun_induction insertS x l with
  | case1 => exact fun _ => List.pairwise_singleton _ _
  | case2 => exact id
  | case3 y ys _ hlt =>
    intro h
    refine List.pairwise_cons.mpr ⟨fun z hz => ?_, h⟩
    rcases List.mem_cons.mp hz with rfl | hz
    · exact hlt
    · exact Item.lt_trans hlt ((List.pairwise_cons.mp h).1 z hz)
  | case4 y ys hne hnlt ih =>
    intro h
    have hy := List.pairwise_cons.mp h
    refine List.pairwise_cons.mpr ⟨fun z hz => ?_, ih hy.2⟩
    rcases mem_insertS.mp hz with rfl | hz
    · exact Item.lt_of_not hne hnlt
    · exact hy.1 z hz

theorem norm_sorted (l : List Item) : Sorted (norm l) := by
  induction l with
  | nil => exact List.Pairwise.nil
  | cons x xs ih => exact insertS_sorted ih

theorem Sorted.nodup {l : List Item} (h : Sorted l) : l.Nodup :=
  List.Pairwise.imp (S := (· ≠ ·)) (fun hab e => Item.lt_irrefl _ (e ▸ hab)) h

theorem Sorted.ext {l l' : List Item} (hl : Sorted l) (hl' : Sorted l') (h : ∀ z, z ∈ l ↔ z ∈ l') : l = l' :=
  List.Perm.eq_of_pairwise (fun a _ _ _ h1 h2 => absurd (Item.lt_trans h1 h2) (Item.lt_irrefl a)) hl hl'
    ((List.perm_ext_iff_of_nodup hl.nodup hl'.nodup).mpr h)

/-! ### `gotoSet` -/

theorem mem_gotoSeed {I : List Item} {x : Nat} {y : Item} :
    y ∈ (I.filter fun it => C.nextSyms it == [x]).map advance ↔
      ∃ it ∈ I, C.nextSyms it = [x] ∧ y = advance it := by
  constructor
  · intro hy
    obtain ⟨it, hf, rfl⟩ := List.mem_map.mp hy
    obtain ⟨hit, hn⟩ := List.mem_filter.mp hf
    exact ⟨it, hit, by simpa using hn, rfl⟩
  · rintro ⟨it, hit, hn, rfl⟩
    exact List.mem_map.mpr ⟨it, List.mem_filter.mpr ⟨hit, by simp [hn]⟩, rfl⟩

/-- What `gotoSet` returns, for any certificate (`C08_gen_goto`).  The invariant of the state graph uses `gotoSet_edge`
(Lr1GenBfs), which over the generator's own tables also knows that a closure item is not the seed production. -/
theorem gotoSet_spec {I J : List Item} {x : Nat} (h : gotoSet C I x = some J) :
    (∀ it ∈ I, C.nextSyms it = [x] → advance it ∈ J) ∧ Closed C J ∧
    (∀ y ∈ J, y.dot = 0 ∨ ∃ it ∈ I, C.nextSyms it = [x] ∧ y = advance it) := by
  obtain ⟨h1, h2, h3⟩ := closure_spec h
  refine ⟨fun it hit hn => h1 _ (mem_gotoSeed.mpr ⟨it, hit, hn, rfl⟩), h2, fun y hy => ?_⟩
  exact (h3 y hy).elim (fun hs => .inr (mem_gotoSeed.mp hs)) (fun h0 => .inl h0.1)

/-! ### the discovery order is a justification order (`JustOrder`) -/

/-- every item the one-step closure brings in is a production of the symbol after the dot -/
def SuccLhs (C : Cert) : Prop :=
  ∀ it, ∀ j ∈ succsOf C it, ∃ p ∈ C.ruleAt j.pi, p.lhs ∈ C.nextSyms it

/-- what `seen` has become behind a prefix -/
theorem justOrder_append {l₁ l₂ : List Item} : ∀ {seen : List Nat}, JustOrder C seen (l₁ ++ l₂) ↔
    JustOrder C seen l₁ ∧ JustOrder C (l₁.reverse.flatMap C.nextSyms ++ seen) l₂ := by
  induction l₁ with
  | nil => exact ⟨fun h => ⟨trivial, h⟩, fun h => h.2⟩
  | cons a l ih =>
    intro seen
    rw [List.cons_append, JustOrder, JustOrder, ih, and_assoc, List.reverse_cons, List.flatMap_append,
      List.flatMap_singleton, List.append_assoc]

theorem justOrder_of_seed : ∀ {l : List Item} {seen : List Nat},
    (∀ x ∈ l, x.dot = 0 → x.pi = C.seedIdx) → JustOrder C seen l
  | [], _, _ => trivial
  | a :: _, _, h => ⟨fun hd => .inl (h a List.mem_cons_self hd),
      justOrder_of_seed fun x hx => h x (List.mem_cons_of_mem _ hx)⟩

/-- The result set is consed up, so its reverse is the discovery order: a new item goes to the end,
after the item that brought it in. -/
theorem Grown.justOrder {seed S : List Item} (g : Grown C seed S) (hs : SuccLhs C)
    (h0 : ∀ x ∈ seed, x.dot = 0 → x.pi = C.seedIdx) : JustOrder C [] S.reverse := by
  induction g with
  | seed => exact justOrder_of_seed fun x hx => h0 x (List.mem_reverse.mp hx)
  | add _ hy hx ih =>
    rw [List.reverse_cons, justOrder_append, List.reverse_reverse]
    exact ⟨ih, fun _ =>
      let ⟨p, hp, hl⟩ := hs _ _ hx
      .inr ⟨p, hp, List.mem_append_left _ (List.mem_flatMap.mpr ⟨_, hy, hl⟩)⟩, trivial⟩

end Gen
end Emboss.Lr1
