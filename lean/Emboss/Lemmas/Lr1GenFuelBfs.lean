/-
Level B: the breadth-first construction terminates within its fuel.  States are pairwise different
sorted lists of items in range, and a sorted list is determined by its members, so there are at most as
many as the list of all such items has sublists (`subl (univ C)`, `2 ^ itemBound`); every step of `bfs`
finishes one state.
-/
import Emboss.Lemmas.Lr1GenFuel
import Emboss.Lemmas.Lr1GenBfs
namespace Emboss.Lr1
namespace Gen

def subl : List Item → List (List Item)
  | [] => [[]]
  | x :: xs => subl xs ++ (subl xs).map (x :: ·)

theorem length_subl (U : List Item) : (subl U).length = 2 ^ U.length := by
  induction U with
  | nil => rfl
  | cons x xs ih =>
    simp only [subl, List.length_append, List.length_map, ih, List.length_cons, Nat.pow_succ]
    omega

theorem mem_subl {l U : List Item} (h : l.Sublist U) : l ∈ subl U := by
  induction h with
  | slnil => exact List.mem_singleton.mpr rfl
  | cons a _ ih => exact List.mem_append_left _ ih
  | cons_cons a _ ih => exact List.mem_append_right _ (List.mem_map.mpr ⟨_, ih, rfl⟩)

variable {C : Cert}

/-- the states are pairwise different sorted lists of items in range -/
def InUniv (C : Cert) (st : St) : Prop :=
  st.states.toList.Nodup ∧ ∀ I ∈ st.states.toList, Sorted I ∧ ∀ it ∈ I, it ∈ univ C

/-- the members of a state select a sublist of `univ C`, and different states different ones -/
theorem InUniv.size_le {st : St} (h : InUniv C st) : st.states.size ≤ 2 ^ itemBound C := by
  have sub : ∀ {I I' : List Item}, I ∈ st.states.toList →
      (univ C).filter (· ∈ I) = (univ C).filter (· ∈ I') → ∀ z ∈ I, z ∈ I' := fun {I _} hI e z hz => by
    have hm : z ∈ (univ C).filter (· ∈ I) := List.mem_filter.mpr ⟨(h.2 _ hI).2 z hz, decide_eq_true hz⟩
    rw [e] at hm
    exact of_decide_eq_true (List.mem_filter.mp hm).2
  have nd : (st.states.toList.map fun I => (univ C).filter (· ∈ I)).Nodup :=
    List.pairwise_map.mpr (h.1.imp_of_mem fun hI hI' ne e =>
      ne (Sorted.ext (h.2 _ hI).1 (h.2 _ hI').1 fun z => ⟨sub hI e z, sub hI' e.symm z⟩))
  have := nd.length_le_of_subset (l₂ := subl (univ C)) fun J hJ =>
    let ⟨I, _, e⟩ := List.mem_map.mp hJ
    e ▸ mem_subl List.filter_sublist
  rwa [length_subl, length_univ, List.length_map, Array.length_toList] at this

theorem gotoSet_some (hC : UnivClosed C) {I : List Item} (hI : ∀ it ∈ I, it ∈ univ C) (x : Nat) :
    ∃ J, gotoSet C I x = some J ∧ ∀ y ∈ J, y ∈ univ C := by
  refine closure_some hC ?_
  intro y hy
  obtain ⟨it, hit, hn, rfl⟩ := mem_gotoSeed.mp hy
  exact advance_univ (hI it hit) hn

theorem InUniv.addState {st : St} {J : List Item} (hs : InUniv C st) (hJ : ∀ y ∈ J, y ∈ univ C) :
    InUniv C (addState st J).1 := by
  unfold Gen.addState
  cases hi : stateIndex st (norm J) with
  | some k => exact hs
  | none =>
    show (st.states.push (norm J)).toList.Nodup ∧ ∀ I ∈ (st.states.push (norm J)).toList, _
    rw [Array.toList_push]
    refine ⟨List.nodup_append.mpr ⟨hs.1, List.pairwise_singleton _ _, fun I hI K hK e => ?_⟩, fun I hI => ?_⟩
    · exact stateIndex_none hi (List.mem_singleton.mp hK ▸ e ▸ hI)
    · rcases List.mem_append.mp hI with hI | hI
      · exact hs.2 I hI
      · rw [List.mem_singleton.mp hI]
        exact ⟨norm_sorted J, fun z hz => hJ z (mem_norm.mp hz)⟩

theorem expand_some (hC : UnivClosed C) {I : List Item} (hI : ∀ it ∈ I, it ∈ univ C) (xs : List Nat) :
    ∀ (st : St) (row : List (Nat × Nat)), InUniv C st →
    ∃ st' row', expand C I xs st row = some (st', row') ∧ InUniv C st' ∧ ArrExt st.states st'.states := by
  induction xs with
  | nil => exact fun st row hs => ⟨st, row, rfl, hs, ArrExt.refl⟩
  | cons x xs ih =>
    intro st row hs
    obtain ⟨J, hg, hJ⟩ := gotoSet_some hC hI x
    obtain ⟨st', row', h1, h2, h3⟩ := ih (addState st J).1 (row ++ [(x, (addState st J).2)]) (hs.addState hJ)
    exact ⟨st', row', (expand_cons hg xs st row).trans h1, h2, (addState_spec st J).2.2.1.trans h3⟩

/-- every step of `bfs` finishes a state (`f + i` stays), and there are at most `2 ^ itemBound C` states -/
theorem bfs_some (hC : UnivClosed C) (f : Nat) : ∀ (i : Nat) (st : St), InUniv C st → i ≤ st.states.size →
    2 ^ itemBound C + 1 ≤ f + i → ∃ st', bfs C f i st = some st' := by
  induction f with
  | zero =>
    intro i st hs hi hf
    have := hs.size_le
    omega
  | succ f ih =>
    intro i st hs _ hf
    simp only [bfs]
    cases hI : st.states[i]? with
    | none => exact ⟨st, rfl⟩
    | some I =>
      obtain ⟨st1, row, he, hs1, hext⟩ := expand_some hC
        (hs.2 I (Array.mem_toList_iff.mpr (Array.mem_of_getElem? hI))).2 (normN (I.flatMap C.nextSyms)) st [] hs
      simp only [he]
      exact ih (i + 1) _ hs1 (Array.getElem?_eq_some_iff.mp (hext.get hI)).1 (by omega)

end Gen

open Gen in
/-- **The generator model never runs out of fuel**, whatever the grammar. -/
theorem gen_terminates (G : Grammar) : ∃ o, gen G = some o := by
  obtain ⟨C, hC⟩ := tables_some G
  have hT := tables_ok hC
  have hIC := tables_univClosed hC
  have hseed : ∀ x ∈ [(⟨C.seedIdx, 0, G.eoi⟩ : Item)], x ∈ univ C := by
    intro x hx
    rw [List.mem_singleton.mp hx]
    exact mem_univ.mpr ⟨Cert.ruleAt_lt (Cert.ruleAt_seed hT.rules), Nat.zero_le _, hT.ntSize ▸ eoi_lt_nsym G⟩
  obtain ⟨I0, hI, hI0⟩ := closure_some hIC hseed
  have hs0 : InUniv C ⟨#[norm I0], #[I0.reverse], #[]⟩ :=
    ⟨List.pairwise_singleton _ _, fun I hI =>
      List.mem_singleton.mp hI ▸ ⟨norm_sorted I0, fun it hit => hI0 it (mem_norm.mp hit)⟩⟩
  obtain ⟨st, hb⟩ := bfs_some hIC (bfsFuel C) 0 _ hs0 (Nat.zero_le _) (Nat.le_of_lt (Nat.lt_succ_self _))
  unfold gen
  simp only [hC, hI, hb]
  exact ⟨_, rfl⟩

end Emboss.Lr1
