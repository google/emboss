/-
BitBlock / OffsetBitBlock lemmas: reads return the documented bits, writes replace exactly
the field's bits (read-modify-write with `MaskInValue`).
-/
import Emboss.Lemmas.ScalarMem
namespace Emboss.Scalar
open Emboss.Bits Emboss.Scalar.Spec

variable {bb : BitBlock} {o w : Nat}

theorem placed_c_le_W (h : Placed bb o w) : bb.c ≤ bb.W := le_leastWidth h.c_hi

theorem placed_w_le_64 (h : Placed bb o w) : w ≤ 64 := by have := h.fits; have := h.c_hi; omega

theorem placed_w_le_W (h : Placed bb o w) : w ≤ bb.W := by
  have := h.fits; have := placed_c_le_W h; omega

theorem placed_VW_le_W (h : Placed bb o w) : leastWidth w ≤ bb.W := by
  unfold BitBlock.W; exact leastWidth_mono (by have := h.fits; omega)

theorem fieldBits_lt (bb : BitBlock) (o w : Nat) : fieldBits bb o w < 2 ^ w :=
  Nat.mod_lt _ (Nat.two_pow_pos w)

theorem containerValue_lt (h : Placed bb o w) : containerValue bb.order bb.bytes < 2 ^ bb.c := by
  have hl := h.len
  have h1 := leValue_lt h.bytes_ok
  have h2 := leValue_lt (Bytes.reverse h.bytes_ok)
  rw [List.length_reverse] at h2
  rw [show 8 * bb.bytes.length = bb.c by omega] at h1 h2
  unfold containerValue; split <;> assumption

theorem bitBlock_ok_of_placed (h : Placed bb o w) : bb.ok = true := by
  unfold BitBlock.ok
  simp [h.len]

theorem bitBlock_readUInt_eq (h : Placed bb o w) :
    bb.readUInt = some (containerValue bb.order bb.bytes) := by
  unfold BitBlock.readUInt
  rw [if_neg (by simp [h.len])]
  unfold containerValue
  cases hord : bb.order <;> simp only
  · rw [loadLE_eq _ h.bytes_ok h.len h.c_hi]
  · rw [loadBE_eq _ h.bytes_ok h.len h.c_hi]
  · rw [loadLE_eq _ h.bytes_ok h.len h.c_hi]

theorem offsetStorage_eq (h : Placed bb o w) :
    bb.offsetStorage o w = { bb := bb, offset := o, size := w, okFlag := true } := by
  have h1 := h.fits; have h2 := h.c_hi
  unfold BitBlock.offsetStorage
  rw [wrap_of_lt (show o < 2 ^ 8 by omega), wrap_of_lt (show w < 2 ^ 8 by omega)]
  simp [bitBlock_ok_of_placed h, h.fits]

theorem offsetBitBlock_readUInt_eq (h : Placed bb o w) :
    (bb.offsetStorage o w).readUInt = some (fieldBits bb o w) := by
  rw [offsetStorage_eq h]
  unfold OffsetBitBlock.readUInt
  have hlt := containerValue_lt h
  have hW := (placed_c_le_W h)
  have hx : containerValue bb.order bb.bytes < 2 ^ bb.W := lt_pow_of_lt_of_le hlt hW
  simp only [bitBlock_readUInt_eq h]
  rw [if_neg (by have := h.fits; simp; omega)]
  rw [maskToNBits_eq hx (by have := h.fits; omega), Nat.shiftRight_eq_div_pow, Nat.pow_add,
    Nat.mod_mul_right_div_self]
  unfold fieldBits bits
  rw [wrap_of_lt]
  exact Nat.lt_of_le_of_lt (Nat.le_trans (Nat.mod_le _ _) (Nat.div_le_self _ _)) hx

theorem fieldBuf_readUInt (h : Placed bb o w) (direct : Bool)
    (hd : direct = true → o = 0 ∧ w = bb.c) :
    (fieldBuf direct bb o w).readUInt = some (fieldBits bb o w) := by
  unfold fieldBuf
  cases direct
  · simp only [Bool.false_eq_true, if_false, Buf.readUInt]; exact offsetBitBlock_readUInt_eq h
  · obtain ⟨rfl, rfl⟩ := hd rfl
    simp only [if_true, Buf.readUInt, bitBlock_readUInt_eq h, fieldBits, bits]
    rw [Nat.pow_zero, Nat.div_one, Nat.mod_eq_of_lt (containerValue_lt h)]

theorem fieldBuf_ok (h : Placed bb o w) (direct : Bool) : (fieldBuf direct bb o w).ok = true := by
  unfold fieldBuf
  cases direct
  · simp [Buf.ok, offsetStorage_eq h]
  · simp [Buf.ok, bitBlock_ok_of_placed h]

theorem fieldBuf_sizeInBits (h : Placed bb o w) (direct : Bool)
    (hd : direct = true → o = 0 ∧ w = bb.c) : (fieldBuf direct bb o w).sizeInBits = w := by
  unfold fieldBuf
  cases direct
  · simp [Buf.sizeInBits, offsetStorage_eq h]
  · simp [Buf.sizeInBits, (hd rfl).2]

theorem fieldBuf_W (direct : Bool) (bb : BitBlock) (o w : Nat) : (fieldBuf direct bb o w).W = bb.W := by
  unfold fieldBuf; cases direct <;> simp [Buf.W, Buf.bitBlock, BitBlock.offsetStorage]

/-! ### Writes -/

/-- The complement of the mask is put in the form `2^A - (m + 1)` because that is the shape
`Nat.testBit_two_pow_sub_succ` speaks of. -/
theorem maskInValue_testBit {W o s orig new : Nat} (horig : orig < 2 ^ W) (hnew : new < 2 ^ s)
    (hfit : o + s ≤ W) (i : Nat) :
    (OffsetBitBlock.maskInValue W o s orig new).testBit i =
      if o ≤ i ∧ i < o + s then new.testBit (i - o) else orig.testBit i := by
  unfold OffsetBitBlock.maskInValue
  have hA := le_arithW W
  have hones : wrap W (notW (arithW W) 0) = 2 ^ W - 1 := by
    rw [notW_eq (Nat.two_pow_pos _), Nat.sub_zero]; exact pow_sub_one_mod hA
  have hmask : maskToNBits W (2 ^ W - 1) s = 2 ^ s - 1 := by
    rw [maskToNBits_eq (Nat.sub_lt (Nat.two_pow_pos W) (by decide)) (by omega),
      pow_sub_one_mod (by omega)]
  -- an `s`-bit value shifted to the field stays inside the promoted width
  have hsh : ∀ {x : Nat}, x < 2 ^ s → x * 2 ^ o < 2 ^ arithW W := fun hx => by
    have h1 := Nat.mul_lt_mul_of_pos_right hx (Nat.two_pow_pos o)
    rw [← Nat.pow_add] at h1
    exact lt_pow_of_lt_of_le h1 (by omega)
  have hm := hsh (Nat.sub_lt (Nat.two_pow_pos s) Nat.one_pos)
  simp only [hones, hmask, shl_eq hm, shl_eq (hsh hnew), notW_eq hm]
  rw [show 2 ^ arithW W - 1 - (2 ^ s - 1) * 2 ^ o = 2 ^ arithW W - ((2 ^ s - 1) * 2 ^ o + 1) by
    omega]
  unfold wrap
  simp only [Nat.testBit_mod_two_pow, Nat.testBit_or, Nat.testBit_and,
    Nat.testBit_two_pow_sub_succ hm, Nat.testBit_mul_two_pow, Nat.testBit_two_pow_sub_one]
  by_cases hF : o ≤ i ∧ i < o + s
  · have h3 : i < W := by omega
    have h4 : i < arithW W := by omega
    have h5 : i - o < s := by omega
    simp [hF, h3, h4, h5]
  · -- outside the field the mask bit is set and `new` contributes nothing
    have hn : (decide (o ≤ i) && new.testBit (i - o)) = false := by
      by_cases h1 : o ≤ i
      · rw [Nat.testBit_lt_two_pow (lt_pow_of_lt_of_le hnew (by omega)), Bool.and_false]
      · simp [h1]
    have hk : (decide (o ≤ i) && decide (i - o < s)) = false := by
      rw [← Bool.decide_and, decide_eq_false_iff_not]; omega
    rw [if_neg hF, hn, hk]
    by_cases h3 : i < W
    · simp [h3, (by omega : i < arithW W)]
    · simp only [h3, decide_false, Bool.false_and]
      exact (Nat.testBit_lt_two_pow (lt_pow_of_lt_of_le horig (by omega))).symm

theorem bits_of_updated {o w old new r : Nat} (h : Updated o w old new r) (hnew : new < 2 ^ w) :
    bits o w r = new := by
  apply Nat.eq_of_testBit_eq; intro j
  unfold bits
  rw [Nat.testBit_mod_two_pow, Nat.testBit_div_two_pow, h (j + o)]
  by_cases hj : j < w
  · rw [if_pos (by omega)]; simp [hj]
  · simp [hj, Nat.testBit_lt_two_pow (lt_pow_of_lt_of_le hnew (by omega : w ≤ j))]

theorem updated_lt {o w c old new r : Nat} (h : Updated o w old new r) (hold : old < 2 ^ c)
    (hfit : o + w ≤ c) : r < 2 ^ c := by
  apply Nat.lt_pow_two_of_testBit; intro i hi
  rw [h i, if_neg (by omega)]
  exact Nat.testBit_lt_two_pow (lt_pow_of_lt_of_le hold hi)

theorem bits_disjoint_of_updated {o w old new r : Nat} (h : Updated o w old new r) (o' w' : Nat)
    (hdis : o' + w' ≤ o ∨ o + w ≤ o') : bits o' w' r = bits o' w' old := by
  apply Nat.eq_of_testBit_eq; intro j
  unfold bits
  rw [Nat.testBit_mod_two_pow, Nat.testBit_div_two_pow, Nat.testBit_mod_two_pow,
    Nat.testBit_div_two_pow, h (j + o')]
  by_cases hj : j < w'
  · rw [if_neg (by omega)]
  · simp [hj]

/-- `Null` order stores through the big-endian path; its single byte reads the same either way. -/
theorem store_containerValue (ord : ByteOrder) (p : Path) {c v : Nat} (hc : c ≤ 64)
    (hm : c % 8 = 0) (hn : ord = .null → c = 8) (hv : v < 2 ^ c) :
    ∃ bytes', (if ord = .little then storeLE p c v else storeBE p c v) = bytes' ∧
      bytes'.length = c / 8 ∧ Bytes bytes' ∧ containerValue ord bytes' = v := by
  have hval : leValue (nativeStore (c / 8) v) = v := by
    rw [leValue_nativeStore, show 8 * (c / 8) = c by omega, Nat.mod_eq_of_lt hv]
  cases ord with
  | little =>
    exact ⟨_, storeLE_eq p hc v, nativeStore_length _ _, nativeStore_bytes _ _, hval⟩
  | big =>
    refine ⟨_, storeBE_eq p hc hv, ?_, (nativeStore_bytes _ _).reverse, ?_⟩
    · rw [List.length_reverse, nativeStore_length]
    · rw [containerValue, List.reverse_reverse, hval]
  | null =>
    cases hn rfl
    exact ⟨_, storeBE_eq p hc hv, rfl, (nativeStore_bytes _ _).reverse, hval⟩

theorem bitBlock_writeUInt_eq (h : Placed bb o w) {v : Nat} (hv : v < 2 ^ bb.c) :
    ∃ bytes', bb.writeUInt v = some { bb with bytes := bytes' } ∧
      Placed { bb with bytes := bytes' } o w ∧
      containerValue bb.order bytes' = v := by
  have hW := placed_c_le_W h
  obtain ⟨bytes', hst, hl, hb, hcv⟩ :=
    store_containerValue bb.order bb.path h.c_hi h.c_mult h.null_ok hv
  have hlen : bytes'.length * 8 = bb.c := by have := h.c_mult; omega
  refine ⟨bytes', ?_, ⟨h.c_mult, h.c_lo, h.c_hi, h.w_pos, h.fits, hlen, hb, h.null_ok⟩, hcv⟩
  unfold BitBlock.writeUInt
  rw [if_neg (by simp [h.len, maskToNBits_of_lt hv hW]), ← hst]
  cases bb.order <;> rfl

theorem fieldBuf_writeUInt (h : Placed bb o w) (direct : Bool)
    (hd : direct = true → o = 0 ∧ w = bb.c) {v : Nat} (hv : v < 2 ^ w) :
    ∃ bytes', (fieldBuf direct bb o w).writeUInt v =
        some (fieldBuf direct { bb with bytes := bytes' } o w) ∧
      Placed { bb with bytes := bytes' } o w ∧
      Updated o w (containerValue bb.order bb.bytes) v (containerValue bb.order bytes') := by
  have hcv := containerValue_lt h
  have hW := placed_c_le_W h
  cases direct
  · -- field of a `bits`: read-modify-write
    have hupd : Updated o w (containerValue bb.order bb.bytes) v
        (OffsetBitBlock.maskInValue bb.W o w (containerValue bb.order bb.bytes) v) :=
      fun i => maskInValue_testBit (lt_pow_of_lt_of_le hcv hW) hv (by have := h.fits; omega) i
    have hnewlt := updated_lt hupd hcv h.fits
    obtain ⟨bytes', hw, hp, hcv'⟩ := bitBlock_writeUInt_eq h hnewlt
    refine ⟨bytes', ?_, hp, by rw [hcv']; exact hupd⟩
    simp only [fieldBuf, Bool.false_eq_true, if_false, Buf.writeUInt]
    rw [offsetStorage_eq h, offsetStorage_eq hp]
    unfold OffsetBitBlock.writeUInt
    simp only [bitBlock_readUInt_eq h]
    rw [if_neg (by simp [maskToNBits_of_lt hv (placed_w_le_W h)])]
    simp only [hw, Option.map]
  · obtain ⟨rfl, rfl⟩ := hd rfl
    obtain ⟨bytes', hw, hp, hcv'⟩ := bitBlock_writeUInt_eq h hv
    refine ⟨bytes', ?_, hp, ?_⟩
    · simp only [fieldBuf, if_true, Buf.writeUInt, hw, Option.map]
    · rw [hcv']; intro i
      by_cases hi : i < bb.c
      · rw [if_pos (by omega)]; simp
      · rw [if_neg (by omega), Nat.testBit_lt_two_pow (lt_pow_of_lt_of_le hv (by omega)),
          Nat.testBit_lt_two_pow (lt_pow_of_lt_of_le hcv (by omega))]

end Emboss.Scalar
