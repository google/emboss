/-
C10, file level: a `FileCover` is what the line loop of `tokenize` computes, and a text that
`FileFails` gets that message and position.  Since one of the two always exists
(`cover_or_fails`), whatever the loop answers is that (`tokLines_spec`).
-/
import Emboss.Lemmas.TokLineSpec
namespace Emboss.Tok
open Emboss.Regex

/-- The search passes over levels other than `lw`, counting them. -/
theorem dedentTo_skip (lw : List Char) (below : List (List Char)) :
    ∀ (pp : List (List Char)) (k : Nat), lw ∉ pp →
      dedentTo lw (pp ++ below) k = dedentTo lw below (k + pp.length) := by
  intro pp
  induction pp with
  | nil => exact fun _ _ => rfl
  | cons t pp ih =>
    intro k hn
    rw [List.cons_append, dedentTo, if_neg (List.ne_of_not_mem_cons hn),
      ih _ (List.not_mem_of_not_mem_cons hn), List.length_cons, Nat.add_assoc, Nat.add_comm 1]

theorem dedentTo_complete (lw : List Char) (pp below' : List (List Char)) (k : Nat) (hn : lw ∉ pp) :
    dedentTo lw (pp ++ lw :: below') k = some (k + pp.length, ⟨lw, below'⟩) := by
  rw [dedentTo_skip _ _ _ _ hn, dedentTo, if_pos rfl]

theorem dedentTo_not_mem (lw : List Char) (below : List (List Char)) (k : Nat) (hn : lw ∉ below) :
    dedentTo lw below k = none := by
  have := dedentTo_skip lw [] below k hn
  rwa [List.append_nil] at this

theorem IndentStep.lineStep_eq {pats : List Pat} {ln : Nat} {line : List Char} {segs : List Seg}
    {st st' : IStack} {synth : List Token} (hc : Covers pats ln line 0 segs)
    (hi : IndentStep ln line (tokensOf segs) st synth st') :
    lineStep pats ln line st = .ok (synth ++ tokensOf segs ++ [newlineTok ln line.length]) st' := by
  have hl := hc.tokLine_eq line.length (Nat.le_refl _)
  unfold lineStep
  rw [hl]
  simp only
  cases hi with
  | blank hb =>
    have hb' : (tokensOf segs).all (fun t => t.sym == "Comment") = true := hb
    simp [hb']
  | same hb heq =>
    have hb' : (tokensOf segs).all (fun t => t.sym == "Comment") = false := hb
    simp [hb', heq]
  | indent hb hne hpre =>
    have hb' : (tokensOf segs).all (fun t => t.sym == "Comment") = false := hb
    have hp : st.top.isPrefixOf (leadingWs line) = true := List.isPrefixOf_iff_prefix.mpr hpre
    simp [hb', hne, hp]
  | dedent popped hb hne hpre heq htop hnot =>
    have hb' : (tokensOf segs).all (fun t => t.sym == "Comment") = false := hb
    have hp : st.top.isPrefixOf (leadingWs line) = false :=
      Bool.eq_false_iff.mpr fun h => hpre (List.isPrefixOf_iff_prefix.mp h)
    have hd := dedentTo_complete (leadingWs line) popped st'.below 0 hnot
    obtain ⟨top', below'⟩ := st'
    subst htop
    rw [← heq, dedentTo, if_neg hne] at hd
    simp [hb', hne, hp, hd]

theorem FileCover.tokLines_eq {pats : List Pat} {lines : List (List Char)} {ln : Nat} {st : IStack}
    {toks : List Token} (h : FileCover pats lines ln st toks) : tokLines pats lines ln st = .ok toks := by
  induction h with
  | done => rfl
  | line hc hi _ ih => simp only [tokLines, hi.lineStep_eq hc, ih, TokRes.prepend]

theorem FileFails.tokLines_eq {pats : List Pat} {lines : List (List Char)} {ln : Nat} {st : IStack}
    {msg : String} {a b c d : Nat} (h : FileFails pats lines ln st msg a b c d) :
    tokLines pats lines ln st = .err msg a b c d := by
  induction h with
  | @stuck line rest ln st k hs =>
    have := hs.tokLine_eq ln line.length (Nat.le_refl _)
    simp only [tokLines, lineStep, this]
  | @indent line rest ln st segs hc hb hne hpre hnot =>
    have hl := hc.tokLine_eq line.length (Nat.le_refl _)
    have hb' : (tokensOf segs).all (fun t => t.sym == "Comment") = false := hb
    have hp : st.top.isPrefixOf (leadingWs line) = false :=
      Bool.eq_false_iff.mpr fun h => hpre (List.isPrefixOf_iff_prefix.mp h)
    have hd := dedentTo_not_mem (leadingWs line) st.below 1 hnot
    simp only [tokLines, lineStep, hl, hb', hne, hp, hd, Bool.false_eq_true, if_false]
  | later hc hi _ ih => simp only [tokLines, hi.lineStep_eq hc, ih, TokRes.prepend]

def FileAnswer (pats : List Pat) (lines : List (List Char)) (ln : Nat) (st : IStack) : TokRes → Prop
  | .ok toks => FileCover pats lines ln st toks
  | .err msg a b c d => FileFails pats lines ln st msg a b c d
  | .fuel => False

theorem tokLines_spec (pats : List Pat) (lines ln st) :
    FileAnswer pats lines ln st (tokLines pats lines ln st) := by
  rcases cover_or_fails pats lines ln st with ⟨toks, h⟩ | ⟨m, a, b, c, d, h⟩
  · rw [h.tokLines_eq]; exact h
  · rw [h.tokLines_eq]; exact h

theorem tokLines_cover {pats : List Pat} {lines ln st toks}
    (h : tokLines pats lines ln st = .ok toks) : FileCover pats lines ln st toks := by
  have := tokLines_spec pats lines ln st
  rwa [h] at this

theorem tokLines_err_fails {pats : List Pat} {lines ln st msg a b c d}
    (h : tokLines pats lines ln st = .err msg a b c d) : FileFails pats lines ln st msg a b c d := by
  have := tokLines_spec pats lines ln st
  rwa [h] at this

theorem tokLines_no_fuel {pats : List Pat} {lines ln st} : tokLines pats lines ln st ≠ .fuel := fun h => by
  have := tokLines_spec pats lines ln st
  rwa [h] at this

end Emboss.Tok
