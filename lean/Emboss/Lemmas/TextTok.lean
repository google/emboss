/-
Helper lemmas for C06 (tokenizer): what `DiscardWhitespace` and `ReadToken` do at white space,
a comment, a word and a punctuation character of a well separated piece list.
-/
import Emboss.Spec.TextTok
namespace Emboss.Text

theorem discardWs_lineEnd (ic : Bool) {c : Char} (cs : List Char) (hc : c = '\n' ∨ c = '\r') :
    discardWs ic (c :: cs) = discardWs false cs := by
  rcases hc with rfl | rfl <;> simp [discardWs, isSpace]

theorem discardWs_hash (ic : Bool) (cs : List Char) : discardWs ic ('#' :: cs) = discardWs true cs := by
  simp [discardWs]

theorem discardWs_inComment {c : Char} (cs : List Char) (hc : c ≠ '\n' ∧ c ≠ '\r') :
    discardWs true (c :: cs) = discardWs true cs := by
  have hn : ¬ (c = '\r' ∨ c = '\n') := fun h => h.elim hc.2 hc.1
  by_cases hh : c = '#' <;> simp [discardWs, hn, hh]

theorem discardWs_blank {c : Char} (cs : List Char) (hc : isSpace c = true) :
    discardWs false (c :: cs) = discardWs false cs := by
  have hne : c ≠ '#' := by rintro rfl; simp [isSpace] at hc
  by_cases hn : c = '\r' ∨ c = '\n' <;> simp [discardWs, hn, hne, hc]

theorem discardWs_nondelim (c : Char) (R : List Char) (hc : isSpace c = false) (hh : c ≠ '#') :
    discardWs false (c :: R) = c :: R := by
  simp only [discardWs]
  have hn : ¬ (c = '\r' ∨ c = '\n') := by
    intro h; rcases h with rfl | rfl <;> simp [isSpace] at hc
  simp [hn, hh, hc]

theorem discardWs_space (s R : List Char) (h : ∀ c ∈ s, isSpace c = true) :
    discardWs false (s ++ R) = discardWs false R := by
  induction s with
  | nil => rfl
  | cons c s ih =>
    rw [List.cons_append, discardWs_blank _ (h c (by simp)), ih fun c hc => h c (by simp [hc])]

theorem discardWs_newline (c : Char) (s R : List Char) (hc : c = '\n' ∨ c = '\r')
    (h : ∀ c ∈ s, isSpace c = true) :
    discardWs true (c :: s ++ R) = discardWs false R := by
  rw [List.cons_append, discardWs_lineEnd true _ hc, discardWs_space s R h]

theorem discardWs_comment_body (b R : List Char) (h : ∀ c ∈ b, c ≠ '\n' ∧ c ≠ '\r') :
    discardWs true (b ++ R) = discardWs true R := by
  induction b with
  | nil => rfl
  | cons c b ih =>
    rw [List.cons_append, discardWs_inComment _ (h c (by simp)), ih fun c hc => h c (by simp [hc])]

theorem discardWs_comment (b R : List Char) (h : ∀ c ∈ b, c ≠ '\n' ∧ c ≠ '\r') :
    discardWs false ('#' :: b ++ R) = discardWs true R := by
  rw [List.cons_append, discardWs_hash, discardWs_comment_body b R h]

/-- Behind a word the token stops at once: the next piece starts with a delimiter. -/
theorem tokenBody_wellSep (ps : List Piece) (h : WellSep .word ps) : tokenBody (render ps) = ([], render ps) := by
  cases ps with
  | nil => rfl
  | cons p ps =>
    obtain ⟨hv, hok, _⟩ := h
    cases p with
    | word w => exact absurd hok (by simp [OkAfter])
    | punct c =>
      have : isPunct c = true := hv
      simp [render, Piece.render, tokenBody, this]
    | comment b => simp [render, Piece.render, tokenBody]
    | space s =>
      cases s with
      | nil => exact absurd rfl hok
      | cons c s =>
        have : isSpace c = true := hv c (by simp)
        simp [render, Piece.render, tokenBody, this]

theorem tokenBody_word (w : List Char) (ps : List Piece) (hw : ∀ c ∈ w, isDelim c = false)
    (h : WellSep .word ps) : tokenBody (w ++ render ps) = (w, render ps) := by
  induction w with
  | nil => exact tokenBody_wellSep ps h
  | cons c w ih =>
    have hc := hw c (by simp)
    have hw' : ∀ c ∈ w, isDelim c = false := fun c hc => hw c (by simp [hc])
    simp only [List.cons_append, tokenBody]
    have : (isSpace c || decide (c = '#') || isPunct c) = false := by simpa [isDelim] using hc
    simp [this, ih hw']

theorem isDelim_false {c : Char} (h : isDelim c = false) :
    isSpace c = false ∧ c ≠ '#' ∧ isPunct c = false := by
  simp only [isDelim, Bool.or_eq_false_iff, decide_eq_false_iff_not] at h
  exact ⟨h.1.1, h.1.2, h.2⟩

theorem discardWs_word (w R : List Char) (hw : ValidWord w) : discardWs false (w ++ R) = w ++ R := by
  cases w with
  | nil => exact absurd rfl hw.1
  | cons c w =>
    obtain ⟨h1, h2, _⟩ := isDelim_false (hw.2 c (List.mem_cons_self ..))
    exact discardWs_nondelim c _ h1 h2

theorem discardWs_punct (c : Char) (R : List Char) (hc : isPunct c = true) :
    discardWs false (c :: R) = c :: R := by
  have h1 : isSpace c = false := by
    simp only [isPunct, Bool.or_eq_true, decide_eq_true_eq] at hc
    rcases hc with ((((rfl | rfl) | rfl) | rfl) | rfl) | rfl <;> decide
  have h2 : c ≠ '#' := by
    intro h; subst h; simp [isPunct] at hc
  exact discardWs_nondelim c R h1 h2

theorem readToken_word {r : List Char} (w : List Char) (ps : List Piece) (hw : ValidWord w)
    (h : WellSep .word ps) (hr : discardWs false r = w ++ render ps) : readToken r = (w, render ps) := by
  rw [readToken, readTokenFrom, hr]
  cases w with
  | nil => exact absurd rfl hw.1
  | cons c w =>
    have h3 := (isDelim_false (hw.2 c (List.mem_cons_self ..))).2.2
    simp only [List.cons_append, h3]
    rw [tokenBody_word w ps (fun c hc => hw.2 c (List.mem_cons_of_mem _ hc)) h]
    simp

theorem readToken_punct {r : List Char} (c : Char) (R : List Char) (hc : isPunct c = true)
    (hr : discardWs false r = c :: R) : readToken r = ([c], R) := by
  simp [readToken, readTokenFrom, hr, hc]

theorem discardWs_space_piece (k : Kind) (s R : List Char) (hv : ∀ c ∈ s, isSpace c = true)
    (hok : OkAfter k (.space s)) :
    discardWs (decide (k = .comment)) (s ++ R) = discardWs false R := by
  cases k with
  | comment =>
    cases s with
    | nil => exact absurd hok (by simp [OkAfter])
    | cons c s =>
      have hc : c = '\n' ∨ c = '\r' := hok
      simpa using discardWs_newline c s R hc (fun c hc => hv c (by simp [hc]))
  | word => simpa using discardWs_space s R hv
  | other => simpa using discardWs_space s R hv

theorem ne_comment_of_okAfter {k : Kind} {p : Piece} (hok : OkAfter k p) (hp : ∀ s, p ≠ .space s) :
    k ≠ .comment := by
  rintro rfl
  cases p with
  | space s => exact hp s rfl
  | _ => exact hok

theorem tokensAuxFrom_congr (ic ic' : Bool) (fuel : Nat) (s s' : List Char)
    (h : discardWs ic s = discardWs ic' s') :
    tokensAuxFrom ic fuel s = tokensAuxFrom ic' fuel s' := by
  cases fuel with
  | zero => rfl
  | succ n => simp only [tokensAuxFrom, readTokenFrom, h]

theorem discardWs_idem : ∀ (s : List Char) (ic : Bool),
    discardWs false (discardWs ic s) = discardWs ic s := by
  intro s
  induction s with
  | nil => intro ic; rfl
  | cons c cs ih =>
    intro ic
    by_cases hn : c = '\n' ∨ c = '\r'
    · rw [discardWs_lineEnd ic cs hn]; exact ih false
    · by_cases hh : c = '#'
      · rw [hh, discardWs_hash]; exact ih true
      · cases ic with
        | true => rw [discardWs_inComment cs (not_or.mp hn)]; exact ih true
        | false =>
          by_cases hsp : isSpace c = true
          · rw [discardWs_blank cs hsp]; exact ih false
          · have := discardWs_nondelim c cs (by simpa using hsp) hh
            rw [this, this]

end Emboss.Text
