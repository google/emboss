/-
C10, table-specific: the languages of the number patterns in terms of the language reference's
numeric-constant rules, and the symbol the pattern loop gives a maximal word run that starts
with a digit (`bestMatch_digit`).
-/
import Emboss.Lemmas.TokClassify
namespace Emboss.Tok
open Emboss.Regex Emboss.Tok.Class Emboss.Generated

theorem isPlain_iff (dig : Char → Bool) (w : List Char) :
    isPlain dig w = true ↔ w ≠ [] ∧ w.all dig = true := by
  simp [isPlain]

/-- `(?:_D{len})*` -/
theorem lang_groups_iff {c : CClass} {len : Nat} {p q : List Char} :
    Lang (.rep (.seq (.chr (litC '_')) (.rep (.chr c) len (some len))) 0 none) p q ↔
      ∃ gs : List (List Char), p = (gs.map (fun g => '_' :: g)).flatten ∧
        ∀ g ∈ gs, g.length = len ∧ g.all c.mem = true := by
  constructor
  · refine Lang.rep_induction (motive := fun _ _ p => ∃ gs : List (List Char),
      p = (gs.map (fun g => '_' :: g)).flatten ∧ ∀ g ∈ gs, g.length = len ∧ g.all c.mem = true)
      (fun _ => ⟨[], rfl, nofun⟩) ?_
    rintro mn mx u v rest _ hu ⟨gs, rfl, hgs⟩
    obtain ⟨_, g, rfl, h1, h2⟩ := lang_seq_iff.mp hu
    obtain rfl := lang_litC_iff.mp h1
    obtain ⟨h3, h4, h5⟩ := lang_rep_chr_iff.mp h2
    exact ⟨g :: gs, rfl, List.forall_mem_cons.mpr ⟨⟨Nat.le_antisymm (h5 len rfl) h4, h3⟩, hgs⟩⟩
  · rintro ⟨gs, rfl, hgs⟩
    induction gs with
    | nil => exact .repStop
    | cons g gs ih =>
      obtain ⟨hg, hgs⟩ := List.forall_mem_cons.mp hgs
      exact .repIter (u := '_' :: g) nofun
        (.seq (u := ['_']) (lang_litC_iff.mpr rfl)
          (lang_rep_chr_iff.mpr ⟨hg.2, Nat.le_of_eq hg.1.symm, fun k hk => by cases hk; exact Nat.le_of_eq hg.1⟩))
        (ih hgs)

/-- `D{1,first}(?:_D{len})*` is the reference's "groups of digits". -/
theorem lang_grouped_iff {c : CClass} {first len : Nat} {p q : List Char} :
    Lang (grouped c first len) p q ↔ Grouped c.mem first len p := by
  rw [grouped, lang_seq_iff, Grouped]
  constructor
  · rintro ⟨g0, _, rfl, h1, h2⟩
    obtain ⟨h3, h4, h5⟩ := lang_rep_chr_iff.mp h1
    obtain ⟨gs, rfl, hgs⟩ := lang_groups_iff.mp h2
    exact ⟨g0, gs, rfl, h4, h5 first rfl, h3, hgs⟩
  · rintro ⟨g0, gs, rfl, h1, h2, h3, hgs⟩
    exact ⟨g0, _, rfl, lang_rep_chr_iff.mpr ⟨h3, h1, fun k hk => by cases hk; exact h2⟩,
      lang_groups_iff.mpr ⟨gs, rfl, hgs⟩⟩

variable {w rest : List Char}

theorem lang_dec : Lang reDec w rest ↔ isPlain isDigit w = true := by
  rw [reDec, lang_plus_iff, isPlain_iff, funext cDigit_mem]

theorem lang_decGrouped : Lang reDecGrouped w rest ↔ Grouped isDigit 3 3 w := by
  rw [reDecGrouped, lang_grouped_iff, funext cDigit_mem]

/-- `0x[0-9a-fA-F]+`, `0b[01]+`. -/
theorem lang_radix_plain {p : Char} {c : CClass} :
    Lang (litThen ['0', p] (plus c)) w rest ↔
      ∃ body, w = '0' :: p :: body ∧ isPlain c.mem body = true := by
  rw [lang_litThen_iff]
  refine exists_congr fun body => and_congr_right fun _ => ?_
  rw [isPlain_iff]
  exact lang_plus_iff

/-- `0x_?D{1,n}(?:_D{n})*`, `0b_?…`. -/
theorem lang_radix_grouped {p : Char} {c : CClass} {n : Nat} :
    Lang (litThen ['0', p] (.seq (opt (litC '_')) (grouped c n n))) w rest ↔
      ∃ body, (w = '0' :: p :: body ∨ w = '0' :: p :: '_' :: body) ∧ Grouped c.mem n n body := by
  simp only [lang_litThen_iff, lang_opt_seq_iff, lang_grouped_iff]
  constructor
  · rintro ⟨_, rfl, hG | ⟨x, body, rfl, hx, hG⟩⟩
    · exact ⟨_, .inl rfl, hG⟩
    · rw [litC_mem, beq_iff_eq] at hx
      exact ⟨body, .inr (by rw [hx]; rfl), hG⟩
  · rintro ⟨body, rfl | rfl, hG⟩
    · exact ⟨body, rfl, .inl hG⟩
    · exact ⟨'_' :: body, rfl, .inr ⟨'_', body, rfl, by rw [litC_mem]; rfl, hG⟩⟩

theorem lang_badNumber (x : Char) (t : List Char) :
    Lang reBadNumber (x :: t) rest ↔ isBadNumberShape (x :: t) = true := by
  simp only [isBadNumberShape]
  rw [reBadNumber, lang_chr_cons_iff, lang_opt_seq_iff, cDigit_mem, Bool.and_eq_true, Bool.or_eq_true,
    ← funext cHexUs_mem, lang_star_iff]
  refine and_congr_right fun _ => or_congr_right ?_
  cases t with
  | nil => exact ⟨fun ⟨_, _, e, _⟩ => (nomatch e), nofun⟩
  | cons y t' =>
    rw [Bool.and_eq_true, ← cRadix_mem]
    exact ⟨fun ⟨_, _, e, hy, ht⟩ => (by cases e; exact ⟨hy, lang_star_iff.mp ht⟩),
      fun ⟨hy, ht⟩ => ⟨y, t', rfl, hy, lang_star_iff.mpr ht⟩⟩

theorem number_patterns_iff :
    (Lang reDec w rest ∨ Lang reDecGrouped w rest ∨ Lang reHex w rest ∨ Lang reHex4 w rest ∨
      Lang reHex8 w rest ∨ Lang reBin w rest ∨ Lang reBin4 w rest ∨ Lang reBin8 w rest) ↔
        IsNumberDoc w := by
  simp only [lang_dec, lang_decGrouped, reHex, reHex4, reHex8, reBin, reBin4, reBin8,
    lang_radix_plain, lang_radix_grouped, funext cHex_mem, funext cBin_mem]
  -- both sides are the same twelve forms, grouped by pattern on the left and by prefix on the right
  simp only [IsNumberDoc, IsNumberNoPrefixUnderscore, IsNumberRadixUnderscore, IsDecimal, IsRadixBody,
    and_or_left, or_and_right, exists_or, or_assoc]
  exact Iff.of_eq (by ac_rfl)

/-! ### The symbol of a run that starts with a digit -/

theorem digit_facts (x : Char) (hx : isDigit x = true) : isLower x = false ∧ isUpper x = false := by
  simp only [isDigit, between, Char.reduceToNat, Bool.and_eq_true, decide_eq_true_eq] at hx
  constructor
  · simp only [isLower, between, Char.reduceToNat, Bool.and_eq_false_iff, decide_eq_false_iff_not]
    omega
  · simp only [isUpper, between, Char.reduceToNat, Bool.and_eq_false_iff, decide_eq_false_iff_not]
    omega

theorem name_patterns_fail (x : Char) (t : List Char) (hx : isDigit x = true) :
    ¬ Lang reResCamel (x :: t) rest ∧ ¬ Lang reResSnake (x :: t) rest ∧
    ¬ Lang reResShouty (x :: t) rest ∧ ¬ Lang reBool (x :: t) rest ∧ ¬ Lang reSnake (x :: t) rest ∧
    ¬ Lang reShouty (x :: t) rest ∧ ¬ Lang reCamel (x :: t) rest := by
  obtain ⟨hl, hu⟩ := digit_facts x hx
  refine ⟨?_, ?_, ?_, ?_, ?_, ?_, ?_⟩
  · exact not_lang_lit_head hx (by decide)
  · exact not_lang_lit_head hx (by decide)
  · exact not_lang_lit_head hx (by decide)
  · rw [reBool, lang_alt_iff]
    exact fun h => h.elim (not_lang_lit_head hx (by decide)) (not_lang_lit_head hx (by decide))
  · rw [lang_snake, isSnake, hl]; exact Bool.false_ne_true
  · rw [lang_shouty, isShouty, hu]; exact Bool.false_ne_true
  · rw [lang_camel, isCamel, hu]; exact Bool.false_ne_true

open Classical in
/-- **Numbers.**  At the start of a maximal word run that begins with a digit the pattern
loop returns the whole run; the symbol is `Number` iff the run is a numeric constant in
one of the accepted forms, else `BadNumber` if it has the catch-all number shape, else
`BadWord`. -/
theorem bestMatch_digit {w rest : List Char} (h : WordRun w rest) (x : Char) (t : List Char)
    (hw : w = x :: t) (hx : isDigit x = true) :
    bestMatch tokTable.pats (w ++ rest) 0 none = some (w.length, some
      (if IsNumberDoc w then "Number" else if isBadNumberShape w then "BadNumber" else "BadWord")) := by
  subst hw
  have hk : keywordOf (x :: t) = none := by
    rw [keywordOf, List.find?_eq_none]
    intro l hl' hc
    have := (keyword_shape hl').2
    rw [beq_iff_eq.mp hc, List.any_cons, hx] at this
    cases this
  obtain ⟨m1, m2, m3, m4, m5, m6⟩ := nonword_patterns_fail (rest := rest) x t (w_digit x hx)
  obtain ⟨r1, r2, r3, b1, s1, s2, s3⟩ := name_patterns_fail (rest := rest) x t hx
  rw [word_run_sym h, hk]
  simp only [expectedRegexes, find_sym_cons, decide_eq_true_eq, r1, r2, r3, b1, s1, s2, s3, m1, m2, m3,
    m4, m5, m6, lang_badWord h, lang_badNumber, if_false, if_true]
  -- the eight Number tests, having the same answer, are one test of their disjunction
  simp only [← ite_or, number_patterns_iff, apply_ite some]

end Emboss.Tok
