/-
C11, normal form modulo trailing blanks of Comment tokens: strings equal up to trailing
blanks (`CRel`), rows and blocks related column-wise; every global pass respects the
relation (`_columnize`: the last column's blanks only pad that column, and `rstrip` removes them).
-/
import Emboss.Lemmas.FmtPasses

namespace Emboss.Fmt

/-- Strings equal up to trailing blanks, and empty together. -/
def CRel (c c' : Str) : Prop := rstrip c = rstrip c' ∧ (c = [] ↔ c' = [])

theorem CRel.refl (c : Str) : CRel c c := ⟨rfl, Iff.rfl⟩

theorem CRel.pre (p : Str) {c c' : Str} (h : CRel c c') : CRel (p ++ c) (p ++ c') :=
  ⟨rstrip_append_congr p h.1, by
    simp only [List.append_eq_nil_iff]
    exact ⟨fun ⟨a, b⟩ => ⟨a, h.2.1 b⟩, fun ⟨a, b⟩ => ⟨a, h.2.2 b⟩⟩⟩

theorem CRel.prepend {c c' : Str} (p : Str) (hp : p ≠ []) (h : CRel c c') : CRel (p ++ c) (p ++ c') :=
  h.pre p

theorem CRel.isEmpty_eq {c c' : Str} (h : CRel c c') : c.isEmpty = c'.isEmpty := by
  have := h.2
  cases c <;> cases c' <;> simp_all

inductive All₂ {α : Type} (R : α → α → Prop) : List α → List α → Prop
  | nil : All₂ R [] []
  | cons {a b : α} {as bs : List α} : R a b → All₂ R as bs → All₂ R (a :: as) (b :: bs)

theorem All₂.length_eq {α : Type} {R : α → α → Prop} {l l' : List α} (h : All₂ R l l') : l.length = l'.length := by
  induction h with
  | nil => rfl
  | cons _ _ ih => simp [ih]

theorem All₂.isEmpty_eq {α : Type} {R : α → α → Prop} {l l' : List α} (h : All₂ R l l') : l.isEmpty = l'.isEmpty := by
  cases h <;> rfl

theorem All₂.append {α : Type} {R : α → α → Prop} {a a' b b' : List α} (h : All₂ R a a') (hb : All₂ R b b') :
    All₂ R (a ++ b) (a' ++ b') := by
  induction h with
  | nil => exact hb
  | cons hab _ ih => exact All₂.cons hab ih

theorem All₂.reverse {α : Type} {R : α → α → Prop} {l l' : List α} (h : All₂ R l l') :
    All₂ R l.reverse l'.reverse := by
  induction h with
  | nil => exact All₂.nil
  | cons hab _ ih => simp only [List.reverse_cons]; exact ih.append (All₂.cons hab All₂.nil)

theorem All₂.map₂ {α β : Type} {R : α → α → Prop} {S : β → β → Prop} (f g : α → β)
    (hf : ∀ a b, R a b → S (f a) (g b)) {l l' : List α} (h : All₂ R l l') : All₂ S (l.map f) (l'.map g) := by
  induction h with
  | nil => exact All₂.nil
  | cons hab _ ih => exact All₂.cons (hf _ _ hab) ih

theorem All₂.map {α : Type} {R : α → α → Prop} (f : α → α) (hf : ∀ a b, R a b → R (f a) (f b))
    {l l' : List α} (h : All₂ R l l') : All₂ R (l.map f) (l'.map f) :=
  h.map₂ f f hf

theorem All₂.dropWhile {α : Type} {R : α → α → Prop} (p : α → Bool) (hp : ∀ a b, R a b → p a = p b)
    {l l' : List α} (h : All₂ R l l') : All₂ R (l.dropWhile p) (l'.dropWhile p) := by
  induction h with
  | nil => exact All₂.nil
  | @cons a b as bs hab hrest ih =>
    simp only [List.dropWhile_cons, ← hp a b hab]
    split
    · exact ih
    · exact All₂.cons hab hrest

theorem All₂.refl {α : Type} {R : α → α → Prop} (hr : ∀ a, R a a) : ∀ l : List α, All₂ R l l
  | [] => All₂.nil
  | a :: l => All₂.cons (hr a) (All₂.refl hr l)

theorem All₂.filter_length {α : Type} {R : α → α → Prop} (p : α → Bool) (hp : ∀ a b, R a b → p a = p b)
    {l l' : List α} (h : All₂ R l l') : (l.filter p).length = (l'.filter p).length := by
  induction h with
  | nil => rfl
  | @cons a b as bs hab _ ih =>
    simp only [List.filter_cons, ← hp a b hab]
    split <;> simp [ih]

/-- Both undefined, or both defined with related values. -/
def ORel {α : Type} (R : α → α → Prop) : Option α → Option α → Prop
  | some a, some b => R a b
  | none, none => True
  | _, _ => False

theorem ORel.bind {α β : Type} {R : α → α → Prop} {S : β → β → Prop} {o o' : Option α}
    {f g : α → Option β} (h : ORel R o o') (hf : ∀ a b, R a b → ORel S (f a) (g b)) :
    ORel S (o.bind f) (o'.bind g) := by
  cases o <;> cases o' <;> first | exact h.elim | trivial | exact hf _ _ h

theorem ORel.bind_eq {α β : Type} {S : β → β → Prop} {o o' : Option α} {f g : α → Option β}
    (h : o = o') (hf : ∀ a, ORel S (f a) (g a)) : ORel S (o.bind f) (o'.bind g) := by
  subst h
  cases o with
  | none => trivial
  | some a => exact hf a

theorem ORel.of_some {α : Type} {R : α → α → Prop} {o o' : Option α} (h : ORel R o o') {a : α}
    (ho : o = some a) : ∃ b, o' = some b ∧ R a b := by
  subst ho
  cases o' with
  | none => exact h.elim
  | some b => exact ⟨b, rfl, h⟩

/-- Columns equal except that the last ones are `CRel`. -/
def ColsRel : List Str → List Str → Prop
  | [], [] => True
  | [c], [c'] => CRel c c'
  | c :: d :: cs, c' :: d' :: cs' => c = c' ∧ ColsRel (d :: cs) (d' :: cs')
  | _, _ => False

theorem ColsRel.refl : ∀ cs : List Str, ColsRel cs cs
  | [] => trivial
  | [c] => CRel.refl c
  | _ :: d :: cs => ⟨rfl, ColsRel.refl (d :: cs)⟩

theorem ColsRel.length_eq {cs cs' : List Str} : ColsRel cs cs' → cs.length = cs'.length := by
  fun_induction ColsRel cs cs' with
  | case1 => intro _; rfl
  | case2 => intro _; rfl
  | case3 c d cs c' d' cs' ih => intro h; simp only [List.length_cons, ih h.2]
  | case4 => exact False.elim

theorem ColsRel.isEmpty_eq {cs cs' : List Str} : ColsRel cs cs' → cs.isEmpty = cs'.isEmpty := by
  fun_induction ColsRel cs cs' with
  | case1 | case2 | case3 => intro _; rfl
  | case4 => exact False.elim

theorem ColsRel.flatten {cs cs' : List Str} : ColsRel cs cs' → CRel cs.flatten cs'.flatten := by
  fun_induction ColsRel cs cs' with
  | case1 => intro _; exact CRel.refl []
  | case2 =>
    intro h
    simpa only [List.flatten_cons, List.flatten_nil, List.append_nil] using h
  | case3 c d cs c' d' cs' ih =>
    rintro ⟨rfl, h⟩
    exact (ih h).pre c
  | case4 => exact False.elim

theorem ColsRel.getElem?_eq {cs cs' : List Str} :
    ColsRel cs cs' → ∀ i, i + 1 < cs.length → cs[i]? = cs'[i]? := by
  fun_induction ColsRel cs cs' with
  | case1 => intro _ i hi; exact absurd hi (Nat.not_lt_zero _)
  | case2 => intro _ i hi; exact absurd (Nat.lt_of_succ_lt_succ hi) (Nat.not_lt_zero _)
  | case3 c d cs c' d' cs' ih =>
    rintro ⟨rfl, h⟩ i hi
    cases i with
    | zero => rfl
    | succ j =>
      simp only [List.getElem?_cons_succ]
      exact ih h j (Nat.lt_of_succ_lt_succ hi)
  | case4 => exact False.elim

structure RowRel (r r' : Row) : Prop where
  name : r.name = r'.name
  indent : r.indent = r'.indent
  cols : ColsRel r.columns r'.columns

theorem RowRel.refl (r : Row) : RowRel r r := ⟨rfl, rfl, ColsRel.refl _⟩

abbrev RowsRel := All₂ RowRel

theorem RowRel.colsEmpty {r r' : Row} (h : RowRel r r') : r.columns.isEmpty = r'.columns.isEmpty :=
  h.cols.isEmpty_eq

theorem RowRel.blank {r r' : Row} (h : RowRel r r') : rowBlank r = rowBlank r' :=
  h.cols.flatten.isEmpty_eq

theorem RowRel.indentRow {r r' : Row} (h : RowRel r r') : RowRel (indentRow r) (indentRow r') :=
  ⟨h.name, congrArg (· + 1) h.indent, h.cols⟩

theorem RowsRel.indentRows {l l' : List Row} (h : RowsRel l l') : RowsRel (indentRows l) (indentRows l') :=
  All₂.map indentRow (fun _ _ hab => RowRel.indentRow hab) h

theorem RowsRel.stripEmpty {l l' : List Row} (h : RowsRel l l') : RowsRel (stripEmptyRows l) (stripEmptyRows l') :=
  ((h.dropWhile _ (fun _ _ hr => hr.colsEmpty)).reverse.dropWhile _ (fun _ _ hr => hr.colsEmpty)).reverse

theorem RowsRel.intersperseAux (sep : List Row) : ∀ {secs secs' : List (List Row)}, All₂ RowsRel secs secs' →
    ∀ {acc acc' : List Row}, RowsRel acc acc' →
      RowsRel (intersperseAux sep acc secs) (Emboss.Fmt.intersperseAux sep acc' secs') := by
  intro secs secs' h
  induction h with
  | nil => intro acc acc' ha; exact ha
  | @cons s s' rest rest' hs _ ih =>
    intro acc acc' ha
    simp only [Emboss.Fmt.intersperseAux, ← hs.isEmpty_eq, ← ha.isEmpty_eq]
    split
    · exact ih ha
    · split
      · exact ih (ha.append hs)
      · exact ih ((ha.append (All₂.refl RowRel.refl sep)).append hs)

theorem RowsRel.intersperse (sep : List Row) {secs secs' : List (List Row)} (h : All₂ RowsRel secs secs') :
    RowsRel (intersperse sep secs) (Emboss.Fmt.intersperse sep secs') :=
  RowsRel.intersperseAux sep h All₂.nil

theorem RowsRel.indentBlanksRev : ∀ {l l' : List Row}, RowsRel l l' → ∀ prev,
    RowsRel (indentBlanksRev prev l) (Emboss.Fmt.indentBlanksRev prev l') := by
  intro l l' h
  induction h with
  | nil => intro _; exact All₂.nil
  | @cons r r' rest rest' hr _ ih =>
    intro prev
    simp only [Emboss.Fmt.indentBlanksRev, ← hr.blank, ← hr.name]
    split
    · exact All₂.cons ⟨rfl, rfl, hr.cols⟩ (ih prev)
    · rw [hr.indent]; exact All₂.cons hr (ih _)

theorem RowsRel.indentBlanksAndComments {l l' : List Row} (h : RowsRel l l') :
    RowsRel (indentBlanksAndComments l) (Emboss.Fmt.indentBlanksAndComments l') :=
  (RowsRel.indentBlanksRev h.reverse 0).reverse

theorem RowsRel.addBlankRowsAux : ∀ {l l' : List Row}, RowsRel l l' → ∀ pi pb,
    RowsRel (addBlankRowsAux pi pb l) (Emboss.Fmt.addBlankRowsAux pi pb l') := by
  intro l l' h
  induction h with
  | nil => intro _ _; exact All₂.nil
  | @cons r r' rest rest' hr _ ih =>
    intro pi pb
    simp only [Emboss.Fmt.addBlankRowsAux, ← hr.blank, ← hr.indent]
    split
    · exact All₂.cons (RowRel.refl _) (All₂.cons hr (ih _ _))
    · exact All₂.cons hr (ih _ _)

theorem RowsRel.renderRows (iw : Nat) : ∀ {l l' : List Row}, RowsRel l l' → renderRows iw l = Emboss.Fmt.renderRows iw l' := by
  intro l l' h
  induction h with
  | nil => rfl
  | @cons r r' rest rest' hr _ ih =>
    have h1 : renderRow iw r = renderRow iw r' := by
      simp only [renderRow, hr.cols.length_eq, hr.indent, rstrip_append_congr _ hr.cols.flatten.1]
    simp only [Emboss.Fmt.renderRows, h1, ih]

/-- The number of header columns of each kind of block. -/
def ncols : RowName → Nat
  | .field => 7
  | .enumValue => 6
  | .virtualField => 1
  | _ => 0

structure BlockRel (b b' : Block) : Prop where
  pre : RowsRel b.pre b'.pre
  header : RowRel b.header b'.header
  body : RowsRel b.body b'.body
  nc : b.header.columns.length = ncols b.header.name

abbrev BlocksRel := All₂ BlockRel

theorem BlockRel.indentBlock {b b' : Block} (h : BlockRel b b') : BlockRel (indentBlock b) (indentBlock b') :=
  ⟨h.pre.indentRows, h.header.indentRow, h.body.indentRows, h.nc⟩

theorem BlocksRel.indentBlocks {l l' : List Block} (h : BlocksRel l l') : BlocksRel (indentBlocks l) (indentBlocks l') :=
  All₂.map indentBlock (fun _ _ hab => BlockRel.indentBlock hab) h

theorem BlockRel.nonEmptyLines {b b' : Block} (h : BlockRel b b') : nonEmptyLines b = nonEmptyLines b' :=
  All₂.filter_length _ (fun _ _ hr => by rw [hr.colsEmpty]) (h.body.append h.pre)

theorem BlocksRel.map_nonEmptyLines {l l' : List Block} (h : BlocksRel l l') :
    l.map nonEmptyLines = l'.map nonEmptyLines := by
  induction h with
  | nil => rfl
  | cons hab _ ih => simp only [List.map_cons, hab.nonEmptyLines, ih]

theorem shouldAddBlankLines_eq (l : List Block) :
    shouldAddBlankLines l =
      decide (((l.map nonEmptyLines).length : Int) ≤ ((l.map nonEmptyLines).sum : Int) -
        (((l.map nonEmptyLines).getLast?.getD 0 : Nat) : Int)) := by
  unfold shouldAddBlankLines
  simp only [List.length_map, List.getLast?_map]
  cases l.getLast? <;> rfl

theorem BlocksRel.shouldAddBlankLines {l l' : List Block} (h : BlocksRel l l') :
    shouldAddBlankLines l = Emboss.Fmt.shouldAddBlankLines l' := by
  rw [shouldAddBlankLines_eq, shouldAddBlankLines_eq, h.map_nonEmptyLines]

open Emboss.FmtTok (widthStep colWidth_eq_foldl padWidth padCols_cons)

theorem widthStep_rel (iw ic : Nat) {name : RowName} {i : Nat} (hi : i + 1 < ncols name) (m : Nat)
    {b b' : Block} (hb : BlockRel b b') : widthStep iw ic name i m b = widthStep iw ic name i m b' := by
  unfold widthStep
  rw [← hb.header.name, ← hb.header.indent]
  split
  · rename_i hn
    rw [hb.header.cols.getElem?_eq i (by rw [hb.nc, hn]; exact hi)]
  · rfl

theorem colWidth_eq {l l' : List Block} (h : BlocksRel l l') (iw ic : Nat) (name : RowName) (i : Nat)
    (hi : i + 1 < ncols name) : colWidth l iw ic name i = colWidth l' iw ic name i := by
  rw [colWidth_eq_foldl, colWidth_eq_foldl]
  generalize 0 = m
  induction h generalizing m with
  | nil => rfl
  | cons hb _ ih => rw [List.foldl_cons, List.foldl_cons, widthStep_rel iw ic hi m hb, ih]

theorem padCols_rel {l l' : List Block} (hb : BlocksRel l l') (iw ic : Nat) (h h' : Row)
    (hn : h.name = h'.name) (hi : h.indent = h'.indent) {cs cs' : List Str} :
    ColsRel cs cs' → ∀ (i : Nat), i + cs.length = ncols h.name →
      rstrip (padCols l iw ic h i cs).flatten = rstrip (padCols l' iw ic h' i cs').flatten := by
  fun_induction ColsRel cs cs' with
  | case1 => intro _ _ _; rfl
  | case2 c c' =>
    intro hc i _
    simp only [padCols, List.flatten_cons, List.flatten_nil, List.append_nil, ljust_eq]
    rw [rstrip_append_spaces, rstrip_append_spaces]
    exact hc.1
  | case3 c d cs c' d' cs' ih =>
    rintro ⟨rfl, h2⟩ i hlen
    have hw : padWidth l iw ic h i = padWidth l' iw ic h' i := by
      unfold padWidth
      rw [← hn, ← hi, colWidth_eq hb iw ic h.name i (by rw [← hlen, List.length_cons, List.length_cons]; omega)]
    rw [padCols_cons l iw ic h i c (d :: cs), padCols_cons l' iw ic h' i c (d' :: cs'), hw,
      List.flatten_cons, List.flatten_cons]
    exact rstrip_append_congr _ (ih h2 (i + 1) (by rw [← hlen, List.length_cons (a := c)]; omega))
  | case4 => exact False.elim

theorem columnizeBlock_rel {l l' : List Block} (hb : BlocksRel l l') (iw ic : Nat) {b b' : Block}
    (h : BlockRel b b') : RowsRel (columnizeBlock l iw ic b) (columnizeBlock l' iw ic b') := by
  unfold columnizeBlock
  refine (h.pre.append (All₂.cons ?_ All₂.nil)).append h.body
  refine ⟨h.header.name, h.header.indent, ?_⟩
  show CRel (rstrip _) (rstrip _)
  rw [padCols_rel hb iw ic b.header b'.header h.header.name h.header.indent h.header.cols 0
    (by rw [h.nc, Nat.zero_add])]
  exact CRel.refl _

theorem headerNames_rel {l l' : List Block} (h : BlocksRel l l') : headerNames l = headerNames l' := by
  induction h with
  | nil => rfl
  | cons hab _ ih => simp only [headerNames, ih, hab.header.name]

theorem columnize_rel {l l' : List Block} (h : BlocksRel l l') (iw ic : Nat) :
    ORel (All₂ RowsRel) (columnize l iw ic) (columnize l' iw ic) := by
  unfold columnize
  rw [← headerNames_rel h]
  split
  · exact All₂.map₂ _ _ (fun _ _ hab => columnizeBlock_rel h iw ic hab) h
  · trivial

end Emboss.Fmt
