/-
Helper lemmas for C06 (reader ∘ writer), scalar leaves: `ReadIntegerFromTextStream`,
`ReadBooleanFromTextStream`, `ReadEnumViewFromTextStream` (model `readScalar`) applied at a
cursor that sees `writeScalar`'s pieces yield the leaf's value and leave the cursor behind them.
Uses the integer codec round trip (`decodeInt_writeInt_any`).
-/
import Emboss.Lemmas.TextCursor
import Emboss.Spec.TextRound
namespace Emboss.Text
open Spec

theorem wrap_eq (m v : Int) (sg : Bool) (hlo : (if sg then -(m / 2) else 0) ≤ v)
    (hhi : v ≤ (if sg then m / 2 else m) - 1) :
    (if (sg && decide (v % m ≥ m / 2)) = true then v % m - m else v % m) = v := by
  cases sg
  · exact Int.emod_eq_of_lt hlo (by simp only [Bool.false_eq_true, if_false] at hhi; omega)
  · simp only [if_true, Bool.true_and, decide_eq_true_eq] at hlo hhi ⊢
    by_cases h0 : 0 ≤ v
    · rw [Int.emod_eq_of_lt h0 (by omega), if_neg (by omega)]
    · have : v % m = v + m := by
        rw [← Int.add_emod_right, Int.emod_eq_of_lt (by omega) (by omega)]
      rw [this, if_pos (by omega)]
      omega

theorem wrapTo_inRange (T : IntTy) (v : Int) (h : T.InRange v) : wrapTo T v = v :=
  wrap_eq (2 ^ T.bits) v T.signed (T.minVal_eq ▸ h.1) (T.maxVal_eq ▸ h.2)

/-- What `ReadEnumViewFromTextStream` makes of a number written for the enum's own type. -/
theorem decode_enum_number (T : IntTy) (v : Int) (base : Base) (g : Bool) (hx : T.InRange v)
    (e : Option Int) :
    ∃ c cs, writeInt T v base g = c :: cs ∧
      (if isDigitChar c then (decodeInt .u64 (c :: cs)).map (wrapTo T)
        else if c = '-' then (decodeInt .i64 (c :: cs)).map (wrapTo T)
        else e) = some v := by
  obtain ⟨c, cs, hw, _, hneg, hpos⟩ := writeInt_head T v base g
  refine ⟨c, cs, hw, ?_⟩
  rw [← hw]
  by_cases hn : v < 0
  · cases hneg hn
    rw [if_neg (by decide), if_pos rfl, decodeInt_writeInt_any T .i64 v base g (inRange_i64 T v hx hn),
      Option.map_some, wrapTo_inRange T v hx]
  · rw [if_pos (hpos (by omega)), decodeInt_writeInt_any T .u64 v base g (inRange_u64 T v hx (by omega)),
      Option.map_some, wrapTo_inRange T v hx]

theorem toks_numberComment (T : IntTy) (v : Int) (b : Base) (g : Bool) :
    toks (numberComment T v b g) = [] := rfl

theorem readScalar_word (o : Opts) (s : Scalar) (rs : RScalar) (path r r' : List Char) (hs : s.WF)
    (hm : ScalarMatches rs s) (hread : readToken r = (scalarWord o s, r')) :
    readScalar rs path r = .ok [(path, s.written)] r' := by
  have hw := scalarWord_valid o s hs
  rcases s with ⟨T, v⟩ | b | ⟨_ | n, T, v⟩ | t <;> cases rs <;> try exact hm.elim
  · obtain ⟨rfl, hr, hlo, hhi⟩ := hm
    have hne : writeInt T v o.base o.grouping ≠ [] := hw.1
    simp [readScalar, hread, scalarWord, hne, decodeInt_writeInt_any T T v o.base o.grouping hr, hlo, hhi,
      Scalar.written]
  · cases b <;> simp [readScalar, hread, scalarWord, Scalar.written]
  · obtain ⟨rfl, hr, hlo, hhi⟩ := hm
    rename_i names _ _
    obtain ⟨c, cs, hw', hval⟩ := decode_enum_number T v o.base o.grouping hr
      (lookupName names (writeInt T v o.base o.grouping))
    simp only [scalarWord, hw'] at hread
    rw [hw'] at hval
    simp only [readScalar, hread, hval]
    simp [hlo, hhi, Scalar.written]
  · obtain ⟨rfl, hnl, hlk, hlo, hhi⟩ := hm
    cases n with
    | nil => exact absurd rfl hw.1
    | cons c cs =>
      obtain ⟨hd, hm'⟩ : isDigitChar c = false ∧ c ≠ '-' := hnl
      simp only [scalarWord] at hread
      simp only [readScalar, hread, hd, hm', if_false, Bool.false_eq_true, hlk]
      simp [hlo, hhi, Scalar.written]
  · simp [readScalar, hread, scalarWord, (show ValidWord t from hs).1, Scalar.written]

theorem read_scalar (o : Opts) (s : Scalar) (rs : RScalar) (path r : List Char) (k : Kind)
    (R : List Piece) (hs : s.WF) (hm : ScalarMatches rs s) (h : At r k (writeScalar o s ++ R)) :
    ∃ r', readScalar rs path r = .ok [(path, s.written)] r' ∧
      At r' (lastKind k (writeScalar o s)) R := by
  obtain ⟨c, heq, hc⟩ := writeScalar_eq o s
  rw [heq] at h ⊢
  obtain ⟨hread, _, hat⟩ := h.word
  exact ⟨_, readScalar_word o s rs path r _ hs hm hread,
    hat.skip (a := c) (by rcases hc with rfl | ⟨_, _, _, _, _, rfl⟩ <;> rfl)⟩

end Emboss.Text
