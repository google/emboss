/-
C13, expression level: `tc` accepts `e` with type `τ` iff `HasType true e τ`.  Each compound node is
described twice in one shape (`hasType_*` for the rules, `*_ok` for the checker), so the induction
(along `kids`) is a rewrite.
-/
import Emboss.Spec.Types
namespace Emboss.Types

theorem tcList_tys (file : FileId) (es : List Expr) :
    (tcList file es).tys = es.map fun e => (tc file e).ty := by
  induction es with
  | nil => rfl
  | cons e es ih => simp only [tcList, ih, List.map_cons]

theorem tcList_errs (file : FileId) (es : List Expr) :
    (tcList file es).errs = es.flatMap fun e => (tc file e).errs := by
  induction es with
  | nil => rfl
  | cons e es ih => simp only [tcList, ih, List.flatMap_cons]

theorem argErr_nil {file : FileId} {want : Ty} {i : Nat} {a : Expr} {t : Ty} :
    argErr file want i a t = [] ↔ t = want := by
  unfold argErr; split <;> simp [*]

theorem cmpAcc_not_none {op : BinOp} : cmpAcceptable op .none = false := by
  cases op <;> rfl

/-- what `f` asks of one argument `a` of type `σ` -/
def Fn.argOk (f : Fn) (a : Expr) (σ : Ty) : Prop :=
  if f = .present then a.isFieldRef = true else σ = .int

theorem fnArgErrs_nil (file : FileId) (f : Fn) (g : Expr → Ty) : ∀ (i : Nat) (args : List Expr),
    fnArgErrs file f i args (args.map g) = [] ↔ ∀ a ∈ args, f.argOk a (g a)
  | _, [] => by simp [fnArgErrs]
  | i, a :: as => by
    simp only [List.map_cons, fnArgErrs, List.append_eq_nil_iff, fnArgErrs_nil file f g (i + 1) as,
      List.mem_cons, forall_eq_or_imp]
    cases f <;> simp [argErr_nil, Fn.argOk]

theorem BinOp.table (op : BinOp) :
    (op.isArith ↔ op.isCmp = false ∧ op.mono = .int) ∧ (op.isLogic ↔ op.isCmp = false ∧ op.mono = .bool) ∧
    (op.isEq ↔ op.isCmp = true ∧ op.isEquality = true) ∧ (op.isOrd ↔ op.isCmp = true ∧ op.isEquality = false) := by
  cases op <;> simp [BinOp.isArith, BinOp.isLogic, BinOp.isEq, BinOp.isOrd, BinOp.isCmp, BinOp.mono, BinOp.isEquality]

theorem BinOp.mono_cases (op : BinOp) : op.mono = .int ∨ op.mono = .bool := by
  cases op <;> decide

theorem cmpAcceptable_iff {op : BinOp} {σ : Ty} : cmpAcceptable op σ = true ↔
    if op.isEquality = true then σ.isValue = true else σ = .int ∨ ∃ n, σ = .enum n := by
  unfold cmpAcceptable
  split
  · rfl
  · cases σ <;> simp

/-- the operator table in the shape both `hasType_bin` and `bin_ok` use: operands of one type `σ`, result `τ`;
`coded` admits ordering on enums -/
def BinRule (coded : Bool) (op : BinOp) (σ τ : Ty) : Prop :=
  (op.isCmp = false ∧ σ = op.mono ∧ τ = op.mono) ∨
  (op.isCmp = true ∧ τ = .bool ∧
    if op.isEquality = true then σ.isValue = true else σ = .int ∨ coded = true ∧ ∃ n, σ = .enum n)

theorem hasType_bin {c : Bool} {l op a b τ} :
    HasType c (.bin l op a b) τ ↔ ∃ σ, HasType c a σ ∧ HasType c b σ ∧ BinRule c op σ τ := by
  have ⟨t1, t2, t3, t4⟩ := op.table
  constructor
  · intro h
    cases h with
    | arith ho ha hb =>
      have ⟨hc, hm⟩ := t1.1 ho
      exact ⟨_, ha, hb, .inl ⟨hc, hm.symm, hm.symm⟩⟩
    | logic ho ha hb =>
      have ⟨hc, hm⟩ := t2.1 ho
      exact ⟨_, ha, hb, .inl ⟨hc, hm.symm, hm.symm⟩⟩
    | equal ho hv ha hb =>
      have ⟨hc, he⟩ := t3.1 ho
      exact ⟨_, ha, hb, .inr ⟨hc, rfl, by rwa [if_pos he]⟩⟩
    | order ho ha hb =>
      have ⟨hc, he⟩ := t4.1 ho
      exact ⟨_, ha, hb, .inr ⟨hc, rfl, by rw [he]; exact .inl rfl⟩⟩
    | orderEnum hcd ho ha hb =>
      have ⟨hc, he⟩ := t4.1 ho
      exact ⟨_, ha, hb, .inr ⟨hc, rfl, by rw [he]; exact .inr ⟨hcd, _, rfl⟩⟩⟩
  · rintro ⟨σ, ha, hb, ⟨hc, rfl, rfl⟩ | ⟨hc, rfl, h⟩⟩
    · rcases op.mono_cases with hm | hm <;> rw [hm] at ha hb ⊢
      · exact .arith (t1.2 ⟨hc, hm⟩) ha hb
      · exact .logic (t2.2 ⟨hc, hm⟩) ha hb
    · cases he : op.isEquality <;> simp only [he, if_true, Bool.false_eq_true, if_false] at h
      · rcases h with rfl | ⟨hcd, n, rfl⟩
        · exact .order (t4.2 ⟨hc, he⟩) ha hb
        · exact .orderEnum hcd (t4.2 ⟨hc, he⟩) ha hb
      · exact .equal (t3.2 ⟨hc, he⟩) h ha hb

theorem hasType_choice {cd : Bool} {l c t f τ} : HasType cd (.choice l c t f) τ ↔
    HasType cd c .bool ∧ τ.isValue = true ∧ HasType cd t τ ∧ HasType cd f τ :=
  ⟨fun h => by cases h with | choice hc hv ht hf => exact ⟨hc, hv, ht, hf⟩,
   fun ⟨hc, hv, ht, hf⟩ => .choice hc hv ht hf⟩

theorem hasType_fn {c : Bool} {l f args τ} : HasType c (.fn l f args) τ ↔
    f.arityOk args.length = true ∧ τ = f.result ∧ ∀ a ∈ args, ∃ σ, HasType c a σ ∧ f.argOk a σ := by
  constructor
  · intro h
    cases h with
    | max hne hall => exact ⟨by cases args <;> simp_all [Fn.arityOk], rfl, fun a ha => ⟨_, hall a ha, rfl⟩⟩
    | present hf ha => exact ⟨rfl, rfl, List.forall_mem_singleton.2 ⟨_, ha, hf⟩⟩
    | upper ha | lower ha => exact ⟨rfl, rfl, List.forall_mem_singleton.2 ⟨_, ha, rfl⟩⟩
  · rintro ⟨har, rfl, h⟩
    cases f with
    | max => exact .max (by rintro rfl; cases har) fun a ha => by obtain ⟨_, h, rfl⟩ := h a ha; exact h
    | present =>
      obtain ⟨a, rfl⟩ := List.length_eq_one_iff.1 (of_decide_eq_true har)
      obtain ⟨_, ha, hf⟩ := h a List.mem_cons_self
      exact .present hf ha
    | upper | lower =>
      obtain ⟨a, rfl⟩ := List.length_eq_one_iff.1 (of_decide_eq_true har)
      obtain ⟨_, ha, rfl⟩ := h a List.mem_cons_self
      constructor
      exact ha

theorem bin_ok (file : FileId) (l : Loc) (op : BinOp) (a b : Expr) (τ : Ty) :
    Ok (tc file (.bin l op a b)) τ ↔
      ∃ σ, Ok (tc file a) σ ∧ Ok (tc file b) σ ∧ BinRule true op σ τ := by
  simp only [tc, Ok, BinRule, true_and, ← cmpAcceptable_iff]
  cases hc : op.isCmp
  · simp only [Bool.false_eq_true, if_false, List.append_eq_nil_iff, argErr_nil, true_and, false_and,
      or_false]
    constructor
    · rintro ⟨⟨⟨⟨ea, eb⟩, ha⟩, hb⟩, rfl⟩
      exact ⟨_, ⟨ea, ha⟩, ⟨eb, hb⟩, rfl, rfl⟩
    · rintro ⟨_, ⟨ea, ha⟩, ⟨eb, hb⟩, rfl, rfl⟩
      exact ⟨⟨⟨⟨ea, eb⟩, ha⟩, hb⟩, rfl⟩
  · simp only [if_true, reduceCtorEq, false_and, false_or, true_and]
    constructor
    · intro h
      split at h
      · simp at h
      · split at h
        · simp at h
        · rename_i hacc _
          simp only [List.append_eq_nil_iff, ite_eq_left_iff, reduceCtorEq, imp_false, Decidable.not_not] at h
          obtain ⟨⟨⟨ea, eb⟩, hab⟩, rfl⟩ := h
          exact ⟨_, ⟨ea, rfl⟩, ⟨eb, hab.symm⟩, rfl, by simpa using hacc⟩
    · rintro ⟨σ, ⟨ea, rfl⟩, ⟨eb, hb⟩, rfl, hacc⟩
      simp [hacc, hb, ea, eb]

theorem choice_ok (file : FileId) (l : Loc) (c t f : Expr) (τ : Ty) :
    Ok (tc file (.choice l c t f)) τ ↔
      Ok (tc file c) .bool ∧ τ.isValue = true ∧ Ok (tc file t) τ ∧ Ok (tc file f) τ := by
  simp only [tc, Ok]
  cases hv : (tc file t).ty.isValue
  · exact ⟨fun h => by simp at h, fun ⟨_, hτ, ⟨_, ht⟩, _⟩ => by rw [← ht, hv] at hτ; cases hτ⟩
  · simp only [Bool.not_true, Bool.false_eq_true, if_false, List.append_eq_nil_iff, ite_eq_left_iff,
      reduceCtorEq, imp_false, Decidable.not_not]
    constructor
    · rintro ⟨⟨⟨⟨⟨ec, et⟩, ef⟩, hc⟩, htf⟩, rfl⟩
      exact ⟨⟨ec, hc⟩, hv, ⟨et, rfl⟩, ef, htf.symm⟩
    · rintro ⟨⟨ec, hc⟩, _, ⟨et, rfl⟩, ef, hf⟩
      exact ⟨⟨⟨⟨⟨ec, et⟩, ef⟩, hc⟩, hf.symm⟩, rfl⟩

theorem fn_ok (file : FileId) (l : Loc) (f : Fn) (args : List Expr) (τ : Ty) :
    Ok (tc file (.fn l f args)) τ ↔
      f.arityOk args.length = true ∧ τ = f.result ∧ ∀ a ∈ args, ∃ σ, Ok (tc file a) σ ∧ f.argOk a σ := by
  -- the point is `fnArgErrs_nil`
  simp only [tc, Ok, tcList_errs, tcList_tys, List.append_eq_nil_iff, List.flatMap_eq_nil_iff,
    fnArgErrs_nil, ite_eq_left_iff, reduceCtorEq, imp_false, Bool.not_eq_true, Bool.not_eq_false,
    and_assoc, exists_and_left, exists_eq_left', forall_and]
  exact ⟨fun ⟨he, ha, har, ht⟩ => ⟨har, ht.symm, he, ha⟩, fun ⟨har, ht, he, ha⟩ => ⟨he, ha, har, ht.symm⟩⟩

/-- pointwise typing of an argument list. -/
inductive AllTyped (c : Bool) : List Expr → List Ty → Prop
  | nil : AllTyped c [] []
  | cons {e es τ τs} : HasType c e τ → AllTyped c es τs → AllTyped c (e :: es) (τ :: τs)

theorem hasType_ne_none {c : Bool} {e : Expr} {τ : Ty} (h : HasType c e τ) : τ ≠ .none := by
  induction h with
  | lparam => rename_i t; cases t <;> simp [DTy.toTy]
  | lphys => rename_i t; cases t <;> simp [DTy.toTy]
  | choice _ hv _ _ _ iht _ => exact iht
  | lvirt _ ih => exact ih
  | cvirt _ ih => exact ih
  | _ => simp

/-- immediate constituents, each with the file it is written in (a referenced virtual field: its definition) -/
def kids (file : FileId) : Expr → List FExpr
  | .cvirt _ df d | .lvirt _ df d => [(df, d)]
  | .bin _ _ a b => [(file, a), (file, b)]
  | .choice _ c t f => [(file, c), (file, t), (file, f)]
  | .fn _ _ args => args.map fun a => (file, a)
  | _ => []

theorem kids_induction {P : FileId → Expr → Prop}
    (step : ∀ file e, (∀ k ∈ kids file e, P k.1 k.2) → P file e) (file : FileId) (e : Expr) : P file e := by
  revert file
  -- the recursor of the nested inductive has a motive for argument lists; there `induction` introduces all binders
  induction e using Expr.rec (motive_2 := fun es => ∀ file : FileId, ∀ a ∈ es, P file a) with
  | cvirt _ df d ih | lvirt _ df d ih => exact fun _ => step _ _ (List.forall_mem_singleton.2 (ih df))
  | bin _ _ a b iha ihb =>
    exact fun file => step _ _ (List.forall_mem_cons.2 ⟨iha file, List.forall_mem_singleton.2 (ihb file)⟩)
  | choice _ c t f ihc iht ihf =>
    exact fun file => step _ _ (List.forall_mem_cons.2
      ⟨ihc file, List.forall_mem_cons.2 ⟨iht file, List.forall_mem_singleton.2 (ihf file)⟩⟩)
  | fn _ _ args ih => exact fun file => step _ _ (List.forall_mem_map.2 (ih file))
  | nil => exact nomatch ‹_ ∈ []›
  | cons e es ihe ihes => exact List.forall_mem_cons.2 ⟨ihe _, ihes _⟩ _ ‹_›
  | _ => exact fun _ => step _ _ fun _ h => nomatch h

theorem tc_iff (e : Expr) (file : FileId) (τ : Ty) : Ok (tc file e) τ ↔ HasType true e τ := by
  induction file, e using kids_induction generalizing τ with
  | step file e ih =>
    match e with
    | .num _ | .boolc _ | .enumv _ _ | .lparamArr _ | .lparam _ _ | .lphys _ _
    | .builtin _ .isStaticallySized | .builtin _ .staticSizeInBits =>
      simp only [tc, Res.pure, Ok, true_and]
      exact ⟨fun h => h ▸ by constructor, fun h => by cases h; rfl⟩
    | .cphys _ _ _ | .cother _ | .builtin _ .other =>
      simp only [tc, Ok]
      exact ⟨fun h => by simp at h, fun h => by cases h⟩
    | .cvirt l df d =>
      have ih := ih (df, d) List.mem_cons_self τ
      simp only [tc]
      exact ⟨fun h => .cvirt (ih.1 h), fun h => by cases h with | cvirt hd => exact ih.2 hd⟩
    | .lvirt l df d =>
      have ih := ih (df, d) List.mem_cons_self τ
      simp only [tc]
      exact ⟨fun h => .lvirt (ih.1 h), fun h => by cases h with | lvirt hd => exact ih.2 hd⟩
    | .bin l op a b =>
      have ⟨iha, ih⟩ := List.forall_mem_cons.1 ih
      have ihb := List.forall_mem_singleton.1 ih
      simp only [bin_ok, hasType_bin, iha, ihb]
    | .choice l c t f =>
      have ⟨ihc, ih⟩ := List.forall_mem_cons.1 ih
      have ⟨iht, ih⟩ := List.forall_mem_cons.1 ih
      have ihf := List.forall_mem_singleton.1 ih
      simp only [choice_ok, hasType_choice, ihc, iht, ihf]
    | .fn l f args =>
      rw [fn_ok, hasType_fn]
      exact and_congr Iff.rfl (and_congr Iff.rfl (forall₂_congr fun a ha => by
        simp only [List.forall_mem_map.1 ih a ha]))

theorem tcList_iff (es : List Expr) :
    ∀ (file : FileId) τs, ((tcList file es).errs = [] ∧ (tcList file es).tys = τs) ↔ AllTyped true es τs :=
  match es with
  | [] => fun file τs => by
    simp only [tcList, true_and]
    exact ⟨fun h => h ▸ .nil, fun h => by cases h; rfl⟩
  | e :: es => fun file τs => by
    simp only [tcList, List.append_eq_nil_iff]
    constructor
    · rintro ⟨⟨e1, e2⟩, rfl⟩
      exact .cons ((tc_iff e file _).1 ⟨e1, rfl⟩) ((tcList_iff es file _).1 ⟨e2, rfl⟩)
    · rintro (_ | ⟨h1, h2⟩)
      obtain ⟨e1, rfl⟩ := (tc_iff e file _).2 h1
      obtain ⟨e2, rfl⟩ := (tcList_iff es file _).2 h2
      exact ⟨⟨e1, e2⟩, rfl⟩

theorem tc_none_err {e : Expr} {file : FileId} (h : (tc file e).ty = .none) : (tc file e).errs ≠ [] :=
  fun he => hasType_ne_none ((tc_iff e file _).1 ⟨he, rfl⟩) h

theorem hasType_ty {e : Expr} {file : FileId} {τ : Ty} (h : HasType true e τ) : (tc file e).ty = τ :=
  ((tc_iff e file τ).2 h).2

/-- by `tc_iff` the type is what `tc` computes, under any file -/
theorem hasType_unique {e : Expr} {σ τ : Ty} (hσ : HasType true e σ) (hτ : HasType true e τ) : σ = τ :=
  (hasType_ty (file := 0) hσ).symm.trans (hasType_ty hτ)

theorem hasType_mono {e : Expr} {τ : Ty} (h : HasType false e τ) : HasType true e τ := by
  induction h with
  | arith ho _ _ iha ihb => exact .arith ho iha ihb
  | logic ho _ _ iha ihb => exact .logic ho iha ihb
  | equal ho hv _ _ iha ihb => exact .equal ho hv iha ihb
  | order ho _ _ iha ihb => exact .order ho iha ihb
  | orderEnum hc => cases hc
  | _ => constructor <;> assumption

theorem hasType_false_ord_enum {l op a b n τ} (ho : op.isOrd) (ha : HasType false a (.enum n)) :
    ¬ HasType false (.bin l op a b) τ := by
  intro h
  obtain ⟨σ, ha', _, hr⟩ := hasType_bin.1 h
  have hσ : σ = .enum n := hasType_unique (hasType_mono ha') (hasType_mono ha)
  have ⟨hc, he⟩ := op.table.2.2.2.1 ho
  simp [BinRule, hc, he, hσ] at hr

end Emboss.Types
