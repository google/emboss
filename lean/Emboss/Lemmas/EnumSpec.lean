/- Bridges between `find?` over the value list and the declarative spec of C19. -/
import Emboss.Lemmas.EnumSem
import Emboss.Spec.Enum
namespace Emboss.Enum

theorem find_name_iff (vs : List Value) (hn : (vs.map (·.name)).Nodup) (n : Name) (x : Int) :
    (vs.find? (fun v => v.name == n)).map (·.value) = some x ↔
      (n, x) ∈ vs.map (fun v => (v.name, v.value)) := by
  rw [← lookup_iff_mem _ (by simpa [Function.comp_def] using hn)]
  simp [lookup, List.find?_map, Function.comp_def]

theorem firstNameOf_iff (decl : List (Name × Int)) (x : Int) (n : Name) :
    Spec.FirstNameOf decl x n ↔ decl.find? (fun p => p.2 == x) = some (n, x) := by
  simp only [Spec.FirstNameOf, List.find?_eq_some_iff_append, beq_self_eq_true, true_and,
    Bool.not_eq_true', beq_eq_false_iff_ne]

theorem first_iff (vs : List Value) (x : Int) (n : Name) :
    (vs.find? (fun v => v.value == x)).map (·.name) = some n ↔
      Spec.FirstNameOf (vs.map (fun v => (v.name, v.value))) x n := by
  rw [firstNameOf_iff, List.find?_map]
  show _ ↔ (vs.find? (fun v => v.value == x)).map _ = _
  cases h : vs.find? (fun v => v.value == x) with
  | none => simp
  | some v =>
    have hv : v.value = x := beq_iff_eq.mp (List.find?_some (p := fun v : Value => v.value == x) h)
    simp [hv]

theorem known_iff (d : Def) (x : Int) : Spec.Known d.declared x ↔ ∃ v ∈ d.values, v.value = x := by
  simp only [Spec.Known, Def.declared, List.mem_map, Prod.mk.injEq]
  exact ⟨fun ⟨_, v, hv, _, h⟩ => ⟨v, hv, h⟩, fun ⟨v, hv, h⟩ => ⟨_, v, hv, rfl, h⟩⟩

end Emboss.Enum
