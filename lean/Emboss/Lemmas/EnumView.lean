/- Lemmas for C19, `EnumView` over a bit field: a value of the type can be written exactly when its
image in the unsigned counterpart of the type fits the field (conversion only sees a value modulo
`2^bits`: `wrap_emod`, `emod_wrap` in Lemmas/CppInt.lean); reading sees the raw bits at the width of
the type. -/
import Emboss.Lemmas.CppInt
import Emboss.Model.Enum
import Emboss.Spec.Enum
namespace Emboss.Enum
open Emboss.CppInt

theorem toBitViewValue_eq (ty : IntTy) (bvt : Nat) (v : Int) :
    toBitViewValue ty bvt v = v % pow2 ty.bits % pow2 bvt := by
  simp [toBitViewValue, wrap]

theorem viewCouldWrite_iff (ty : IntTy) (bvt w : Nat) (v : Int) (hb : 0 < ty.bits) (hwb : w ≤ bvt)
    (hv : ty.holds v = true) :
    viewCouldWrite ty bvt w v = true ↔ v % pow2 ty.bits < pow2 w := by
  have pm := pow2_pos ty.bits
  have pb := pow2_pos bvt
  have mwb : pow2 w ≤ pow2 bvt := pow2_mono hwb
  have u0 := Int.emod_nonneg v (Int.ne_of_gt pm)
  have b0 := Int.emod_nonneg (v % pow2 ty.bits) (Int.ne_of_gt pb)
  have bU := emod_le_self u0 pb
  have bP := Int.emod_lt_of_pos (v % pow2 ty.bits) pb
  simp only [viewCouldWrite, toBitViewValue_eq, Bool.and_eq_true, Bool.or_eq_true, decide_eq_true_eq]
  constructor
  · rintro ⟨h1, h2⟩
    -- modulo `2^bits` the first clause says `U = B mod 2^bits ≤ B ≤ U` for `B = U mod 2^bvt`
    have h3 := congrArg (· % pow2 ty.bits) h1
    simp only [emod_wrap] at h3
    have := emod_le_self b0 pm
    rcases h2 with rfl | h2 <;> omega
  · intro h
    rw [Int.emod_eq_of_lt u0 (by omega), wrap_emod, wrap_of_holds ty v hb hv]
    exact ⟨rfl, .inr h⟩

theorem viewWriteBits_eq (ty : IntTy) (bvt w : Nat) (v : Int) (hwb : w ≤ bvt)
    (h : v % pow2 ty.bits < pow2 w) : (viewWriteBits ty bvt w v : Int) = v % pow2 ty.bits := by
  have u0 := Int.emod_nonneg v (Int.ne_of_gt (pow2_pos ty.bits))
  have mwb : pow2 w ≤ pow2 bvt := pow2_mono hwb
  rw [viewWriteBits, toBitViewValue_eq, Int.emod_eq_of_lt u0 (by omega), Int.emod_eq_of_lt u0 h]
  omega

theorem viewReadTextNumber_eq (ty : IntTy) (bvt w : Nat) (v : Int) (hb0 : 0 < ty.bits)
    (hb64 : ty.bits ≤ 64) (hwb : w ≤ bvt) (hv : ty.holds v = true) (h : v % pow2 ty.bits < pow2 w) :
    viewReadTextNumber ty bvt w v = some (v % pow2 ty.bits).toNat := by
  have hr := holds_le_64 ty v hb64 hv
  have hdec : (if 0 ≤ v then decide (v < pow2 64) else decide (-(pow2 63) ≤ v)) = true := by
    rw [pow2_63, pow2_64]
    split <;> simp only [decide_eq_true_eq] <;> omega
  simp only [viewReadTextNumber, hdec, if_true, wrap_of_holds ty v hb0 hv,
    (viewCouldWrite_iff ty bvt w v hb0 hwb hv).mpr h, ← viewWriteBits_eq ty bvt w v hwb h, Int.toNat_natCast]

theorem viewRead_eq (ty : IntTy) (raw : Nat) (h : (raw : Int) < pow2 ty.bits) :
    viewRead ty raw = Spec.FieldValue ty.signed ty.bits raw := by
  simp only [viewRead, wrap, Int.emod_eq_of_lt (Int.natCast_nonneg raw) h, Spec.FieldValue,
    Bool.and_eq_true, decide_eq_true_eq]
  rfl

end Emboss.Enum
