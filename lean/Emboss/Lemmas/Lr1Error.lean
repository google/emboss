/-
Error position.  (1) Every item of the state on top of a `Linked` stack is *grounded*: whatever
its remaining right-hand side derives after the stack's yield can be continued to a sentence
(needs all nonterminals productive; by induction on the stack, nothing is carried along the
run) — so the consumed input `w[:i]` at an error is a viable prefix.
(2) Runs on two inputs that agree up to position `i` are in lock-step up to an error at `i`; with
completeness, no sentence starts with `w[:i+1]`.
-/
import Emboss.Lemmas.Lr1Complete
namespace Emboss.Lr1

variable {G : Grammar} {A : Automaton} {C : Cert}

/-! ### productivity -/

theorem sym_productive (hr : Reduced G) {x : Nat} (hx : x ≠ G.startPrime) : Productive G x := by
  cases hnt : G.isNT x with
  | false => exact .of_terminal hnt
  | true =>
    obtain ⟨p, hp, rfl⟩ := Grammar.isNT_iff.mp hnt
    rcases List.mem_append.mp hp with hp | hp
    · exact hr.1 p hp
    · simp only [List.mem_singleton] at hp
      subst hp; exact absurd rfl hx

/-! ### grounded items -/

/-- whatever `β` derives right after `pre` can be continued to a sentence -/
def Ext (G : Grammar) (pre : List Token) (β : List Nat) : Prop :=
  ∀ cs : List Tree, (∀ c ∈ cs, ParseTree G c) → cs.map Tree.root = β →
    ViablePrefix G (pre ++ Tree.yieldL cs)

/-- any tree rooted `x` right after `pre` can be continued to a sentence -/
def ExtSym (G : Grammar) (pre : List Token) (x : Nat) : Prop :=
  ∀ t, ParseTree G t → t.root = x → ViablePrefix G (pre ++ t.yield)

/-- a tree rooted in the first symbol moves from the string to the prefix -/
theorem Ext.cons {pre : List Token} {β : List Nat} {t : Tree} (ht : ParseTree G t)
    (he : Ext G pre (t.root :: β)) : Ext G (pre ++ t.yield) β := fun cs hcs hm => by
  simpa [Tree.yieldL, List.append_assoc] using
    he (t :: cs) (List.forall_mem_cons.mpr ⟨ht, hcs⟩) (by rw [List.map_cons, hm])

theorem Ext.viable (hv : Valid G A C) (hr : Reduced G) {pre : List Token} {i k : Nat} {q : Rule}
    (hq : C.ruleAt i = some q) (he : Ext G pre (q.rhs.drop k)) : ViablePrefix G pre := by
  obtain ⟨cs, hcs, hm⟩ := Productive.forest (q.rhs.drop k) fun y hy => sym_productive hr
    (Grammar.rhs_ne_startPrime hv.start_ne_startPrime (fun _ => hv.no_startPrime)
      (Cert.ruleAt_mem hv.rules_eq hq) y (List.mem_of_mem_drop hy))
  obtain ⟨v, hs⟩ := he cs hcs hm
  exact ⟨Tree.yieldL cs ++ v, by simpa [List.append_assoc] using hs⟩

/-- a grounded item; that it has a rule is part of the claim, so `Linked.viable` can start from any item -/
def GItem (G : Grammar) (C : Cert) (pre : List Token) (it : Item) : Prop :=
  ∃ p, C.ruleAt it.pi = some p ∧ Ext G pre (p.rhs.drop it.dot)

def GItems (G : Grammar) (C : Cert) (s : Nat) (pre : List Token) : Prop :=
  ∀ it ∈ C.itemsOf s, GItem G C pre it

theorem gitem_nextSym (hv : Valid G A C) (hr : Reduced G) {pre : List Token} {it : Item}
    (h : GItem G C pre it) : ∀ x ∈ C.nextSyms it, ExtSym G pre x := by
  obtain ⟨q, hq, he⟩ := h
  intro x hx t ht hroot
  rw [drop_of_getElem? ((Cert.mem_nextSyms hq).mp hx), ← hroot] at he
  exact (he.cons ht).viable hv hr hq

theorem gitem_of_lhs (hv : Valid G A C) {pre : List Token} {it : Item} {p : Rule}
    (hp : C.ruleAt it.pi = some p) (h0 : it.dot = 0) (hsd : it.pi ≠ C.seedIdx)
    (he : ExtSym G pre p.lhs) : GItem G C pre it := by
  refine ⟨p, hp, fun cs hcs hm => ?_⟩
  rw [h0, List.drop_zero] at hm
  have hpm := (hv.ruleAt_user (Nat.lt_of_le_of_ne (Cert.le_seedIdx hp) hsd) hp).1
  simpa [Tree.yield] using he (.node p cs) (ParseTree.node p cs hpm hcs hm) rfl

/-- kernel items suffice: a closure item is grounded because the item introducing it is -/
theorem gitems_of_kernel (hv : Valid G A C) (hr : Reduced G) {s : Nat} (hs : s < C.items.size)
    {pre : List Token}
    (hk : ∀ it ∈ C.itemsOf s, it.dot ≠ 0 ∨ it.pi = C.seedIdx → GItem G C pre it) : GItems G C s pre :=
  justOrder_induct (P := GItem G C pre) (R := ExtSym G pre) (fun _ => gitem_nextSym hv hr) (hv.order s hs)
    nofun hk fun _ _ h0 hsd _ hp => gitem_of_lhs hv hp h0 hsd

theorem gitems_push (hv : Valid G A C) (hr : Reduced G) {s : Nat} {t : Tree} {st : List (Nat × Tree)}
    (hl : Linked G A C ((s, t) :: st)) (hg : GItems G C (topState st) (stackYield st)) :
    GItems G C s (stackYield ((s, t) :: st)) := by
  obtain ⟨htgt, hpt, _⟩ := hl
  have hs := Cert.lt_of_ne_nil htgt.1
  refine gitems_of_kernel hv hr hs fun it hit hk => ?_
  -- a kernel item is the advance over `t.root` of an item of the state below
  have hti := htgt.2.2 it hit
  have h0 : it.dot ≠ 0 := hk.elim id fun hk h0 => hti.1 h0 hk
  obtain ⟨⟨p, hp, hx⟩, hm⟩ := hti.2 h0
  obtain ⟨p', hp', hE⟩ := hg _ hm
  cases (hp : C.ruleAt it.pi = some p).symm.trans hp'
  rw [drop_of_getElem? hx, Nat.sub_add_cancel (Nat.pos_of_ne_zero h0)] at hE
  exact ⟨p, hp, stackYield_cons _ _ ▸ hE.cons hpt⟩

theorem gitems_init (hv : Valid G A C) (hr : Reduced G) : GItems G C 0 [] := by
  refine gitems_of_kernel hv hr (Cert.lt_of_mem hv.start.1) fun it hit hk => ?_
  have h0 := hv.start.2 it hit
  rcases hk with hk | hk
  · exact absurd h0 hk
  · refine ⟨G.seed, hk ▸ Cert.ruleAt_seed hv.rules_eq, ?_⟩
    rw [h0]
    intro cs hcs hm
    simp only [Grammar.seed, List.drop_zero] at hm
    obtain ⟨t, rfl, hroot⟩ := List.map_eq_singleton_iff.mp hm
    exact ⟨[], t, hcs t (by simp), hroot, by simp [Tree.yieldL]⟩

theorem Linked.gitems (hv : Valid G A C) (hr : Reduced G) : ∀ {st : List (Nat × Tree)},
    Linked G A C st → GItems G C (topState st) (stackYield st)
  | [], _ => gitems_init hv hr
  | (_, _) :: _, hl => gitems_push hv hr hl (Linked.gitems hv hr hl.2.2)

/-! ### the consumed input at an error is a viable prefix -/

theorem Linked.viable (hv : Valid G A C) (hr : Reduced G) {st : List (Nat × Tree)}
    (hl : Linked G A C st) : ViablePrefix G (stackYield st) := by
  have key : ∃ it, it ∈ C.itemsOf (topState st) := by
    cases st with
    | nil => exact ⟨_, hv.start.1⟩
    | cons e rest => exact List.exists_mem_of_ne_nil _ hl.1.1
  obtain ⟨it, hit⟩ := key
  obtain ⟨p, hp, hE⟩ := hl.gitems hv hr it hit
  exact hE.viable hv hr hp

/-! ### lock-step of runs on inputs that agree up to the error position -/

theorem runFrom_lockstep {w₁ w₂ : List Token} {i : Nat} {code : Option Nat} {s : Nat} {e : List Nat}
    (f : Nat) (c : Config) : (∀ j, j ≤ i → w₁[j]? = w₂[j]?) →
      runFrom A w₁ f c = .error code i s e → c.cursor ≤ i ∧ runFrom A w₂ f c = .error code i s e := by
  fun_induction runFrom A w₁ f c with
  | case1 => exact fun _ => nofun
  | case2 f c c' hs ih =>
    intro hw h
    have hle := step_cursor_le hs
    obtain ⟨hci, h2⟩ := ih hw h
    have hci := Nat.le_trans hle hci
    exact ⟨hci, by rw [runFrom, ← step_congr (hw _ hci), hs]; exact h2⟩
  | case3 f c r hs =>
    intro hw h
    subst h
    have hci := Nat.le_of_eq (step_error_index hs).symm
    exact ⟨hci, by rw [runFrom, ← step_congr (hw _ hci), hs]⟩

/-- If the run on `w` errors at index `i`, no input that agrees with `w` on positions `≤ i`
is a sentence. -/
theorem no_sentence_of_error (hv : Valid G A C) {w w₂ : List Token} {fuel : Nat} {code : Option Nat}
    {i s : Nat} {e : List Nat} (h : run A fuel w = .error code i s e)
    (hagree : ∀ j, j ≤ i → w[j]? = w₂[j]?) : ¬ Sentence G w₂ := by
  intro ⟨t, hd⟩
  obtain ⟨f0, hf0⟩ := run_complete hv hd
  have h2 : runFrom A w₂ fuel init = .error code i s e :=
    (runFrom_lockstep fuel init hagree h).2
  have h3 := runFrom_mono fuel init f0 (by rw [h2]; nofun)
  have h4 := hf0 (fuel + f0) (Nat.le_add_left _ _)
  rw [run, h3, h2] at h4
  cases h4

end Emboss.Lr1
