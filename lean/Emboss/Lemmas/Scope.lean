/-
Helper lemmas for C12: `_construct_symbol_tables` and lookup by canonical name; when the visible
scopes are pairwise distinct; the `for scope in visible_scopes` loop against the declarative
candidates; the dotted-tail walk; one reference; a whole pass (`pass`), over the plain references
and over the heads of the field references alike; `resolve_symbols`.
-/
import Emboss.Spec.Scope
namespace Emboss.Scope

/-! ### Lists without duplicates -/

theorem nodup_map_iff_of_inj_on {α β : Type} {f : α → β} {l : List α}
    (h : ∀ a ∈ l, ∀ b ∈ l, f a = f b → a = b) : (l.map f).Nodup ↔ l.Nodup := by
  rw [List.nodup_iff_pairwise_ne, List.nodup_iff_pairwise_ne, List.pairwise_map]
  exact ⟨fun hp => hp.imp fun hab e => hab (congrArg f e),
    fun hp => hp.imp_of_mem fun ha hb hab e => hab (h _ ha _ hb e)⟩

theorem nodup_eq_singleton_iff {α : Type} {l : List α} {s : α} (hn : l.Nodup) :
    l = [s] ↔ s ∈ l ∧ ∀ x ∈ l, x = s := by
  constructor
  · rintro rfl
    exact ⟨List.mem_singleton_self s, fun x hx => List.mem_singleton.1 hx⟩
  · intro ⟨hmem, hall⟩
    match l, hn, hall, hmem with
    | [a], _, hall, _ => rw [hall a List.mem_cons_self]
    | a :: b :: r, hn, hall, _ =>
      have hab : a = b := (hall a List.mem_cons_self).trans
        (hall b (List.mem_cons_of_mem _ List.mem_cons_self)).symm
      exact absurd (hab ▸ List.mem_cons_self) (List.nodup_cons.1 hn).1

theorem nodup_two_iff {α : Type} {l : List α} (hn : l.Nodup) :
    (∃ a b r, l = a :: b :: r) ↔ ∃ s s', s ∈ l ∧ s' ∈ l ∧ s ≠ s' := by
  constructor
  · rintro ⟨a, b, r, rfl⟩
    exact ⟨a, b, List.mem_cons_self, List.mem_cons_of_mem _ List.mem_cons_self,
      fun h => (List.nodup_cons.1 hn).1 (h ▸ List.mem_cons_self)⟩
  · rintro ⟨s, s', hs, hs', hne⟩
    match l, hs, hs' with
    | [a], hs, hs' =>
      exact absurd ((List.mem_singleton.1 hs).trans (List.mem_singleton.1 hs').symm) hne
    | a :: b :: r, _, _ => exact ⟨a, b, r, rfl⟩

/-! ### `_construct_symbol_tables` -/

def keys (T : Table) : List Path := T.map (·.key)

theorem lookup_eq_none_iff (T : Table) (k : Path) : lookup T k = none ↔ k ∉ keys T := by
  unfold lookup keys
  rw [List.find?_eq_none]
  simp only [decide_eq_true_eq, List.mem_map, not_exists, not_and]

theorem insertAll_nil (st : Table × List Err) : insertAll st [] = st := rfl

theorem insertAll_cons (st : Table × List Err) (d : Decl) (ds : List Decl) :
    insertAll st (d :: ds) = insertAll (insert st d) ds := rfl

theorem insertAll_ok_iff (st : Table × List Err) (ds : List Decl) :
    (insertAll st ds).2 = [] ↔
      st.2 = [] ∧ (ds.map Decl.key).Nodup ∧ ∀ k ∈ ds.map Decl.key, k ∉ keys st.1 := by
  induction ds generalizing st with
  | nil => exact ⟨fun h => ⟨h, List.nodup_nil, nofun⟩, fun h => h.1⟩
  | cons d ds ih =>
    rw [insertAll_cons, ih]
    unfold insert
    cases h : lookup st.1 d.key with
    | some o =>
      have hk : d.key ∈ keys st.1 := Classical.byContradiction fun hn => by
        rw [(lookup_eq_none_iff st.1 d.key).2 hn] at h
        cases h
      exact ⟨fun he => (nomatch (List.append_eq_nil_iff.1 he.1).2),
        fun ⟨_, _, hd⟩ => absurd hk (hd _ List.mem_cons_self)⟩
    | none =>
      have hk := (lookup_eq_none_iff st.1 d.key).1 h
      have hkeys : keys (st.1 ++ [d.entry]) = keys st.1 ++ [d.key] := List.map_append
      simp only [hkeys, List.map_cons, List.nodup_cons, List.forall_mem_cons, List.mem_append,
        List.mem_singleton, not_or]
      constructor
      · rintro ⟨he, hn, h⟩
        exact ⟨he, ⟨fun hk' => (h _ hk').2 rfl, hn⟩, hk, fun x hx => (h x hx).1⟩
      · rintro ⟨he, ⟨hk', hn⟩, _, h⟩
        exact ⟨he, hn, fun x hx => ⟨h x hx, fun e => hk' (e ▸ hx)⟩⟩

theorem insertAll_ok_table (st : Table × List Err) (ds : List Decl)
    (h : (insertAll st ds).2 = []) : (insertAll st ds).1 = st.1 ++ ds.map Decl.entry := by
  induction ds generalizing st with
  | nil => simp [insertAll_nil]
  | cons d ds ih =>
    have hk := ((insertAll_ok_iff st _).1 h).2.2 _ List.mem_cons_self
    rw [insertAll_cons] at h ⊢
    rw [ih _ h]
    unfold insert
    rw [(lookup_eq_none_iff ..).2 hk]
    simp

/-- The early exit of `construct` changes nothing about acceptance, since errors only grow:
`construct` accepts iff inserting everything in one go does. -/
theorem construct_ok_iff (M : ModuleDesc) :
    (construct M).2 = [] ↔ ((stage1 M ++ stage2 M).map Decl.key).Nodup := by
  have hall : (insertAll ([], []) (stage1 M ++ stage2 M)).2 = [] ↔
      ((stage1 M ++ stage2 M).map Decl.key).Nodup := by
    rw [insertAll_ok_iff]
    exact ⟨fun h => h.2.1, fun h => ⟨rfl, h, fun _ _ h => nomatch h⟩⟩
  rw [← hall, insertAll, List.foldl_append]
  unfold construct
  simp only
  split
  next h1 => exact ⟨fun h => absurd h h1, fun h => absurd ((insertAll_ok_iff ..).1 h).1 h1⟩
  · rfl

/-! ### canonical names of the definitions -/

theorem fieldCanons_sublist_keys (fs : List FieldDecl) :
    List.Sublist (fs.map (fun f => f.scope ++ [f.name])) ((fs.flatMap fieldDecls).map Decl.key) := by
  induction fs with
  | nil => exact .slnil
  | cons f fs ih =>
    rw [List.flatMap_cons, List.map_append]
    exact (List.Sublist.cons_cons _ (List.nil_sublist _)).append ih

theorem objects_canon_sublist (M : ModuleDesc) :
    List.Sublist ((objects M).map (·.canon)) ((stage1 M ++ stage2 M).map Decl.key) := by
  unfold objects stage1 stage2
  simp only [List.map_append, List.map_map, List.append_assoc]
  exact .append (.refl _) (.append (.refl _) (.append (.refl _)
    (.append (fieldCanons_sublist_keys M.fields) (.refl _))))

theorem findObject_of_nodup (os : List Obj) (hn : (os.map (·.canon)).Nodup) (o : Obj) (ho : o ∈ os) :
    findObject os o.canon = some o := by
  induction os with
  | nil => cases ho
  | cons a os ih =>
    rw [List.map_cons, List.nodup_cons] at hn
    unfold findObject
    rw [List.find?_cons]
    rcases List.mem_cons.1 ho with rfl | h
    · simp
    · have : a.canon ≠ o.canon := fun e => hn.1 (List.mem_map.2 ⟨o, h, e.symm⟩)
      simp only [this, decide_false]
      exact ih hn.2 h

/-! ### The visible scopes -/

theorem mem_typeChain (m : String) (ts : List String) (p : Path) :
    p ∈ typeChain m ts ↔ ∃ k, k ≤ ts.length ∧ p = m :: ts.take k := by
  unfold typeChain
  simp only [List.mem_map, List.mem_reverse, List.mem_range]
  exact ⟨fun ⟨k, hk, hp⟩ => ⟨k, Nat.lt_succ_iff.1 hk, hp.symm⟩,
    fun ⟨k, hk, hp⟩ => ⟨k, Nat.lt_succ_iff.2 hk, hp.symm⟩⟩

theorem typeChain_nodup (m : String) (ts : List String) : (typeChain m ts).Nodup := by
  refine (nodup_map_iff_of_inj_on fun a ha b hb e => ?_).2
    ((List.reverse_perm _).nodup_iff.2 List.nodup_range)
  rw [List.mem_reverse, List.mem_range] at ha hb
  have := congrArg List.length e
  simp only [List.length_cons, List.length_take] at this
  omega

/-- the scope of an attribute's field continues the chain of enclosing types -/
theorem typeChain_snoc (m : String) (ts : List String) (f : String) :
    typeChain m (ts ++ [f]) = (m :: ts ++ [f]) :: typeChain m ts := by
  unfold typeChain
  rw [List.length_append, List.length_singleton, List.range_succ, List.reverse_append,
    List.reverse_singleton, List.singleton_append, List.map_cons, List.take_of_length_le (by simp)]
  congr 1
  refine List.map_congr_left fun k hk => ?_
  rw [List.mem_reverse, List.mem_range, Nat.lt_succ_iff] at hk
  rw [List.take_append_of_le_length hk]

theorem visible_eq (c : Ctx) :
    c.visible = typeChain c.module (c.types ++ c.attrField.toList) ++ c.anon.map (fun f => [f]) := by
  unfold Ctx.visible
  cases c.attrField with
  | none => simp
  | some f => rw [Option.toList_some, typeChain_snoc]; rfl

theorem visible_nodup_iff (c : Ctx) :
    c.visible.Nodup ↔ c.anon.Nodup ∧ c.module ∉ c.anon := by
  rw [visible_eq, List.nodup_append,
    nodup_map_iff_of_inj_on (f := fun f => [f]) fun _ _ _ _ e => (List.cons.inj e).1]
  refine ⟨fun ⟨_, hB, hdis⟩ => ⟨hB, fun hm => ?_⟩, fun ⟨hB, hm⟩ => ⟨typeChain_nodup _ _, hB, ?_⟩⟩
  · exact hdis [c.module] ((mem_typeChain ..).2 ⟨0, Nat.zero_le _, rfl⟩) _
      (List.mem_map.2 ⟨_, hm, rfl⟩) rfl
  · intro a ha b hb hab
    obtain ⟨f, hf, rfl⟩ := List.mem_map.1 hb
    obtain ⟨k, _, hk⟩ := (mem_typeChain ..).1 ha
    rw [hab] at hk
    exact hm ((List.cons.inj hk).1 ▸ hf)

/-! ### The search over the visible scopes -/

theorem isHit_iff (T : Table) (cur : Path) (name : String) (s : Path) :
    isHit T cur name s = true ↔ Offers T cur name s := by
  unfold isHit Offers
  cases lookup T (s ++ [name]) <;> simp

theorem searchLoop_some (T : Table) (cur : Path) (name : String) (isLocal : Bool)
    (vis : List Path) (f : Path) :
    searchLoop T cur name isLocal vis (some f) = (some f, vis.filter (isHit T cur name)) := by
  induction vis with
  | nil => simp [searchLoop]
  | cons s rest ih =>
    unfold searchLoop
    by_cases h : isHit T cur name s = true <;> simp [h, ih]

theorem searchLoop_none (T : Table) (cur : Path) (name : String) (isLocal : Bool)
    (vis : List Path) :
    searchLoop T cur name isLocal vis none =
      (vis.find? (isHit T cur name),
        if isLocal then [] else (vis.filter (isHit T cur name)).tail) := by
  induction vis with
  | nil => simp [searchLoop]
  | cons s rest ih =>
    unfold searchLoop
    by_cases h : isHit T cur name s = true <;> cases isLocal <;> simp_all [searchLoop_some]

theorem searchLoop_hits {T : Table} {cur : Path} {name : String} {isLocal : Bool}
    {vis : List Path} {f : Option Path} {more : List Path}
    (h : searchLoop T cur name isLocal vis none = (f, more)) {s : Path}
    (hs : f = some s ∨ s ∈ more) : isHit T cur name s = true := by
  rw [searchLoop_none] at h
  obtain ⟨rfl, rfl⟩ := Prod.mk.inj h
  rcases hs with hs | hs
  · exact List.find?_some hs
  · cases isLocal with
    | true => cases hs
    | false => exact (List.mem_filter.1 (List.mem_of_mem_tail hs)).2

theorem hits_eq_singleton_iff_unique {T : Table} {cur : Path} {name : String} {vis : List Path}
    (hn : vis.Nodup) (s : Path) :
    vis.filter (isHit T cur name) = [s] ↔ UniqueCandidate T cur vis name s := by
  rw [nodup_eq_singleton_iff (hn.filter _)]
  simp only [List.mem_filter, isHit_iff, UniqueCandidate, and_assoc, and_imp]

theorem hits_two_iff_twoCandidates {T : Table} {cur : Path} {name : String} {vis : List Path}
    (hn : vis.Nodup) :
    (∃ a b r, vis.filter (isHit T cur name) = a :: b :: r) ↔ TwoCandidates T cur vis name := by
  rw [nodup_two_iff (hn.filter _)]
  simp only [List.mem_filter, isHit_iff]
  refine exists_congr fun s => exists_congr fun s' => ?_
  constructor
  · rintro ⟨⟨a, b⟩, ⟨c, d⟩, e⟩
    exact ⟨a, c, e, b, d⟩
  · rintro ⟨a, c, e, b, d⟩
    exact ⟨⟨a, b⟩, ⟨c, d⟩, e⟩

theorem find_eq_some_iff_innermost (T : Table) (cur : Path) (name : String) (vis : List Path)
    (s : Path) :
    vis.find? (isHit T cur name) = some s ↔ Innermost T cur vis name s := by
  simp only [List.find?_eq_some_iff_append, Bool.not_eq_eq_eq_not, Bool.not_true,
    ← Bool.not_eq_true, isHit_iff, Innermost]
  exact ⟨fun ⟨a, pre, post, b, c⟩ => ⟨pre, post, b, a, c⟩,
    fun ⟨pre, post, b, a, c⟩ => ⟨a, pre, post, b, c⟩⟩

/-! ### dotted tail -/

/-- `prev` (the entry reached so far) is read only by the `[]` case of `walk`. -/
theorem walk_cons (T : Table) (K : Path) (prev : Option Entry) (n : String) (l : Nat)
    (ns : List (String × Nat)) :
    walk T K prev ((n, l) :: ns) =
      match lookup T (K ++ [n]) with
      | none => .missing n l
      | some e0 =>
        match deref T e0 with
        | none => .badAlias n l
        | some e => walk T e.key (some e) ns := by
  cases prev <;> rfl

theorem walk_nil_some (T : Table) (K : Path) (e : Entry) : walk T K (some e) [] = .ok e := rfl

theorem walk_ok_iff (T : Table) (K : Path) (prev : Option Entry) (n : String × Nat)
    (ns : List (String × Nat)) (e : Entry) :
    walk T K prev (n :: ns) = .ok e ↔ Walks T K ((n :: ns).map (·.1)) e := by
  induction ns generalizing K prev n with
  | nil =>
    obtain ⟨n, l⟩ := n
    rw [walk_cons]
    constructor
    · intro h
      split at h
      · cases h
      · split at h
        · cases h
        next h0 _ _ h1 => cases h; exact Walks.last h0 h1
    · intro h
      cases h with
      | last h0 h1 => simp only [h0, h1, walk_nil_some]
  | cons n' ns ih =>
    obtain ⟨n, l⟩ := n
    rw [walk_cons]
    constructor
    · intro h
      split at h
      · cases h
      · split at h
        · cases h
        next h0 _ e1 h1 => exact Walks.step h0 h1 ((ih e1.key (some e1) n').1 h)
    · intro h
      cases h with
      | step h0 h1 hw =>
        simp only [h0, h1]
        exact (ih _ (some _) n').2 hw

/-! ### One reference -/

theorem resolveRef_no_names {T : Table} {clean : Bool} {r : Ref} (h : r.names = []) :
    resolveRef T clean r = (none, []) := by
  unfold resolveRef
  rw [h]

theorem resolveRef_nil_iff {T : Table} {r : Ref} {n : String} {l : Nat}
    {rest : List (String × Nat)} (hnames : r.names = (n, l) :: rest) (x : Option Path) :
    resolveRef T true r = (x, []) ↔
      ∃ s e, searchLoop T r.ctx.cur n r.isLocal r.ctx.visible none = (some s, []) ∧
        walk T s none r.names = .ok e ∧ x = some e.canon := by
  unfold resolveRef
  rw [hnames]
  simp only
  generalize searchLoop T r.ctx.cur n r.isLocal r.ctx.visible none = p
  obtain ⟨f, more⟩ := p
  cases f with
  | none => simp
  | some f =>
    cases more with
    | nil =>
      simp only [List.map_nil, List.isEmpty_nil, Bool.and_self, if_true, Prod.mk.injEq,
        Option.some.injEq, and_true, exists_and_left, exists_eq_left']
      cases walk T f none ((n, l) :: rest) <;> simp [eq_comm]
    | cons o os => simp

theorem resolveRef_clean_ok (T : Table) (r : Ref) (hne : r.names ≠ []) (x : Option Path)
    (h : resolveRef T true r = (x, [])) : ∃ d, x = some d := by
  match hnames : r.names with
  | [] => exact absurd hnames hne
  | (n, l) :: rest =>
    obtain ⟨_, e, _, _, hx⟩ := (resolveRef_nil_iff hnames x).1 h
    exact ⟨_, hx⟩

theorem resolveHead_nil_iff (T : Table) (r : Ref) (o : Option Path) :
    resolveHead T true r = (o, []) ↔
      resolveRef T true r = (o, []) ∧ ∀ d, o = some d → d.length ≠ 1 := by
  unfold resolveHead
  simp only
  split
  next d n l rest hx hn =>
    split
    next hd =>
      constructor
      · intro h
        cases List.append_eq_nil_iff.1 (congrArg Prod.snd h) |>.2
      · rintro ⟨h, h'⟩
        rw [h] at hx
        exact absurd hd (h' d hx)
    next hd =>
      refine ⟨fun h => ⟨h, fun d' hd' => ?_⟩, And.left⟩
      rw [h] at hx
      cases hx.symm.trans hd'
      exact hd
  next hno =>
    refine ⟨fun h => ⟨h, fun d hd => ?_⟩, And.left⟩
    subst hd
    cases hn : r.names with
    | nil =>
      rw [resolveRef_no_names hn] at h
      cases h
    | cons nl rest => exact (hno d nl.1 nl.2 rest (by rw [h]) hn).elim

/-! ### A whole pass (`pass`): no error at the end ⇔ no error at any reference -/

/-- The traversal both passes are: `f` is told whether the shared error list was still empty
when its reference is reached. -/
def pass (f : Bool → Ref → Option Path × List Err) :
    List Ref → List Err → List (Option Path) × List Err
  | [], errs => ([], errs)
  | r :: rs, errs =>
    let x := f errs.isEmpty r
    let y := pass f rs (errs ++ x.2)
    (x.1 :: y.1, y.2)

theorem resolveRefs_eq_pass (T : Table) : resolveRefs T = pass (resolveRef T) := by
  funext rs
  induction rs with
  | nil => rfl
  | cons r rs ih => funext errs; simp only [resolveRefs, pass, ih]

theorem resolveHeads_eq_pass (T : Table) : resolveHeads T = pass (resolveHead T) := by
  funext rs
  induction rs with
  | nil => rfl
  | cons r rs ih => funext errs; simp only [resolveHeads, pass, ih]

theorem pass_errs_nil {f : Bool → Ref → Option Path × List Err} {refs : List Ref}
    {errs : List Err} (h : (pass f refs errs).2 = []) : errs = [] := by
  induction refs generalizing errs with
  | nil => exact h
  | cons r rs ih => exact (List.append_eq_nil_iff.1 (ih h)).1

theorem pass_cons_ok_iff (f : Bool → Ref → Option Path × List Err) (r : Ref) (rs : List Ref)
    (os : List (Option Path)) :
    pass f (r :: rs) [] = (os, []) ↔
      ∃ o os', os = o :: os' ∧ f true r = (o, []) ∧ pass f rs [] = (os', []) := by
  simp only [pass, List.isEmpty_nil, List.nil_append, Prod.mk.injEq]
  constructor
  · rintro ⟨rfl, he⟩
    have hx : (f true r).2 = [] := pass_errs_nil he
    rw [hx] at he ⊢
    exact ⟨_, _, rfl, Prod.ext rfl hx, Prod.ext rfl he⟩
  · rintro ⟨o, os', rfl, h1, h2⟩
    rw [h1, h2]
    exact ⟨rfl, rfl⟩

theorem resolveHeads_nil_iff (T : Table) (refs : List Ref) (os : List (Option Path)) :
    resolveHeads T refs [] = (os, []) ↔
      resolveRefs T refs [] = (os, []) ∧ ∀ d, some d ∈ os → d.length ≠ 1 := by
  rw [resolveHeads_eq_pass, resolveRefs_eq_pass]
  induction refs generalizing os with
  | nil =>
    simp only [pass, Prod.mk.injEq, and_true]
    constructor
    · rintro rfl; exact ⟨rfl, fun d h => nomatch h⟩
    · rintro ⟨rfl, _⟩; rfl
  | cons r rs ih =>
    rw [pass_cons_ok_iff, pass_cons_ok_iff]
    simp only [resolveHead_nil_iff, ih]
    constructor
    · rintro ⟨o, os', rfl, ⟨h1, h2⟩, h3, h4⟩
      exact ⟨⟨o, os', rfl, h1, h3⟩, fun d hd =>
        (List.mem_cons.1 hd).elim (fun e => h2 d e.symm) (h4 d)⟩
    · rintro ⟨⟨o, os', rfl, h1, h3⟩, h⟩
      exact ⟨o, os', rfl, ⟨h1, fun d hd => h d (hd ▸ List.mem_cons_self)⟩, h3,
        fun d hd => h d (List.mem_cons_of_mem _ hd)⟩

/-! ### `resolve_symbols` -/

theorem allSome_eq_some (l : List (Option Path)) (ps : List Path) :
    allSome l = some ps ↔ l = ps.map some := by
  induction l generalizing ps with
  | nil => cases ps <;> simp [allSome]
  | cons x xs ih =>
    cases x <;> cases ps <;> simp [allSome, ih]
    exact and_comm

theorem resolveSymbols_resolved_iff (M : ModuleDesc) (refs : List Ref) (frefs : List FRef)
    (ra rb : List Path) :
    resolveSymbols M refs frefs = .resolved ra rb ↔
      (fullTable M).2 = [] ∧ resolveRefs (fullTable M).1 refs [] = (ra.map some, []) ∧
        resolveHeads (fullTable M).1 (frefs.map headRef) [] = (rb.map some, []) := by
  unfold resolveSymbols
  simp only
  generalize fullTable M = st
  by_cases h1 : st.2 = []
  · rw [if_neg (not_not_intro h1)]
    generalize resolveRefs st.1 refs [] = a
    obtain ⟨a1, a2⟩ := a
    cases a2 with
    | nil =>
      generalize resolveHeads st.1 (frefs.map headRef) [] = b
      obtain ⟨b1, b2⟩ := b
      cases b2 with
      | nil =>
        cases ha : allSome a1 <;> cases hb : allSome b1 <;>
          simp [h1, ← allSome_eq_some, ha, hb]
      | cons e es => simp
    | cons e es =>
      have hb : (resolveHeads st.1 (frefs.map headRef) (e :: es)).2 ≠ [] := by
        rw [resolveHeads_eq_pass]
        exact fun h => nomatch pass_errs_nil h
      simp [hb]
  · simp [h1]

end Emboss.Scope
