/-
The header row `_columnize` builds for a block re-tokenizes to its cells' tokens: `padCols`
(the `ljust` loop) is an instance of `cellsText`, and the column widths leave at least one
blank after every non-empty cell.
-/
import Emboss.Lemmas.FmtRetokCells
namespace Emboss.FmtTok
open Emboss.Tok Emboss.Generated

/-- The cells of a header: text, blanks `ljust` appends, leaves. -/
def colCells (blocks : List Fmt.Block) (iw ic : Nat) (h : Fmt.Row) :
    Nat → List Fmt.Str → List (List Leaf) → List (List Char × Nat × List Leaf)
  | _, [], _ => []
  | i, c :: rest, Ls =>
    (c, (padWidth blocks iw ic h i).toNat - c.length, Ls.headD []) ::
      colCells blocks iw ic h (i + 1) rest Ls.tail

theorem padCols_flatten (blocks : List Fmt.Block) (iw ic : Nat) (h : Fmt.Row) :
    ∀ (cols : List Fmt.Str) (i : Nat) (Ls : List (List Leaf)),
      (Fmt.padCols blocks iw ic h i cols).flatten = cellsText (colCells blocks iw ic h i cols Ls) := by
  intro cols
  induction cols with
  | nil => intro i Ls; rfl
  | cons c rest ih =>
    intro i Ls
    rw [padCols_cons]
    simp only [List.flatten_cons, colCells, cellsText, Fmt.ljust, ih (i + 1) Ls.tail]

theorem widthStep_ge (iw ic : Nat) (name : Fmt.RowName) (i m : Nat) (b : Fmt.Block) :
    m ≤ widthStep iw ic name i m b := by
  simp only [widthStep]
  split
  · split
    · exact Nat.le_max_left _ _
    · exact Nat.le_refl _
  · exact Nat.le_refl _

theorem foldl_widthStep_ge (iw ic : Nat) (name : Fmt.RowName) (i : Nat) :
    ∀ (blocks : List Fmt.Block) (m : Nat), m ≤ blocks.foldl (widthStep iw ic name i) m := by
  intro blocks
  induction blocks with
  | nil => intro m; exact Nat.le_refl _
  | cons b rest ih =>
    intro m
    exact Nat.le_trans (widthStep_ge iw ic name i m b) (ih _)

theorem foldl_widthStep_mem (iw ic : Nat) (i : Nat) :
    ∀ (blocks : List Fmt.Block) (m : Nat) (b : Fmt.Block), b ∈ blocks → ∀ c, b.header.columns[i]? = some c →
      c.length + (if i + 1 = ic then b.header.indent * iw else 0) ≤
        blocks.foldl (widthStep iw ic b.header.name i) m := by
  intro blocks
  induction blocks with
  | nil => intro m b hb; cases hb
  | cons b0 rest ih =>
    intro m b hb c hc
    rcases List.mem_cons.mp hb with rfl | hb
    · refine Nat.le_trans ?_ (foldl_widthStep_ge iw ic _ i rest _)
      simp only [widthStep, if_true, hc]
      exact Nat.le_max_right _ _
    · exact ih _ b hb c hc

theorem colWidth_ge (blocks : List Fmt.Block) (iw ic : Nat) (b : Fmt.Block) (hb : b ∈ blocks) (i : Nat)
    (c : Fmt.Str) (hc : b.header.columns[i]? = some c) :
    c.length + (if i + 1 = ic then b.header.indent * iw else 0) ≤
      Fmt.colWidth blocks iw ic b.header.name i := by
  rw [colWidth_eq_foldl]
  exact foldl_widthStep_mem iw ic i blocks 0 b hb c hc

theorem pad_pos (blocks : List Fmt.Block) (iw ic : Nat) (b : Fmt.Block) (hb : b ∈ blocks) (i : Nat)
    (c : Fmt.Str) (hc : b.header.columns[i]? = some c) (hne : c ≠ []) :
    0 < (padWidth blocks iw ic b.header i).toNat - c.length := by
  have hge := colWidth_ge blocks iw ic b hb i c hc
  have hpos : 0 < c.length := List.length_pos_iff.mpr hne
  rw [Nat.sub_pos_iff_lt, Int.lt_toNat]
  unfold padWidth
  generalize Fmt.colWidth blocks iw ic b.header.name i = W at hge
  generalize b.header.indent * iw = k at hge
  -- the column is not empty and, less the indentation, is at least as wide as the cell
  have h : (W : Int) ≠ 0 ∧
      (c.length : Int) ≤ if i + 1 = ic then (W : Int) - (k : Nat) else W := by
    split at hge <;> omega
  simp only [h.1, if_false]
  split
  · exact Int.lt_add_one_iff.mpr h.2
  · exact Int.lt_add_of_le_of_pos h.2 (by decide)

theorem colCells_pad (blocks : List Fmt.Block) (iw ic : Nat) (b : Fmt.Block) (hb : b ∈ blocks) :
    ∀ (cols : List Fmt.Str) (i : Nat) (Ls : List (List Leaf)),
      (∀ j c, cols[j]? = some c → b.header.columns[i + j]? = some c) →
      ∀ x ∈ colCells blocks iw ic b.header i cols Ls, x.1 ≠ [] → 0 < x.2.1 := by
  intro cols
  induction cols with
  | nil => intro i Ls _ x hx; cases hx
  | cons c rest ih =>
    intro i Ls h x hx hne
    simp only [colCells, List.mem_cons] at hx
    rcases hx with rfl | hx
    · exact pad_pos blocks iw ic b hb i c (by simpa using h 0 c rfl) hne
    · refine ih (i + 1) Ls.tail (fun j c' hj => ?_) x hx hne
      have := h (j + 1) c' (by simpa using hj)
      rw [show i + 1 + j = i + (j + 1) by omega]; exact this

/-- `C11_columnize_retokenizes_partial`; `hfirst`: the first cell is not empty. -/
theorem columnize_header_lineToks (blocks : List Fmt.Block) (iw ic : Nat) (b : Fmt.Block)
    (hb : b ∈ blocks) (Ls : List (List Leaf))
    (hcell : ∀ x ∈ colCells blocks iw ic b.header 0 b.header.columns Ls,
      (x.1 = [] ∧ x.2.2 = []) ∨ (x.1 ≠ [] ∧ LineToks x.1 x.2.2))
    (hopen : OpenLast (colCells blocks iw ic b.header 0 b.header.columns Ls))
    (hfirst : ∃ c rest, b.header.columns = c :: rest ∧ c ≠ []) :
    ∃ hdr : Fmt.Row, Fmt.columnizeBlock blocks iw ic b = b.pre ++ [hdr] ++ b.body ∧
      hdr.columns.length < 2 ∧ hdr.indent = b.header.indent ∧ hdr.name = b.header.name ∧
      LineToks (rowText hdr) (cellsLeaves (colCells blocks iw ic b.header 0 b.header.columns Ls)) := by
  refine ⟨_, rfl, by simp, rfl, rfl, ?_⟩
  have hpad := colCells_pad blocks iw ic b hb b.header.columns 0 Ls (fun j c h => by simpa using h)
  have hok : ∀ x ∈ colCells blocks iw ic b.header 0 b.header.columns Ls, CellOK x := by
    intro x hx
    rcases hcell x hx with h | ⟨h1, h2⟩
    · exact Or.inl h
    · exact Or.inr ⟨h1, hpad x hx h1, h2⟩
  simp only [rowText, List.flatten_cons, List.flatten_nil, List.append_nil, Fmt.rstrip_idem,
    padCols_flatten blocks iw ic b.header b.header.columns 0 Ls]
  obtain ⟨c, rest, hcols, hcne⟩ := hfirst
  rcases cells_lineToks _ hok hopen with ⟨h0, _⟩ | ⟨k, s, h1, _, h3, h4⟩
  · rw [hcols] at h0
    exact absurd (h0 _ List.mem_cons_self) hcne
  · have hk : k = 0 := by
      rw [hcols] at h4
      exact h4 (c, (padWidth blocks iw ic b.header 0).toNat - c.length, Ls.headD [])
        (colCells blocks iw ic b.header (0 + 1) rest Ls.tail) rfl hcne
    subst hk
    rw [h1]
    simpa [Fmt.spaces] using h3

end Emboss.FmtTok
