/-
Induction over parse trees (`fold_ok`): on a tree of the grammar the fold is defined at every
node, yields a value of the kind of the node's symbol, and keeps the content (`leaves_content_eq`:
blank layout leaves add none).  Before it, the equations of `fold` / `foldList` that the other
inductions over trees use as well.
-/
import Emboss.Spec.FmtEquivB
import Emboss.Lemmas.FmtHandlers
namespace Emboss.Fmt

theorem foldList_get {tbl : Table} {iw : Nat} : ∀ {cs : List Tree} {args : List Fmt},
    foldList tbl iw cs = some args → ∀ i : Nat, args[i]? = cs[i]?.bind (fold tbl iw) := by
  intro cs
  induction cs with
  | nil =>
    intro args h i
    simp only [foldList, Option.some.injEq] at h; subst h; rfl
  | cons c rest ih =>
    intro args h i
    simp only [foldList] at h
    split at h
    · cases h
    · rename_i v0 hv0
      split at h
      · cases h
      · rename_i vs hvs
        cases h
        cases i with
        | zero => exact hv0.symm
        | succ j => exact ih hvs j

theorem handlerAt_fold {tbl : Table} {p : Nat} {h : Handler} (hh : handlerAt tbl p = some h)
    (iw : Nat) (cs : List Tree) :
    fold tbl iw (.node p cs) = (foldList tbl iw cs).bind (h.run iw) := by
  simp only [handlerAt] at hh
  cases he : tbl[p]? with
  | none => simp [he] at hh
  | some e =>
    simp only [he, Option.bind_some] at hh
    simp only [fold, he, hh]
    cases foldList tbl iw cs <;> rfl

theorem foldList_cons (tbl : Table) (iw : Nat) (t : Tree) (ts : List Tree) :
    foldList tbl iw (t :: ts) =
      (fold tbl iw t).bind (fun v => (foldList tbl iw ts).bind (fun vs => some (v :: vs))) := by
  simp only [foldList]
  cases fold tbl iw t <;> cases foldList tbl iw ts <;> rfl

theorem foldList_two (tbl : Table) (iw : Nat) (a b : Tree) :
    foldList tbl iw [a, b] =
      (fold tbl iw a).bind (fun x => (fold tbl iw b).bind (fun y => some [x, y])) := by
  simp only [foldList]
  cases fold tbl iw a <;> cases fold tbl iw b <;> rfl

theorem layoutBlankList_eq_all : ∀ cs : List Tree, layoutBlankList cs = cs.all layoutBlank
  | [] => rfl
  | c :: cs => by rw [layoutBlankList, List.all_cons, layoutBlankList_eq_all cs]

theorem tableTyped_entry {tbl : Table} (ht : tableTyped tbl = true) {p : Nat} {e} (he : tbl[p]? = some e) :
    checkEntry e = true ∧ dropOK e = true ∧ isLayoutSym e.1 = false := by
  have hm : e ∈ tbl := List.mem_of_getElem? he
  simp only [tableTyped, Bool.and_eq_true, List.all_eq_true] at ht
  exact ⟨ht.1.1 e hm, ht.1.2 e hm, by simpa using ht.2 e hm⟩

theorem layout_child_blank {tbl : Table} (ht : tableTyped tbl = true) (iw : Nat) (c : Tree) (v : Fmt)
    (hl : layoutBlank c = true) (hs : isLayoutSym (rootSym tbl c) = true)
    (hf : fold tbl iw c = some v) : content v = [] := by
  cases c with
  | tok sym text =>
    simp only [fold] at hf; cases hf
    simp only [rootSym] at hs
    simp only [layoutBlank, hs, Bool.not_true, Bool.false_or, List.isEmpty_iff] at hl
    simpa using hl
  | node p cs =>
    -- no production has a layout symbol on its left
    simp only [rootSym] at hs
    split at hs
    · rename_i e he
      rw [(tableTyped_entry ht he).2.2] at hs; cases hs
    · exact absurd hs (by decide)

theorem hasKind_nil_of_hasEmpty {k : Kind} (h : k.hasEmpty = true) : HasKind .nil k := by
  cases k <;> simp [Kind.hasEmpty] at h
  · exact ⟨[], rfl, PlainRows.nil⟩
  · exact ⟨[], rfl, by simp⟩
  · exact ⟨[], rfl, by simp⟩
  · exact ⟨[], rfl, by simp⟩

theorem wf_node {tbl : Table} {p : Nat} {cs : List Tree} (hw : wf tbl (.node p cs) = true) :
    ∃ e h, tbl[p]? = some e ∧ resolve e = some h ∧ cs.map (rootSym tbl) = e.2.1 ∧
      wfList tbl cs = true ∧ docLineOK tbl h cs = true := by
  simp only [wf] at hw
  split at hw
  · cases hw
  · rename_i e he
    simp only [Bool.and_eq_true, beq_iff_eq] at hw
    obtain ⟨⟨hrhs, hwl⟩, hdoc⟩ := hw
    cases hres : resolve e with
    | none => simp [hres] at hdoc
    | some h => exact ⟨e, h, he, hres, hrhs, hwl, by simpa only [hres] using hdoc⟩

/-- The signature is defined at every checked entry; `_empty_list` is special only in the kind of
its result (`[]` has every list kind). -/
theorem sig_of_checkEntry {e : String × List String × String × Bool} {h : Handler}
    (hres : resolve e = some h) (hce : checkEntry e = true) :
    ∃ k, h.sig (e.2.1.map kindOf) = some k ∧
      (k.le (kindOf e.1) = true ∨ h = .emptyList ∧ (kindOf e.1).hasEmpty = true) := by
  simp only [checkEntry, hres] at hce
  unfold checkCore at hce
  split at hce
  · cases hce
  · rename_i heq; cases heq
    rw [Bool.and_eq_true, List.isEmpty_iff] at hce
    exact ⟨.rows, by rw [hce.1]; rfl, .inr ⟨rfl, hce.2⟩⟩
  · rename_i heq
    cases heq
    split at hce
    · rename_i k hk; exact ⟨k, hk, .inl hce⟩
    · cases hce

mutual
  theorem fold_ok (tbl : Table) (iw : Nat) (ht : tableTyped tbl = true) : ∀ (t : Tree),
      wf tbl t = true →
      ∃ v, fold tbl iw t = some v ∧ HasKind v (kindOf (rootSym tbl t)) ∧
        (layoutBlank t = true → content v = despace (leaves t).flatten)
    | .tok sym text, hw => by
      simp only [wf, beq_iff_eq] at hw
      refine ⟨.str text, rfl, ?_, fun _ => by simp [leaves]⟩
      simp only [rootSym, hw]; exact ⟨_, rfl⟩
    | .node p cs, hw => by
      obtain ⟨e, h, he, hres, hrhs, hwl, hdoc⟩ := wf_node hw
      obtain ⟨hce, hdo, _⟩ := tableTyped_entry ht he
      obtain ⟨args, hargs, hkinds, hcont⟩ := foldList_ok tbl iw ht cs hwl
      have hfold : fold tbl iw (.node p cs) = h.run iw args := by
        simp only [fold, he, hres, hargs]
      have hroot : rootSym tbl (.node p cs) = e.1 := by simp only [rootSym, he]
      rw [hfold, hroot]
      simp only [leaves, layoutBlank]
      have hkinds' : HasKinds args (e.2.1.map kindOf) := by
        rw [← hrhs, List.map_map]; exact hkinds
      obtain ⟨k, hsig, hle⟩ := sig_of_checkEntry hres hce
      -- on a doc line the `Comment?` child is the empty production
      have hdoc' : h = .docLine → args[1]? = some (.str []) := by
        rintro rfl
        simp only [docLineOK, if_true] at hdoc
        split at hdoc
        · rename_i c0 q c2
          rw [foldList_get hargs 1]
          exact handlerAt_fold (eq_of_beq hdoc) iw []
        · cases hdoc
      obtain ⟨v, hv, hkv, hcv⟩ := run_ok iw h args _ k hdoc' hkinds' hsig
      refine ⟨v, hv, ?_, fun hl => ?_⟩
      · rcases hle with hle | ⟨rfl, hemp⟩
        · exact hkv.weaken hle
        · cases args with
          | nil => cases hv; exact hasKind_nil_of_hasEmpty hemp
          | cons => cases hv
      · -- a dropped position holds a layout symbol (`dropOK`); no production has one on its left,
        -- so the child is a token, and blank (`layoutBlank`)
        have hdrop : ∀ i v, 0 + i ∈ h.dropped → args[i]? = some v → content v = [] := by
          intro i v hi hv
          rw [Nat.zero_add] at hi
          simp only [dropOK, dropCore, hres, ← hrhs, List.all_eq_true, List.getElem?_map] at hdo
          have hsym := hdo i hi
          rw [foldList_get hargs i] at hv
          cases hc : cs[i]? with
          | none => rw [hc] at hv; cases hv
          | some c =>
            rw [hc] at hv hsym
            rw [layoutBlankList_eq_all, List.all_eq_true] at hl
            exact layout_child_blank ht iw c v (hl c (List.mem_of_getElem? hc)) hsym hv
        rw [hcv, contents_blankAt _ _ 0 hdrop, hcont hl]
  theorem foldList_ok (tbl : Table) (iw : Nat) (ht : tableTyped tbl = true) : ∀ (ts : List Tree),
      wfList tbl ts = true →
      ∃ vs, foldList tbl iw ts = some vs ∧
        HasKinds vs (ts.map (fun t => kindOf (rootSym tbl t))) ∧
        (layoutBlankList ts = true → contents vs = despace (leavesList ts).flatten)
    | [], _ => ⟨[], rfl, trivial, fun _ => rfl⟩
    | t :: ts, hw => by
      simp only [wfList, Bool.and_eq_true] at hw
      obtain ⟨v, hv, hk, hc⟩ := fold_ok tbl iw ht t hw.1
      obtain ⟨vs, hvs, hks, hcs⟩ := foldList_ok tbl iw ht ts hw.2
      refine ⟨v :: vs, by simp only [foldList, hv, hvs], ⟨hk, hks⟩, fun hl => ?_⟩
      simp only [layoutBlankList, Bool.and_eq_true] at hl
      simp [leavesList, hc hl.1, hcs hl.2]
end

mutual
  theorem leaves_content_eq : ∀ (t : Tree), layoutBlank t = true →
      despace (leaves t).flatten = despace (contentLeaves t).flatten
    | .tok sym text, h => by
      simp only [layoutBlank, Bool.or_eq_true, Bool.not_eq_true', List.isEmpty_iff] at h
      simp only [leaves, contentLeaves]
      split
      · rename_i hs
        rcases h with h | h
        · rw [h] at hs; cases hs
        · simp [h]
      · rfl
    | .node _ cs, h => by
      simp only [layoutBlank] at h
      simp only [leaves, contentLeaves]
      exact leavesList_content_eq cs h
  theorem leavesList_content_eq : ∀ (ts : List Tree), layoutBlankList ts = true →
      despace (leavesList ts).flatten = despace (contentLeavesList ts).flatten
    | [], _ => rfl
    | t :: ts, h => by
      simp only [layoutBlankList, Bool.and_eq_true] at h
      simp only [leavesList, contentLeavesList, List.flatten_append, despace_append,
        leaves_content_eq t h.1, leavesList_content_eq ts h.2]
end

end Emboss.Fmt
