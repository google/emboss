/-
The synthesized `$size_in_*` expression computes the reference size (`eval_synthSize`, for
`C01_size_is_max_end`), which bounds every present field (`sizeFrom_bounds`, for
`C01_size_covers_present_fields`).
-/
import Emboss.Model.Synth
import Emboss.Spec.View
namespace Emboss.View
open Emboss.ViewSpec

/-- what the reference needs to know about the physical fields, as the view sees them -/
def extents (env : Env) : List Field → List Extent
  | [] => []
  | f :: fs =>
    match f.kind with
    | .phys start size _ _ => (evalBool env f.cond, evalInt env start, evalInt env size) :: extents env fs
    | _ => extents env fs

theorem mem_extents {env : Env} {f : Field} {start size : Expr} {ty : PType} {bo : ByteOrder}
    (hk : f.kind = .phys start size ty bo) :
    ∀ fs : List Field, f ∈ fs → (evalBool env f.cond, evalInt env start, evalInt env size) ∈ extents env fs
  | [], h => by cases h
  | g :: gs, h => by
    cases h with
    | head =>
      simp only [extents, hk]
      exact List.mem_cons_self
    | tail _ h' =>
      have ih := mem_extents (env := env) hk gs h'
      simp only [extents]
      cases g.kind <;> first | exact List.mem_cons_of_mem _ ih | exact ih

theorem imax_eq_max (a b : Int) : imax a b = max a b := by
  unfold imax; omega

theorem maybeMax_cons (a : Int) (x : Option Val) (l : List (Option Val)) :
    maybeMax (some (.int a) :: x :: l) = (maybeMax (x :: l)).map (imax a) := by
  simp only [maybeMax]
  cases maybeMax (x :: l) <;> rfl

theorem maybeMax_merge (a c : Int) (l : List (Option Val)) :
    maybeMax (some (.int a) :: some (.int c) :: l) = maybeMax (some (.int (imax a c)) :: l) := by
  cases l with
  | nil => rfl
  | cons x l =>
    rw [maybeMax_cons, maybeMax_cons, maybeMax_cons, Option.map_map]
    congr 1
    funext r
    simp only [Function.comp, imax_eq_max, Int.max_assoc]

theorem eval_sizeClause (env : Env) (c s z : Expr) :
    eval env (sizeClause c s z) =
      maybeChoice (eval env c) (maybeInt2 (fun x y => .int (x + y)) (eval env s) (eval env z))
        (some (.int 0)) := rfl

/-- The operands seen so far, merged into `a`, are the reference's accumulator: `a` starts as the
literal `0` of `$max(0, …)` and never decreases, so the `0` that an absent field contributes leaves
it as it is. -/
theorem maybeMax_clauses (env : Env) : ∀ (fs : List Field) (a : Int), 0 ≤ a →
    maybeMax (some (.int a) :: evalList env (sizeClauses fs)) = sizeFrom a (extents env fs)
  | [], a, _ => rfl
  | f :: fs, a, ha => by
    cases hk : f.kind with
    | virt v r => simp only [sizeClauses, extents, hk]; exact maybeMax_clauses env fs a ha
    | alias t => simp only [sizeClauses, extents, hk]; exact maybeMax_clauses env fs a ha
    | phys start size ty bo =>
      simp only [sizeClauses, extents, hk, evalList]
      rw [eval_sizeClause]
      unfold evalBool evalInt
      cases eval env f.cond with
      | none => rfl
      | some cv =>
        cases cv with
        | int i => rfl
        | bool b =>
          cases b with
          | false =>
            refine (maybeMax_merge a 0 _).trans ?_
            rw [show imax a 0 = a by rw [imax_eq_max]; omega]
            exact maybeMax_clauses env fs a ha
          | true =>
            cases eval env start with
            | none => rfl
            | some sv =>
              cases sv with
              | bool q => rfl
              | int x =>
                cases eval env size with
                | none => rfl
                | some zv =>
                  cases zv with
                  | bool q => rfl
                  | int y =>
                    exact (maybeMax_merge a (x + y) _).trans
                      (maybeMax_clauses env fs _ (by rw [imax_eq_max]; omega))

theorem eval_synthSize (env : Env) (fs : List Field) :
    eval env (synthSize fs) = (ViewSpec.size (extents env fs)).map Val.int := by
  simp only [synthSize, eval, evalList, applyFn, ViewSpec.size]
  rw [maybeMax_clauses env fs 0 (Int.le_refl 0)]

theorem sizeFrom_bounds (acc : Int) (l : List Extent) (r : Int) :
    sizeFrom acc l = some r →
      acc ≤ r ∧ ∀ s z : Int, (some true, some s, some z) ∈ l → s + z ≤ r := by
  fun_induction sizeFrom acc l with
  | case1 acc =>
    intro h
    cases h
    exact ⟨Int.le_refl _, fun _ _ hm => nomatch hm⟩
  | case2 => intro h; cases h
  | case3 acc _ _ rest ih =>
    intro h
    refine ⟨(ih h).1, fun s z hm => ?_⟩
    cases hm with
    | tail _ hm' => exact (ih h).2 s z hm'
  | case4 acc s0 z0 rest ih =>
    intro h
    have hacc := (ih h).1
    rw [imax_eq_max] at hacc
    refine ⟨by omega, fun s z hm => ?_⟩
    cases hm with
    | head => omega
    | tail _ hm' => exact (ih h).2 s z hm'
  | case5 => intro h; cases h

theorem synthSize_covers (env : Env) (fs : List Field) (r : Int)
    (h : eval env (synthSize fs) = some (.int r)) :
    0 ≤ r ∧ ∀ s z : Int, (some true, some s, some z) ∈ extents env fs → s + z ≤ r :=
  sizeFrom_bounds 0 _ _ (Option.map_injective (fun _ _ => Val.int.inj)
    ((eval_synthSize env fs).symm.trans h))

end Emboss.View
