/-
MemoryAccessor lemmas.  Loads: both code paths return `leValue` of the bytes (little endian) or of
the reversed bytes (big endian).  Stores: both code paths write `nativeStore (kBits / 8) v`,
reversed for big endian.  `Bytes l`: every element of `l` is a byte; `beValue`: the value with the
most significant byte first, the form the big-endian loop accumulates.
-/
import Emboss.Lemmas.Bits
import Emboss.Spec.Scalar
namespace Emboss.Scalar
open Emboss.Bits Emboss.Scalar.Spec

/-- Every element is a byte. -/
def Bytes (l : List Nat) : Prop := ∀ b ∈ l, b < 256

theorem Bytes.tail {b : Nat} {l : List Nat} (h : Bytes (b :: l)) : Bytes l :=
  fun x hx => h x (List.mem_cons_of_mem _ hx)

theorem Bytes.head {b : Nat} {l : List Nat} (h : Bytes (b :: l)) : b < 256 :=
  h b (List.mem_cons_self)

theorem Bytes.append {l₁ l₂ : List Nat} (h₁ : Bytes l₁) (h₂ : Bytes l₂) : Bytes (l₁ ++ l₂) :=
  List.forall_mem_append.mpr ⟨h₁, h₂⟩

theorem Bytes.reverse {l : List Nat} (h : Bytes l) : Bytes l.reverse :=
  fun b hb => h b (List.mem_reverse.mp hb)

theorem bytes_replicate_zero (n : Nat) : Bytes (List.replicate n 0) :=
  List.forall_mem_replicate.mpr (.inr (by decide))

theorem nativeLoad_eq_leValue (l : List Nat) : nativeLoad l = leValue l := by
  induction l with
  | nil => rfl
  | cons b bs ih => simp [nativeLoad, leValue, ih]

theorem pow8_succ (i : Nat) : 2 ^ (8 * (i + 1)) = 2 ^ (8 * i) * 256 := by
  rw [Nat.mul_add, Nat.pow_add]

theorem leValue_lt {l : List Nat} (h : Bytes l) : leValue l < 2 ^ (8 * l.length) := by
  induction l with
  | nil => simp [leValue]
  | cons b bs ih =>
    have := ih h.tail
    have hb := h.head
    simp only [leValue, List.length_cons, pow8_succ]
    omega

theorem leValue_append (l₁ l₂ : List Nat) :
    leValue (l₁ ++ l₂) = leValue l₁ + 2 ^ (8 * l₁.length) * leValue l₂ := by
  induction l₁ with
  | nil => simp [leValue]
  | cons b bs ih =>
    simp only [List.cons_append, leValue, ih, List.length_cons, pow8_succ]
    rw [Nat.mul_add, Nat.mul_comm (2 ^ (8 * bs.length)) 256, Nat.mul_assoc, Nat.add_assoc]

theorem leValue_split {l₁ l₂ : List Nat} (h₁ : Bytes l₁) :
    leValue (l₁ ++ l₂) % 2 ^ (8 * l₁.length) = leValue l₁ ∧
    leValue (l₁ ++ l₂) / 2 ^ (8 * l₁.length) = leValue l₂ := by
  rw [leValue_append]
  have h := leValue_lt h₁
  have hp := Nat.two_pow_pos (8 * l₁.length)
  constructor
  · rw [Nat.add_mul_mod_self_left]; exact Nat.mod_eq_of_lt h
  · rw [Nat.add_mul_div_left _ _ hp, Nat.div_eq_of_lt h, Nat.zero_add]

theorem leValue_replicate_zero (n : Nat) : leValue (List.replicate n 0) = 0 := by
  induction n with
  | zero => rfl
  | succ n ih => simp [List.replicate_succ, leValue, ih]

/-! ### Byte loops -/

theorem readLEAux_eq (W : Nat) (bs : List Nat) (i r : Nat) (hb : Bytes bs)
    (hr : r < 2 ^ (8 * i)) (hW : 8 * (i + bs.length) ≤ W) :
    readLEAux W bs i r = r + 2 ^ (8 * i) * leValue bs := by
  induction bs generalizing i r with
  | nil => simp [readLEAux, leValue]
  | cons b bs ih =>
    simp only [List.length_cons] at hW
    obtain ⟨hstep, hlt⟩ := wrap_or_shl (W := W) hr (s := 8) hb.head (by omega)
    rw [readLEAux, Nat.mul_comm i 8, hstep, ih (i + 1) _ hb.tail hlt (by omega), leValue,
      pow8_succ, Nat.mul_add, Nat.mul_comm b, Nat.mul_assoc, Nat.add_assoc]

theorem readLELoop_eq {kBits : Nat} {bytes : List Nat} (hb : Bytes bytes)
    (hlen : bytes.length * 8 = kBits) (hk : kBits ≤ 64) :
    readLELoop kBits bytes = leValue bytes := by
  unfold readLELoop
  rw [readLEAux_eq _ _ 0 0 hb (by simp) (by have := le_leastWidth hk; omega)]
  simp

/-- Big-endian value, most significant byte first. -/
def beValue : List Nat → Nat
  | [] => 0
  | b :: bs => b * 2 ^ (8 * bs.length) + beValue bs

theorem beValue_eq_leValue_reverse (l : List Nat) : beValue l = leValue l.reverse := by
  induction l with
  | nil => rfl
  | cons b bs ih =>
    simp only [beValue, List.reverse_cons, leValue_append, List.length_reverse, leValue, ih]
    rw [Nat.mul_zero, Nat.add_zero, Nat.mul_comm, Nat.add_comm]

theorem beValue_lt {l : List Nat} (h : Bytes l) : beValue l < 2 ^ (8 * l.length) := by
  rw [beValue_eq_leValue_reverse, ← List.length_reverse]; exact leValue_lt h.reverse

theorem readBEAux_eq (W kBits : Nat) (bs : List Nat) (i r : Nat) (hb : Bytes bs)
    (hk : kBits = 8 * (i + bs.length)) (hr : r < 2 ^ W) (hW : kBits ≤ W) :
    readBEAux W kBits bs i r = r ||| beValue bs := by
  induction bs generalizing i r with
  | nil => simp [readBEAux, beValue]
  | cons b bs ih =>
    simp only [List.length_cons] at hk
    have hblt : b * 2 ^ (8 * bs.length) < 2 ^ (8 * (bs.length + 1)) := by
      rw [pow8_succ, Nat.mul_comm]; exact Nat.mul_lt_mul_of_pos_left hb.head (Nat.two_pow_pos _)
    have hbW := lt_pow_of_lt_of_le hblt (by omega : 8 * (bs.length + 1) ≤ W)
    have hr' := Nat.or_lt_two_pow hr hbW
    rw [readBEAux, show kBits - 8 - i * 8 = 8 * bs.length by omega,
      shl_eq (lt_pow_of_lt_of_le hbW (le_arithW W)), wrap_of_lt hr',
      ih (i + 1) _ hb.tail (by omega) hr', Nat.or_assoc, beValue, Nat.mul_comm b,
      Nat.two_pow_add_eq_or_of_lt (beValue_lt hb.tail)]

theorem readBELoop_eq {kBits : Nat} {bytes : List Nat} (hb : Bytes bytes)
    (hlen : bytes.length * 8 = kBits) (hk : kBits ≤ 64) :
    readBELoop kBits bytes = leValue bytes.reverse := by
  rw [readBELoop, readBEAux_eq _ kBits bytes 0 0 hb (by omega) (Nat.two_pow_pos _)
    (le_leastWidth hk), Nat.zero_or, beValue_eq_leValue_reverse]

/-! ### memcpy paths -/

theorem readLEMemcpy_eq (kBits : Nat) (bytes : List Nat) :
    readLEMemcpy kBits bytes = leValue bytes := by
  unfold readLEMemcpy
  rw [nativeLoad_eq_leValue, leValue_append, leValue_replicate_zero]; simp

theorem byteSwap16_eq {a b : Nat} (ha : a < 2 ^ 8) (hb : b < 2 ^ 8) :
    byteSwap16 (a + 2 ^ 8 * b) = a * 2 ^ 8 + b := by
  unfold byteSwap16
  rw [shl_eq (by omega), Nat.shiftRight_eq_div_pow, Nat.add_mul_div_left _ _ (Nat.two_pow_pos 8),
    Nat.div_eq_of_lt ha, Nat.zero_add, Nat.mul_comm _ (2 ^ 8), ← Nat.two_pow_add_eq_or_of_lt hb]
  unfold wrap; omega

theorem byteSwap16_lt (x : Nat) : byteSwap16 x < 2 ^ 16 := wrap_lt _ _

/-- `(f(low half) << n) | f(high half)` of the `2n`-bit word with low half `a` and high half `b`:
the shape of `ByteSwap` at 32 and 64 bits (`f` = the swap of the next smaller size), without
overflow of the word. -/
theorem swapHalves_eq {f : Nat → Nat} {n a b : Nat} (ha : a < 2 ^ n) (hb : b < 2 ^ n)
    (hf : ∀ y, f y < 2 ^ n) :
    shl (n + n) (f (wrap n (a + 2 ^ n * b))) n ||| f (wrap n ((a + 2 ^ n * b) >>> n)) =
      f a * 2 ^ n + f b := by
  have hsh : f a * 2 ^ n < 2 ^ (n + n) := by
    rw [Nat.pow_add]; exact Nat.mul_lt_mul_of_pos_right (hf _) (Nat.two_pow_pos n)
  rw [Nat.shiftRight_eq_div_pow, Nat.add_mul_div_left _ _ (Nat.two_pow_pos n), Nat.div_eq_of_lt ha,
    Nat.zero_add, wrap_of_lt hb, wrap, Nat.add_mul_mod_self_left, Nat.mod_eq_of_lt ha, shl_eq hsh,
    Nat.mul_comm _ (2 ^ n), ← Nat.two_pow_add_eq_or_of_lt (hf _)]

theorem byteSwap32_lt (x : Nat) : byteSwap32 x < 2 ^ 32 :=
  Nat.or_lt_two_pow (wrap_lt 32 _) (lt_pow_of_lt_of_le (byteSwap16_lt _) (by decide))

theorem byteSwap32_eq {a b : Nat} (ha : a < 2 ^ 16) (hb : b < 2 ^ 16) :
    byteSwap32 (a + 2 ^ 16 * b) = byteSwap16 a * 2 ^ 16 + byteSwap16 b :=
  swapHalves_eq (n := 16) ha hb byteSwap16_lt

theorem byteSwap64_eq {a b : Nat} (ha : a < 2 ^ 32) (hb : b < 2 ^ 32) :
    byteSwap64 (a + 2 ^ 32 * b) = byteSwap32 a * 2 ^ 32 + byteSwap32 b :=
  swapHalves_eq (n := 32) ha hb byteSwap32_lt

theorem swapHalves_leValue {f F : Nat → Nat} {n : Nat} {mem : List Nat} (hlen : mem.length = n + n)
    (hb : Bytes mem)
    (hF : ∀ {a b}, a < 2 ^ (8 * n) → b < 2 ^ (8 * n) →
      F (a + 2 ^ (8 * n) * b) = f a * 2 ^ (8 * n) + f b)
    (hf : ∀ l : List Nat, l.length = n → Bytes l → f (leValue l) = leValue l.reverse) :
    F (leValue mem) = leValue mem.reverse := by
  obtain ⟨l₁, l₂, rfl, h₁, h₂⟩ : ∃ l₁ l₂, mem = l₁ ++ l₂ ∧ l₁.length = n ∧ l₂.length = n :=
    ⟨mem.take n, mem.drop n, (List.take_append_drop n mem).symm, by simp [hlen], by simp [hlen]⟩
  obtain ⟨hb₁, hb₂⟩ : Bytes l₁ ∧ Bytes l₂ := List.forall_mem_append.mp hb
  rw [leValue_append, h₁, hF (h₁ ▸ leValue_lt hb₁) (h₂ ▸ leValue_lt hb₂), hf _ h₁ hb₁, hf _ h₂ hb₂,
    List.reverse_append, leValue_append, List.length_reverse, h₂, Nat.mul_comm, Nat.add_comm]

theorem reverse_of_length_one {l : List Nat} (h : l.length = 1) : l.reverse = l := by
  obtain ⟨a, rfl⟩ := List.length_eq_one_iff.mp h; rfl

theorem byteSwap16_leValue {mem : List Nat} (hlen : mem.length = 2) (hb : Bytes mem) :
    byteSwap16 (leValue mem) = leValue mem.reverse :=
  swapHalves_leValue (f := id) (n := 1) hlen hb byteSwap16_eq fun _ h _ => by
    rw [reverse_of_length_one h]; rfl

theorem byteSwap32_leValue {mem : List Nat} (hlen : mem.length = 4) (hb : Bytes mem) :
    byteSwap32 (leValue mem) = leValue mem.reverse :=
  swapHalves_leValue (n := 2) hlen hb byteSwap32_eq fun _ => byteSwap16_leValue

theorem byteSwap64_leValue {mem : List Nat} (hlen : mem.length = 8) (hb : Bytes mem) :
    byteSwap64 (leValue mem) = leValue mem.reverse :=
  swapHalves_leValue (n := 4) hlen hb byteSwap64_eq fun _ => byteSwap32_leValue

/-- `ByteSwap` reverses the object representation. -/
theorem byteSwap_nativeLoad {W : Nat} {mem : List Nat} (hW : W = 8 ∨ W = 16 ∨ W = 32 ∨ W = 64)
    (hlen : mem.length * 8 = W) (hb : Bytes mem) :
    byteSwap W (nativeLoad mem) = nativeLoad mem.reverse := by
  simp only [nativeLoad_eq_leValue]
  rcases hW with rfl | rfl | rfl | rfl
  · rw [reverse_of_length_one (by omega)]; rfl
  · exact byteSwap16_leValue (by omega) hb
  · exact byteSwap32_leValue (by omega) hb
  · exact byteSwap64_leValue (by omega) hb

theorem readBEMemcpy_eq {kBits : Nat} {bytes : List Nat} (hb : Bytes bytes)
    (hlen : bytes.length * 8 = kBits) (hk : kBits ≤ 64) :
    readBEMemcpy kBits bytes = leValue bytes.reverse := by
  unfold readBEMemcpy
  have hle := le_leastWidth hk
  have hW := leastWidth_cases kBits
  rw [byteSwap_nativeLoad hW ?_ ((bytes_replicate_zero _).append hb)]
  · rw [nativeLoad_eq_leValue, List.reverse_append, leValue_append, List.reverse_replicate,
      leValue_replicate_zero]; simp
  · simp only [List.length_append, List.length_replicate]
    have := leastWidth_div_mul kBits; omega

/-! ### Either path -/

theorem loadLE_eq (p : Path) {kBits : Nat} {bytes : List Nat} (hb : Bytes bytes)
    (hlen : bytes.length * 8 = kBits) (hk : kBits ≤ 64) :
    loadLE p kBits bytes = leValue bytes := by
  cases p
  · exact readLEMemcpy_eq _ _
  · exact readLELoop_eq hb hlen hk

theorem loadBE_eq (p : Path) {kBits : Nat} {bytes : List Nat} (hb : Bytes bytes)
    (hlen : bytes.length * 8 = kBits) (hk : kBits ≤ 64) :
    loadBE p kBits bytes = leValue bytes.reverse := by
  cases p
  · exact readBEMemcpy_eq hb hlen hk
  · exact readBELoop_eq hb hlen hk

/-! ### Stores -/

theorem writeLELoop_eq_nativeStore (n v : Nat) : writeLELoop n v = nativeStore n v := by
  induction n generalizing v with
  | zero => rfl
  | succ n ih =>
    simp only [writeLELoop, nativeStore, ih, wrap, Nat.shiftRight_eq_div_pow]

theorem nativeStore_length (n v : Nat) : (nativeStore n v).length = n := by
  induction n generalizing v with
  | zero => rfl
  | succ n ih => simp [nativeStore, ih]

theorem nativeStore_bytes (n v : Nat) : Bytes (nativeStore n v) := by
  induction n generalizing v with
  | zero => exact fun _ h => nomatch h
  | succ n ih => exact List.forall_mem_cons.mpr ⟨Nat.mod_lt _ (by decide), ih _⟩

theorem leValue_nativeStore (n v : Nat) : leValue (nativeStore n v) = v % 2 ^ (8 * n) := by
  induction n generalizing v with
  | zero => simp [nativeStore, leValue, Nat.mod_one]
  | succ n ih =>
    simp only [nativeStore, leValue, ih, pow8_succ]
    rw [Nat.mul_comm (2 ^ (8 * n)) 256, Nat.mod_mul]

theorem nativeStore_take {k n : Nat} (h : k ≤ n) (v : Nat) :
    (nativeStore n v).take k = nativeStore k v := by
  induction k generalizing n v with
  | zero => simp [nativeStore]
  | succ k ih =>
    obtain ⟨m, rfl⟩ : ∃ m, n = m + 1 := ⟨n - 1, by omega⟩
    simp only [nativeStore, List.take_succ_cons, ih (by omega : k ≤ m)]

theorem nativeStore_leValue {mem : List Nat} (hb : Bytes mem) :
    nativeStore mem.length (leValue mem) = mem := by
  induction mem with
  | nil => rfl
  | cons b bs ih =>
    have hb0 := hb.head
    simp only [List.length_cons, nativeStore, leValue]
    have h1 : (b + 256 * leValue bs) % 256 = b := by omega
    have h2 : (b + 256 * leValue bs) / 256 = leValue bs := by omega
    rw [h1, h2, ih hb.tail]

theorem storeLE_eq (p : Path) {kBits : Nat} (hk : kBits ≤ 64) (v : Nat) :
    storeLE p kBits v = nativeStore (kBits / 8) v := by
  cases p
  · simp only [storeLE, writeLEMemcpy]
    apply nativeStore_take
    have := le_leastWidth hk
    exact Nat.div_le_div_right this
  · exact writeLELoop_eq_nativeStore _ _

theorem storeBE_eq (p : Path) {kBits : Nat} (hk : kBits ≤ 64) {v : Nat}
    (hv : v < 2 ^ kBits) : storeBE p kBits v = (nativeStore (kBits / 8) v).reverse := by
  cases p
  · simp only [storeBE, writeBEMemcpy]
    have hle := le_leastWidth hk
    have hW := leastWidth_cases kBits
    have hWm := leastWidth_div_mul kBits
    have hvW : v < 2 ^ (8 * (leastWidth kBits / 8)) := by
      rw [Nat.mul_comm, hWm]; exact lt_pow_of_lt_of_le hv hle
    have hv' : v = nativeLoad (nativeStore (leastWidth kBits / 8) v) := by
      rw [nativeLoad_eq_leValue, leValue_nativeStore, Nat.mod_eq_of_lt hvW]
    have hsw : byteSwap (leastWidth kBits) v =
        leValue (nativeStore (leastWidth kBits / 8) v).reverse := by
      conv => lhs; rw [hv']
      rw [byteSwap_nativeLoad hW (by rw [nativeStore_length]; exact hWm) (nativeStore_bytes _ _),
        nativeLoad_eq_leValue]
    have hst : nativeStore (leastWidth kBits / 8) (byteSwap (leastWidth kBits) v) =
        (nativeStore (leastWidth kBits / 8) v).reverse := by
      rw [hsw]
      have := nativeStore_leValue (nativeStore_bytes (leastWidth kBits / 8) v).reverse
      rw [List.length_reverse, nativeStore_length] at this
      exact this
    rw [hst, List.drop_reverse, nativeStore_length]
    have hkle : kBits / 8 ≤ leastWidth kBits / 8 := Nat.div_le_div_right hle
    rw [show leastWidth kBits / 8 - (leastWidth kBits / 8 - kBits / 8) = kBits / 8 by omega,
      nativeStore_take hkle]
  · simp only [storeBE, writeBELoop, writeLELoop_eq_nativeStore]

end Emboss.Scalar
