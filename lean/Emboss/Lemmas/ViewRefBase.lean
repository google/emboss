/-
Helper lemmas relating the declarative reference `RFact` (Spec/ViewRef.lean) and the generated-
code model `G` (Model/View.lean): expression evaluation, decoding, the fragment per field kind,
families of structures closed under "type of a field" (`Closed`, over which the later files
quantify), the bridges between the spec's windows and `GetOffsetStorage` + `BitBlock` adaptation.
-/
import Emboss.Spec.ViewRef
import Emboss.Lemmas.ViewMono
import Emboss.Lemmas.Synth
import Emboss.Lemmas.SizeFolds
namespace Emboss.ViewRef
open Emboss.View

/-! ### evaluation and decoding: R's against the model's -/

mutual
  theorem evalR_eq_strip (ρ : Env) : ∀ e : Expr, evalR ρ e = eval ρ (stripFolds e)
    | .const v => by simp only [evalR, eval, stripFolds]
    | .fold _ orig => by simp only [evalR, stripFolds]; exact evalR_eq_strip ρ orig
    | .ref p => by simp only [evalR, eval, stripFolds]
    | .param n => by simp only [evalR, eval, stripFolds]
    | .has p => by simp only [evalR, eval, stripFolds]
    | .lv => by simp only [evalR, eval, stripFolds]
    | .op f args => by simp only [evalR, eval, stripFolds, evalRList_eq_strip ρ args]
  theorem evalRList_eq_strip (ρ : Env) : ∀ es : Exprs, evalRList ρ es = evalList ρ (stripFoldsList es)
    | .nil => by simp only [evalRList, evalList, stripFoldsList]
    | .cons e es => by
      simp only [evalRList, evalList, stripFoldsList, evalR_eq_strip ρ e, evalRList_eq_strip ρ es]
end

/-- on expressions whose annotations are closed constants the reference's evaluation (through the
annotations) and the generated code's (literal instead of the annotated node) coincide -/
theorem evalR_eq_eval {ρ : Env} {e : Expr} (h : foldFree e = true) : evalR ρ e = eval ρ e := by
  rw [evalR_eq_strip, ← eval_strip ρ e h]

theorem evalRList_eq_evalList (ρ : Env) (es : Exprs) (h : foldFreeList es = true) :
    evalRList ρ es = evalList ρ es := by
  rw [evalRList_eq_strip, ← evalList_strip ρ es h]

theorem evalArgsR_eq (ρ : Env) : ∀ es : Exprs, foldFreeList es = true → evalArgsR ρ es = evalArgs ρ es
  | .nil, _ => rfl
  | .cons e es, h => by
    simp only [foldFreeList, closedFoldsList, Bool.and_eq_true] at h
    simp only [evalArgsR, evalArgs, evalR_eq_eval h.1, evalArgsR_eq ρ es h.2]
    cases eval ρ e <;> cases evalArgs ρ es <;> rfl

theorem evalR_of_evalBool {env : Env} {e : Expr} {b : Bool} (hff : foldFree e = true)
    (h : evalBool env e = some b) : evalR env e = some (.bool b) := by
  rw [evalR_eq_eval hff]; exact evalBool_eq_some.mp h

theorem evalR_of_evalInt {env : Env} {e : Expr} {i : Int} (hff : foldFree e = true)
    (h : evalInt env e = some i) : evalR env e = some (.int i) := by
  rw [evalR_eq_eval hff]; exact evalInt_eq_some.mp h

theorem leNumber_eq (d : List Nat) : leNumber d = decodeLE d := by
  induction d with
  | nil => rfl
  | cons b r ih => simp only [leNumber, List.foldr_cons, decodeLE] at *; rw [ih]

theorem number_eq (bo : ByteOrder) (d : List Nat) : number bo d = decodeBytes bo d := by
  cases bo <;> simp only [number, decodeBytes, leNumber_eq]

theorem specDecode_eq (k : ScalarKind) (bits raw : Nat) (hk : okKind k = true)
    (hb : 0 < bits) : specDecode k bits raw = scalarDecode k bits raw := by
  cases k with
  | uint => rfl
  | flag => rfl
  | bcd => cases hk
  | float => cases hk
  | enum w s =>
    cases s with
    | true => cases hk
    | false => rfl
  | int =>
    simp only [specDecode, scalarDecode, toSigned]
    congr 2
    by_cases h : raw < 2 ^ (bits - 1)
    · rw [if_pos h, if_neg fun hc => Nat.not_le_of_gt h hc.2]
    · rw [if_neg h, if_pos ⟨Nat.ne_of_gt hb, Nat.le_of_not_lt h⟩]

theorem leafSizeOk_self (k : ScalarKind) (bits : Nat) (hb : 0 < bits) : leafSizeOk k bits bits = true := by
  unfold leafSizeOk
  split <;> simp [hb]

/-! ### what membership in the fragment says, per kind of field -/

theorem litInt?_eq {e : Expr} {z : Int} (h : litInt? e = some z) : e = .const (.int z) := by
  cases e with
  | const v => cases v <;> simp [litInt?] at h; subst h; rfl
  | _ => simp [litInt?] at h

theorem sizeIsBits_inv {unit : Nat} {size : Expr} {bits : Nat} (h : sizeIsBits unit size bits = true) :
    ∃ z : Int, size = .const (.int z) ∧ 0 < bits ∧
      (unit = 8 → z.toNat * 8 = bits) ∧ (unit ≠ 8 → z.toNat = bits) := by
  unfold sizeIsBits at h
  split at h
  · next z hl =>
    simp only [Bool.and_eq_true, decide_eq_true_eq] at h
    refine ⟨z, litInt?_eq hl, h.1.2, fun hu => ?_, fun hu => ?_⟩ <;> simpa [hu] using h.2
  · cases h

theorem ref_of_field {m : Module} {sd : StructDef} (href : refStruct m sd = true) {x : String} {f : Field}
    (h : sd.field x = some f) : refField m sd.unit f = true := by
  unfold refStruct at href
  simp only [List.all_eq_true] at href
  exact href f (field_mem h)

theorem ref_of_find {m : Module} (hm : refModule m = true) {name : String} {sd : StructDef}
    (h : m.find name = some sd) : refStruct m sd = true := by
  unfold refModule at hm
  simp only [List.all_eq_true] at hm
  exact hm sd (find_mem h)

section fragment
variable {m : Module} {u : Nat} {f : Field} (h : refField m u f = true)
include h

theorem refField_cond : foldFree f.cond = true := by
  simp only [refField, Bool.and_eq_true] at h
  exact h.1

theorem refField_scalar {start size : Expr} {k : ScalarKind} {bits : Nat} {req : Option Expr}
    {bo : ByteOrder} (hk : f.kind = .phys start size (.scalar k bits req) bo) :
    okKind k = true ∧ foldFree start = true ∧ foldFree size = true ∧ foldFreeOpt req = true ∧
      0 < bits ∧ sizeIsBits u size bits = true := by
  simp only [refField, hk, Bool.and_eq_true, and_assoc] at h
  obtain ⟨_, hkk, hstart, hreq, hsz⟩ := h
  obtain ⟨z, rfl, hbits, _⟩ := sizeIsBits_inv hsz
  exact ⟨hkk, hstart, rfl, hreq, hbits, hsz⟩

theorem refField_struct {start size : Expr} {name : String} {bits : Nat} {args : Exprs}
    {bo : ByteOrder} (hk : f.kind = .phys start size (.struct name bits args) bo) {sd' : StructDef}
    (hfind : m.find name = some sd') :
    foldFree start = true ∧ foldFree size = true ∧ foldFreeList args = true ∧
      (if u = 8 then sd'.unit == 8 || sizeIsBits 8 size bits else sd'.unit != 8) = true := by
  simp only [refField, hk, hfind, Bool.and_eq_true, and_assoc] at h
  exact h.2

theorem refField_array {start size : Expr} {el : PType} {es : Nat} {bo : ByteOrder}
    (hk : f.kind = .phys start size (.array el es) bo) :
    ∃ k bits req, el = .scalar k bits req ∧ okKind k = true ∧ foldFree start = true ∧
      foldFree size = true ∧ foldFreeOpt req = true ∧ 0 < bits ∧ u = 8 ∧ es * 8 = bits ∧ 0 < es := by
  rw [refField, hk] at h
  cases el with
  | scalar k bits req =>
    simp only [Bool.and_eq_true, decide_eq_true_eq, beq_iff_eq, and_assoc] at h
    obtain ⟨_, hk, hs, hz, hr, hb, hu, he⟩ := h
    exact ⟨k, bits, req, rfl, hk, hs, hz, hr, hb, hu, he, Nat.pos_of_mul_pos_right (he ▸ hb)⟩
  | struct a b c => simp at h
  | array a b => simp at h

theorem refField_virt {value : Expr} {req : Option Expr} (hk : f.kind = .virt value req) :
    foldFree value = true ∧ foldFreeOpt req = true := by
  simp only [refField, hk, Bool.and_eq_true] at h
  exact h.2

end fragment

/-- condition and location of a field carry no folding annotations other than closed constants -/
def locFoldFree (f : Field) : Bool :=
  foldFree f.cond &&
  match f.kind with
  | .phys start size _ _ => foldFree start && foldFree size
  | _ => true

theorem locFoldFree_of_ref {m : Module} {unit : Nat} {f : Field} (h : refField m unit f = true) :
    locFoldFree f = true := by
  unfold locFoldFree
  rw [refField_cond h, Bool.true_and]
  cases hk : f.kind with
  | alias t => rfl
  | virt a b => rfl
  | phys start size ty bo =>
    cases ty with
    | scalar k bits req =>
      obtain ⟨_, hs, hz, _⟩ := refField_scalar h hk
      simp only [hs, hz, Bool.and_self]
    | struct name bits args =>
      cases hfind : m.find name with
      | none => simp [refField, hk, hfind] at h
      | some sd' =>
        obtain ⟨hs, hz, _⟩ := refField_struct h hk hfind
        simp only [hs, hz, Bool.and_self]
    | array el es =>
      obtain ⟨_, _, _, _, _, hs, hz, _⟩ := refField_array h hk
      simp only [hs, hz, Bool.and_self]

/-! ### families of structures closed under "type of a field" -/

/-- `P` holds of structures that satisfy the per-structure hypotheses of the refinement theorems
and is closed under "type of a field of structure / `bits` type".  Instances: membership in a
module all of whose structures are in the fragment (`closed_of_refModule`), and the decidable
reachability closure `reachOK` (`closed_reach`). -/
structure Closed (m : Module) (P : StructDef → Prop) : Prop where
  ref : ∀ sd, P sd → refStruct m sd = true
  loc : ∀ sd, P sd → reqLocal sd = true
  step : ∀ sd, P sd → ∀ x f, sd.field x = some f → ∀ start size name bits args bo sd',
    f.kind = .phys start size (.struct name bits args) bo → m.find name = some sd' → P sd'

theorem Closed.sub {m : Module} {P : StructDef → Prop} (hm : Closed m P) {sd sd' : StructDef}
    (hP : P sd) {x : String} {f : Field} (hf : sd.field x = some f) {start size : Expr}
    {name : String} {bits : Nat} {args : Exprs} {bo : ByteOrder}
    (hk : f.kind = .phys start size (.struct name bits args) bo) (hfind : m.find name = some sd') :
    P sd' :=
  hm.step sd hP x f hf start size name bits args bo sd' hk hfind

theorem closed_of_refModule {m : Module} (hm : refModule m = true) (hl : reqLocalModule m = true) :
    Closed m (fun sd => sd ∈ m.structs) where
  ref := fun sd h => by
    unfold refModule at hm
    exact List.all_eq_true.mp hm sd h
  loc := fun sd h => by
    unfold reqLocalModule at hl
    exact List.all_eq_true.mp hl sd h
  step := fun _ _ _ _ _ _ _ _ _ _ _ _ _ hfind => find_mem hfind

theorem closed_reach (m : Module) : Closed m (fun sd => ∃ d, reachOK m d sd = true) := by
  have pos : ∀ sd, (∃ d, reachOK m d sd = true) → ∃ d, reachOK m (d + 1) sd = true :=
    fun sd ⟨d, h⟩ => by
      cases d with
      | zero => cases h
      | succ d => exact ⟨d, h⟩
  refine ⟨fun sd hp => ?_, fun sd hp => ?_,
    fun sd hp x f hf start size name bits args bo sd' hk hfind => ?_⟩ <;>
    obtain ⟨d, h⟩ := pos sd hp <;>
    simp only [reachOK, Bool.and_eq_true, List.all_eq_true] at h
  · exact h.1.1
  · exact h.1.2
  · have := h.2 f (field_mem hf)
    rw [hk] at this
    simp only [hfind] at this
    exact ⟨d, this⟩

/-! ### the bridges: `GetOffsetStorage` + `BitBlock` against R's `fieldRaw` and `window` -/

theorem viewWF_null (sd : StructDef) : viewWF (nullView sd) = true := by
  unfold viewWF nullView
  by_cases h : sd.unit = 8 <;> simp [h]

theorem viewWF_unit {w : SView} (hw : viewWF w = true) :
    (w.sd.unit = 8 ∧ ∃ d, w.st = .bytes d) ∨ (w.sd.unit ≠ 8 ∧ ∃ x n, w.st = .bits x n) := by
  unfold viewWF at hw
  cases hst : w.st with
  | bytes d => rw [hst] at hw; simp at hw; exact Or.inl ⟨hw, d, rfl⟩
  | bits x n => rw [hst] at hw; simp at hw; exact Or.inr ⟨hw, x, n, rfl⟩

theorem bits_eq_shift (s z x : Nat) : (x >>> s) % 2 ^ z = Emboss.Scalar.Spec.bits s z x := by
  simp only [Emboss.Scalar.Spec.bits, Nat.shiftRight_eq_div_pow]

theorem le_clamped {a z len s : Nat} (ha : 0 < a) : a ≤ min z (len - s) ↔ a ≤ z ∧ s + a ≤ len :=
  Nat.le_min.trans (and_congr_right' ⟨fun h =>
    Nat.add_le_of_le_sub' (Nat.le_of_lt (Nat.lt_of_sub_pos (Nat.lt_of_lt_of_le ha h))) h,
    Nat.le_sub_of_add_le'⟩)

theorem clamped_eq {z len s : Nat} : min z (len - s) = z ↔ z = 0 ∨ s + z ≤ len := by
  rcases Nat.eq_zero_or_pos z with rfl | hz
  · exact iff_of_true (Nat.zero_min _) (Or.inl rfl)
  · exact ⟨fun e => Or.inr ((le_clamped hz).mp (Nat.le_of_eq e.symm)).2,
      fun h => Nat.le_antisymm (Nat.min_le_left _ _)
        ((le_clamped hz).mpr ⟨Nat.le_refl z, h.resolve_left (Nat.ne_of_gt hz)⟩)⟩

theorem adapt_sub_bytes (d : Option (List Nat)) (bo : ByteOrder) (s z bits : Nat) (hz : z * 8 = bits)
    (hb : 0 < bits) :
    ((Storage.bytes d).sub s z).adapt bo bits = .bits (fieldRaw (.bytes d) bo s z bits) bits := by
  cases d with
  | none => rfl
  | some d =>
    subst hz
    have hc : ((d.drop s).take z).length * 8 = z * 8 ↔ z * 8 = z * 8 ∧ s + z ≤ d.length := by
      rw [List.length_take, List.length_drop, Nat.mul_left_inj (by decide), clamped_eq]
      exact ⟨fun h => ⟨rfl, h.resolve_left (by omega)⟩, fun h => Or.inr h.2⟩
    simp only [Storage.sub, Storage.adapt, fieldRaw, hc, number_eq]

theorem sub_bits (x : Option Nat) (n s z : Nat) :
    (Storage.bits x n).sub s z =
      .bits (if s + z ≤ n then x.map (Emboss.Scalar.Spec.bits s z) else none) z := by
  simp only [Storage.sub, Storage.bits.injEq, and_true]
  split
  · cases x <;> simp [bits_eq_shift]
  · rfl

theorem leaf_bridge {w : SView} (hw : viewWF w = true) {size : Expr} {bits : Nat}
    (hsz : sizeIsBits w.sd.unit size bits = true) {env : Env} {z : Int}
    (hz : evalInt env size = some z) (bo : ByteOrder) (s : Nat) :
    (w.st.sub s z.toNat).adaptFor w.sd.unit 1 bo bits =
      .bits (fieldRaw w.st bo s z.toNat bits) bits := by
  obtain ⟨zl, rfl, hb, h8, h1⟩ := sizeIsBits_inv hsz
  cases (evalInt_constInt rfl).symm.trans hz
  rcases viewWF_unit hw with ⟨hu, d, hst⟩ | ⟨hu, x, n, hst⟩
  · have : (w.sd.unit = 8 ∧ (1 : Nat) ≠ 8) := ⟨hu, by decide⟩
    rw [hst, Storage.adaptFor, if_pos this]
    exact adapt_sub_bytes d bo s _ bits (h8 hu) hb
  · rw [hst, Storage.adaptFor, if_neg (fun h => hu h.1), sub_bits, ← h1 hu]
    cases x <;> simp [fieldRaw]

theorem window_bridge {w : SView} (hw : viewWF w = true) {sd' : StructDef} {size : Expr} {bits : Nat}
    (hc : (if w.sd.unit = 8 then sd'.unit == 8 || sizeIsBits 8 size bits else sd'.unit != 8) = true)
    (bo : ByteOrder) (s : Nat) {env : Env} {z : Int} (hz : evalInt env size = some z)
    (ps : Option (List Val)) :
    (w.st.sub s z.toNat).adaptFor w.sd.unit sd'.unit bo bits =
      window w.st (sd'.unit != 8) bo s z.toNat bits ∧
    viewWF { sd := sd', params := ps, st := window w.st (sd'.unit != 8) bo s z.toNat bits } = true := by
  rcases viewWF_unit hw with ⟨hu, d, hst⟩ | ⟨hu, x, n, hst⟩
  · rw [hst]
    rw [if_pos hu] at hc
    by_cases hu' : sd'.unit = 8
    · have hb : (sd'.unit != 8) = false := by simp [hu']
      rw [hb, Storage.adaptFor, if_neg (fun h => h.2 hu')]
      cases d <;> simp [Storage.sub, window, viewWF, hu']
    · have hb : (sd'.unit != 8) = true := by simp [hu']
      obtain ⟨zl, rfl, hbits, h8, _⟩ := sizeIsBits_inv (by simpa [hu'] using hc)
      cases (evalInt_constInt rfl).symm.trans hz
      rw [hb, Storage.adaptFor, if_pos ⟨hu, hu'⟩, adapt_sub_bytes d bo s _ bits (h8 rfl) hbits]
      cases d <;> simp [window, viewWF, hu']
  · rw [hst]
    rw [if_neg hu] at hc
    have hu' : sd'.unit ≠ 8 := by simpa using hc
    rw [Storage.adaptFor, if_neg (fun h => hu h.1), sub_bits]
    cases hb : (sd'.unit != 8) <;> simp [window, viewWF, hu']

end Emboss.ViewRef
