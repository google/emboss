/-
Fixed-width types: `holds` by sign, by type and under widening (`holds_signed`, `holds_unsigned`,
`holds_i32_iff` …, `holds_mono`, `holds_le_64`: what users need in place of unfolding it), `wrap` on values of the
type and modulo `2^bits` (`wrap_of_holds`, `wrap_emod`, `emod_wrap`), the type `_cpp_integer_type_for_range` chooses
(the first of the four that contains the range: `typeForRange_eq_find`, then `typeForRange_sound`,
`typeForRange_isSome_iff`), and the rendered integer literals.
-/
import Emboss.Model.CppInt
namespace Emboss.CppInt

theorem pow2_7 : pow2 7 = 128 := by decide
theorem pow2_8 : pow2 8 = 256 := by decide
theorem pow2_15 : pow2 15 = 32768 := by decide
theorem pow2_16 : pow2 16 = 65536 := by decide
theorem pow2_31 : pow2 31 = 2147483648 := by decide
theorem pow2_63 : pow2 63 = 9223372036854775808 := by decide
theorem pow2_64 : pow2 64 = 18446744073709551616 := by decide

theorem pow2_pos (n : Nat) : 0 < pow2 n := Int.pow_pos (by decide)

theorem pow2_succ (n : Nat) : pow2 (n + 1) = 2 * pow2 n := by
  rw [pow2, pow2, Int.pow_succ, Int.mul_comm]

theorem pow2_pred (n : Nat) (h : 0 < n) : pow2 n = 2 * pow2 (n - 1) := by
  obtain ⟨n, rfl⟩ := Nat.exists_eq_succ_of_ne_zero (Nat.ne_of_gt h)
  exact pow2_succ n

theorem pow2_mono {a b : Nat} (h : a ≤ b) : pow2 a ≤ pow2 b := by
  induction h with
  | refl => exact Int.le_refl _
  | step _ ih => rw [pow2_succ]; have := pow2_pos a; omega

theorem holds_iff (t : IntTy) (v : Int) : t.holds v = true ↔ t.minVal ≤ v ∧ v ≤ t.maxVal := by
  simp only [IntTy.holds, Bool.and_eq_true, decide_eq_true_eq]

theorem holds_signed (t : IntTy) (v : Int) (h : t.signed = true) :
    t.holds v = true ↔ -(pow2 (t.bits - 1)) ≤ v ∧ v ≤ pow2 (t.bits - 1) - 1 := by
  simp only [holds_iff, IntTy.minVal, IntTy.maxVal, h, if_true]

theorem holds_unsigned (t : IntTy) (v : Int) (h : t.signed = false) :
    t.holds v = true ↔ 0 ≤ v ∧ v ≤ pow2 t.bits - 1 := by
  simp only [holds_iff, IntTy.minVal, IntTy.maxVal, h, Bool.false_eq_true, if_false]

theorem holds_i32_iff (v : Int) : i32.holds v = true ↔ -2147483648 ≤ v ∧ v ≤ 2147483647 :=
  holds_iff i32 v

theorem holds_u32_iff (v : Int) : u32.holds v = true ↔ 0 ≤ v ∧ v ≤ 4294967295 :=
  holds_iff u32 v

theorem holds_i64_iff (v : Int) :
    i64.holds v = true ↔ -9223372036854775808 ≤ v ∧ v ≤ 9223372036854775807 :=
  holds_iff i64 v

theorem holds_u64_iff (v : Int) : u64.holds v = true ↔ 0 ≤ v ∧ v ≤ 18446744073709551615 :=
  holds_iff u64 v

theorem holds_mono {t : IntTy} {n : Nat} {v : Int} (hn : t.bits ≤ n) (h : t.holds v = true) :
    IntTy.holds ⟨t.signed, n⟩ v = true := by
  have m1 : pow2 (t.bits - 1) ≤ pow2 (n - 1) := pow2_mono (by omega)
  have m2 : pow2 t.bits ≤ pow2 n := pow2_mono hn
  cases hs : t.signed
  · rw [holds_unsigned t v hs] at h
    exact (holds_unsigned _ v rfl).mpr (by dsimp only; omega)
  · rw [holds_signed t v hs] at h
    exact (holds_signed _ v rfl).mpr (by dsimp only; omega)

/-- The values of a type of at most 64 bits are among those the back end can render. -/
theorem holds_le_64 (t : IntTy) (v : Int) (hb : t.bits ≤ 64) (h : t.holds v = true) :
    -9223372036854775808 ≤ v ∧ v ≤ 18446744073709551615 := by
  have h64 := holds_mono hb h
  cases hsg : t.signed <;> rw [hsg] at h64
  · have := (holds_u64_iff v).mp h64; omega
  · have := (holds_i64_iff v).mp h64; omega

theorem wrap_of_holds (t : IntTy) (v : Int) (hb : 0 < t.bits) (h : t.holds v = true) : wrap t v = v := by
  have hp := pow2_pos (t.bits - 1)
  have h2 := pow2_pred t.bits hb
  unfold wrap
  cases hs : t.signed
  · rw [holds_unsigned t v hs] at h
    simp only [Bool.false_and, Bool.false_eq_true, if_false]
    exact Int.emod_eq_of_lt h.1 (by omega)
  · rw [holds_signed t v hs] at h
    simp only [Bool.true_and, decide_eq_true_eq]
    by_cases hv : 0 ≤ v
    · rw [Int.emod_eq_of_lt hv (by omega), if_neg (by omega)]
    · -- reduction adds `2^bits`, which reaches the sign bit and is taken off again
      have : v % pow2 t.bits = v + pow2 t.bits := by
        rw [← Int.add_emod_right, Int.emod_eq_of_lt (by omega) (by omega)]
      rw [this, if_pos (by omega)]
      omega

theorem wrap_emod (t : IntTy) (x : Int) : wrap t (x % pow2 t.bits) = wrap t x := by
  simp only [wrap, Int.emod_emod]

theorem emod_wrap (t : IntTy) (x : Int) : wrap t x % pow2 t.bits = x % pow2 t.bits := by
  simp only [wrap]
  split
  · rw [Int.sub_emod_right, Int.emod_emod]
  · exact Int.emod_emod ..

theorem emod_le_self {a b : Int} (ha : 0 ≤ a) (hb : 0 < b) : a % b ≤ a := by
  by_cases h : a < b
  · exact Int.le_of_eq (Int.emod_eq_of_lt ha h)
  · have := Int.emod_lt_of_pos a hb
    omega

/-- An `if` chain that returns the first candidate with a property is `find?` over the candidates. -/
theorem find?_cons_decide {α : Type} (p : α → Prop) [DecidablePred p] (a : α) (l : List α) :
    (a :: l).find? (fun x => decide (p x)) = if p a then some a else l.find? (fun x => decide (p x)) := by
  rw [List.find?_cons]
  by_cases h : p a
  · rw [if_pos h, decide_eq_true h]
  · rw [if_neg h, decide_eq_false h]

theorem typeForRange_eq_find (lo hi : Int) :
    typeForRange lo hi = [i32, u32, i64, u64].find? (fun t => decide (t.minVal ≤ lo ∧ hi ≤ t.maxVal)) := by
  simp only [find?_cons_decide]
  rfl

theorem typeForRange_sound {lo hi : Int} {t : IntTy} (h : typeForRange lo hi = some t) :
    (t = i32 ∨ t = u32 ∨ t = i64 ∨ t = u64) ∧ ∀ {v : Int}, lo ≤ v → v ≤ hi → t.holds v = true := by
  rw [typeForRange_eq_find] at h
  have hp := List.find?_some h
  rw [decide_eq_true_eq] at hp
  exact ⟨by simpa using List.mem_of_find?_eq_some h,
    fun h1 h2 => (holds_iff t _).mpr ⟨Int.le_trans hp.1 h1, Int.le_trans h2 hp.2⟩⟩

theorem typeForRange_isSome_iff (lo hi : Int) :
    (typeForRange lo hi).isSome = true ↔
      (-9223372036854775808 ≤ lo ∧ hi ≤ 9223372036854775807) ∨
        (0 ≤ lo ∧ hi ≤ 18446744073709551615) := by
  rw [typeForRange_eq_find, List.find?_isSome]
  constructor
  · rintro ⟨t, ht, hp⟩
    rw [decide_eq_true_eq] at hp
    -- each of the four ranges lies within that of `int64_t` or of `uint64_t`
    have wide : ∀ t ∈ [i32, u32, i64, u64], i64.minVal ≤ t.minVal ∧ t.maxVal ≤ i64.maxVal ∨
        u64.minVal ≤ t.minVal ∧ t.maxVal ≤ u64.maxVal := by decide
    exact (wide t ht).imp (fun b => ⟨Int.le_trans b.1 hp.1, Int.le_trans hp.2 b.2⟩)
      fun b => ⟨Int.le_trans b.1 hp.1, Int.le_trans hp.2 b.2⟩
  · rintro (h | h)
    · exact ⟨i64, by decide, decide_eq_true h⟩
    · exact ⟨u64, by decide, decide_eq_true h⟩

theorem evalRendered_literal (t : IntTy) (v : Int) (h0 : 0 < t.bits) (h64 : t.bits ≤ 64)
    (h : t.holds v = true) (hmin : v ≠ -9223372036854775808) :
    evalRendered ⟨t, decide (v < 0), v.natAbs, !t.signed, true, false⟩ = some v := by
  have hw := wrap_of_holds t v h0 h
  have h' := holds_mono h64 h
  cases hs : t.signed <;> rw [hs] at h'
  · obtain ⟨h1, h2⟩ := (holds_u64_iff v).mp h'
    have hn : decide (v < 0) = false := decide_eq_false (Int.not_lt.mpr h1)
    simp only [evalRendered, hn, Int.natAbs_of_nonneg h1, h2, Bool.not_false,
      Bool.false_eq_true, if_true, if_false, hw]
  · obtain ⟨h1, h2⟩ := (holds_i64_iff v).mp h'
    have ha : (if decide (v < 0) = true then -(v.natAbs : Int) else v.natAbs) = v := by
      simp only [decide_eq_true_eq]
      split <;> omega
    have hl : (v.natAbs : Int) ≤ 9223372036854775807 := by omega
    simp only [evalRendered, hl, ha, Bool.not_true, Bool.false_eq_true, if_true, if_false, hw]

theorem render_eval (v : Int) (h : -9223372036854775808 ≤ v ∧ v ≤ 18446744073709551615) :
    ∃ r, renderInteger v = some r ∧ evalRendered r = some v ∧ r.longLongSuffix = true := by
  by_cases hmin : v = -9223372036854775808
  · -- rendered as `-9223372036854775807LL - 1`
    subst hmin
    exact ⟨⟨i64, true, 9223372036854775807, false, true, true⟩, by decide, by decide, rfl⟩
  · obtain ⟨t, ht⟩ := Option.isSome_iff_exists.mp ((typeForRange_isSome_iff v v).mpr (by omega))
    obtain ⟨four, hh⟩ := typeForRange_sound ht
    have hb : 0 < t.bits ∧ t.bits ≤ 64 := by rcases four with rfl | rfl | rfl | rfl <;> decide
    exact ⟨_, by rw [renderInteger, ht]; exact if_neg hmin,
      evalRendered_literal t v hb.1 hb.2 (hh (Int.le_refl v) (Int.le_refl v)) hmin, rfl⟩

/-- Outside `[-2^63, 2^64)` the Python assertion fires. -/
theorem render_none (v : Int) (h : v < -9223372036854775808 ∨ v > 18446744073709551615) :
    renderInteger v = none := by
  have : typeForRange v v = none :=
    Option.not_isSome_iff_eq_none.mp fun hs => by
      have := (typeForRange_isSome_iff v v).mp hs
      omega
  rw [renderInteger, this]

end Emboss.CppInt
