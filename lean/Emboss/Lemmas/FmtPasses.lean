/-
The global passes (`_intersperse`, `_columnize`,
`_indent_blocks`, `_indent_blanks_and_comments`, `_add_blank_rows_on_dedent`,
`_render_rows_to_text`) keep the content and keep rows renderable; the `assert`s of
`_columnize` and `_render_row_to_text` cannot fire on well-kinded input.  At the end, the two loops
of `_columnize` by name (`widthStep`, `padWidth`), for the files that reason about column widths.
-/
import Emboss.Lemmas.FmtStr
namespace Emboss.Fmt

theorem cols_intersperseAux {sep : List Row} (hsep : cols sep = []) :
    ∀ (secs : List (List Row)) (acc : List Row),
      cols (intersperseAux sep acc secs) = cols acc ++ (secs.map cols).flatten
  | [], acc => by simp [intersperseAux]
  | s :: rest, acc => by
    unfold intersperseAux
    split
    · rename_i h
      rw [cols_intersperseAux hsep rest, List.isEmpty_iff.1 h]; simp
    · split <;> simp [cols_intersperseAux hsep rest, hsep]

theorem cols_intersperse {sep : List Row} (hsep : cols sep = []) (secs : List (List Row)) :
    cols (intersperse sep secs) = (secs.map cols).flatten := by
  simp [intersperse, cols_intersperseAux hsep]

theorem rowsContent_intersperse {sep : List Row} (hsep : cols sep = []) (secs : List (List Row)) :
    rowsContent (intersperse sep secs) = (secs.map rowsContent).flatten :=
  rowsContent_of_cols (cols_intersperse hsep secs)

theorem PlainRows.intersperse {sep : List Row} (hsep : cols sep = []) {secs : List (List Row)}
    (hs : ∀ s ∈ secs, PlainRows s) : PlainRows (Emboss.Fmt.intersperse sep secs) :=
  PlainRows.of_cols (cols_intersperse hsep secs) hs

theorem cols_single {n : RowName} : cols [({ name := n } : Row)] = [] := rfl

@[simp] theorem blocksContent_nil : blocksContent [] = [] := rfl
@[simp] theorem blocksContent_cons (b : Block) (l : List Block) :
    blocksContent (b :: l) = b.content ++ blocksContent l := by simp [blocksContent]
@[simp] theorem blocksContent_append (a b : List Block) :
    blocksContent (a ++ b) = blocksContent a ++ blocksContent b := by simp [blocksContent]

@[simp] theorem content_indentRow (r : Row) : (indentRow r).content = r.content := rfl

@[simp] theorem content_indentBlock (b : Block) : (indentBlock b).content = b.content := by
  simp [indentBlock, Block.content]

@[simp] theorem blocksContent_indentBlocks (l : List Block) :
    blocksContent (indentBlocks l) = blocksContent l := by
  simp [blocksContent, indentBlocks, Function.comp_def]

theorem BlockOK.indent {names : List RowName} {b : Block} (h : BlockOK names b) :
    BlockOK names (indentBlock b) :=
  ⟨h.1.indent, h.2.1.indent, h.2.2⟩

theorem blocksOK_indent {names : List RowName} {l : List Block} (h : ∀ b ∈ l, BlockOK names b) :
    ∀ b ∈ indentBlocks l, BlockOK names b := by
  intro b hb
  obtain ⟨b', hb', rfl⟩ := List.mem_map.mp hb
  exact (h b' hb').indent

theorem despace_padCols (blocks : List Block) (iw ic : Nat) (h : Row) :
    ∀ (cols : List Str) (i : Nat),
      despace (padCols blocks iw ic h i cols).flatten = despace cols.flatten := by
  intro cols
  induction cols with
  | nil => intro i; rfl
  | cons c rest ih => intro i; simp [padCols, ih]

theorem rowsContent_columnizeBlock (blocks : List Block) (iw ic : Nat) (b : Block) :
    rowsContent (columnizeBlock blocks iw ic b) = b.content := by
  simp [columnizeBlock, Block.content, Row.content, despace_padCols]

theorem PlainRows.columnizeBlock {names : List RowName} (blocks : List Block) (iw ic : Nat) {b : Block}
    (h : BlockOK names b) : PlainRows (Emboss.Fmt.columnizeBlock blocks iw ic b) := by
  unfold Emboss.Fmt.columnizeBlock
  exact (h.1.append (PlainRows.cons (by simp) PlainRows.nil)).append h.2.1

theorem headerNames_nodup : ∀ l : List Block, (headerNames l).Nodup := by
  intro l
  induction l with
  | nil => simp [headerNames]
  | cons b r ih =>
    simp only [headerNames]
    split
    · exact ih
    · rename_i h
      exact List.nodup_cons.mpr ⟨by simpa using h, ih⟩

theorem headerNames_sublist : ∀ l : List Block, (headerNames l).Sublist (l.map (·.header.name))
  | [] => .slnil
  | b :: r => by
    simp only [headerNames, List.map_cons]
    split
    · exact (headerNames_sublist r).cons _
    · exact (headerNames_sublist r).cons_cons _

/-- `assert len(row_types) < 3` cannot fire when every header is one of at most two names. -/
theorem columnize_some {names : List RowName} {blocks : List Block} (h : ∀ b ∈ blocks, BlockOK names b)
    (hn : names.length ≤ 2) (iw ic : Nat) :
    columnize blocks iw ic = some (blocks.map (columnizeBlock blocks iw ic)) := by
  have hlen : (headerNames blocks).length ≤ names.length :=
    (headerNames_nodup blocks).length_le_of_subset fun n hn' =>
      let ⟨b, hb, hbn⟩ := List.mem_map.1 ((headerNames_sublist blocks).subset hn')
      hbn ▸ (h b hb).2.2
  have : (headerNames blocks).length < 3 := by omega
  simp [columnize, this]

theorem content_columnized (blocks all : List Block) (iw ic : Nat) :
    (blocks.map (rowsContent ∘ columnizeBlock all iw ic)).flatten = blocksContent blocks := by
  simp only [blocksContent, Function.comp_def, rowsContent_columnizeBlock]

theorem plain_columnized {names : List RowName} (blocks all : List Block) (iw ic : Nat)
    (h : ∀ b ∈ blocks, BlockOK names b) :
    ∀ s ∈ blocks.map (columnizeBlock all iw ic), PlainRows s := by
  intro s hs
  obtain ⟨b, hb, rfl⟩ := List.mem_map.mp hs
  exact PlainRows.columnizeBlock all iw ic (h b hb)

theorem indentBlanksRev_columns : ∀ (l : List Row) (p : Nat),
    (indentBlanksRev p l).map (·.columns) = l.map (·.columns) := by
  intro l
  induction l with
  | nil => intro p; rfl
  | cons r rest ih =>
    intro p
    unfold indentBlanksRev
    split <;> simp [ih]

theorem cols_indentBlanksAndComments (l : List Row) : cols (indentBlanksAndComments l) = cols l :=
  cols_of_columns (by simp [indentBlanksAndComments, indentBlanksRev_columns])

theorem cols_addBlankRowsAux : ∀ (l : List Row) (p : Nat) (b : Bool), cols (addBlankRowsAux p b l) = cols l
  | [], _, _ => rfl
  | r :: rest, p, b => by
    rw [addBlankRowsAux_cons, cols_append, cols_cons r, cols_cons r, cols_addBlankRowsAux rest]
    split <;> rfl

theorem cols_modulePasses (c d i a : List Row) (ty : List (List Row)) :
    cols (addBlankRowsOnDedent (indentBlanksAndComments
      (intersperse [{ name := .topTypeSeparator }, { name := .topTypeSeparator }]
        (intersperse [{ name := .sectionBreak }] [stripEmptyRows c, d, i, a] :: ty)))) =
      (([c, d, i, a] ++ ty).map cols).flatten := by
  rw [addBlankRowsOnDedent, cols_addBlankRowsAux, cols_indentBlanksAndComments,
    cols_intersperse rfl, List.map_cons, cols_intersperse rfl]
  simp [cols_stripEmptyRows]

theorem renderRows_total : ∀ (l : List Row) (iw : Nat), PlainRows l →
    ∃ t, renderRows iw l = some t ∧ despace t = rowsContent l := by
  intro l
  induction l with
  | nil => intro iw _; exact ⟨[], rfl, rfl⟩
  | cons r rest ih =>
    intro iw h
    obtain ⟨t, ht, hc⟩ := ih iw h.tail
    have hr : r.columns.length < 2 := h.head
    refine ⟨rstrip (spaces (iw * r.indent) ++ r.columns.flatten) ++ '\n' :: t, ?_, ?_⟩
    · simp [renderRows, renderRow, hr, ht]
    · simp [hc, Row.content]

end Emboss.Fmt

-- In `FmtTok`, the namespace of FmtRetokCols.lean; FmtRelC.lean opens these names.
namespace Emboss.FmtTok

/-- One step of the first loop of `_columnize`. -/
def widthStep (iw ic : Nat) (name : Fmt.RowName) (i : Nat) (m : Nat) (b : Fmt.Block) : Nat :=
  if b.header.name = name then
    match b.header.columns[i]? with
    | some c => max m (c.length + (if i + 1 = ic then b.header.indent * iw else 0))
    | none => m
  else m

theorem colWidth_eq_foldl (blocks : List Fmt.Block) (iw ic : Nat) (name : Fmt.RowName) (i : Nat) :
    Fmt.colWidth blocks iw ic name i = blocks.foldl (widthStep iw ic name i) 0 := rfl

/-- The width `_columnize` pads column `i` of header `h` to (`0`: the column is empty in
every block). -/
def padWidth (blocks : List Fmt.Block) (iw ic : Nat) (h : Fmt.Row) (i : Nat) : Int :=
  let w : Int := Fmt.colWidth blocks iw ic h.name i
  if w = 0 then 0
  else
    let w1 := if i + 1 = ic then w - (h.indent * iw : Nat) else w
    if Fmt.singleWidthSep h.name i then w1 + 1 else w1 + 2

theorem padCols_cons (blocks : List Fmt.Block) (iw ic : Nat) (h : Fmt.Row) (i : Nat) (c : Fmt.Str)
    (rest : List Fmt.Str) :
    Fmt.padCols blocks iw ic h i (c :: rest) =
      Fmt.ljust c (padWidth blocks iw ic h i) :: Fmt.padCols blocks iw ic h (i + 1) rest := rfl

end Emboss.FmtTok
