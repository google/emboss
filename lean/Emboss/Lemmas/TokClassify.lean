/-
C10, table-specific: classification of a maximal word run that starts with a letter,
`_` or `$`, in terms of the language reference's name rules.  On a run a pattern of the table
returns all of it iff the run is in the pattern's language (`matchLen_run_iff`), so the symbol
is that of the first pattern whose language contains the run (`word_run_sym`); what the
languages are is read off the patterns (`lang_*`).
-/
import Emboss.Lemmas.TokLongest
import Emboss.Lemmas.TokFile
namespace Emboss.Tok
open Emboss.Regex Emboss.Tok.Class Emboss.Generated

variable {w rest : List Char}

/-- On a maximal word run a pattern of the table returns the whole run iff the run is in its
language: its answer is its longest match, and no match goes beyond the run. -/
theorem matchLen_run_iff (h : WordRun w rest) {p : Pat} (hp : p ∈ tokTable.pats) :
    matchLen p.re (w ++ rest) = .ok w.length ↔ Lang p.re w rest := by
  rw [PriorityIsLongest.ok_iff (priority_is_longest_all p hp), matchesLen_append_left]
  exact and_iff_left fun m => all_le_run h hp

theorem find_sym_cons (f : Pat → Bool) (p : Pat) (ps : List Pat) :
    ((p :: ps).find? f).bind Pat.sym = if f p then p.sym else (ps.find? f).bind Pat.sym := by
  rw [List.find?_cons]; cases f p <;> rfl

theorem ite_or {α} (p q : Prop) [Decidable p] [Decidable q] (x y : α) :
    (if p ∨ q then x else y) = if p then x else if q then x else y := by
  by_cases hp : p <;> by_cases hq : q <;> simp only [hp, hq, or_self, or_true, true_or, if_true, if_false]

theorem not_lang_of_heads {r : Regex} {P : Char → Prop} (hH : Heads r P) {x : Char} {t : List Char}
    (hx : ¬ P x) : ¬ Lang r (x :: t) rest :=
  fun hl => hx (hH _ _ hl x rfl)

/-- `P` is a class test that tells `x` from the literal head `q`. -/
theorem not_lang_lit_head {P : Char → Bool} {x q : Char} {r : Regex} {t : List Char} (hx : P x = true)
    (hq : P q = false) : ¬ Lang (.seq (.chr (litC q)) r) (x :: t) rest :=
  not_lang_of_heads (heads_seq (heads_litC q) nofun) fun e => by rw [e, hq] at hx; cases hx

theorem number_patterns_fail (x : Char) (t : List Char) (hd : isDigit x = false) :
    ¬ Lang reDec (x :: t) rest ∧ ¬ Lang reDecGrouped (x :: t) rest ∧ ¬ Lang reHex (x :: t) rest ∧
    ¬ Lang reHex4 (x :: t) rest ∧ ¬ Lang reHex8 (x :: t) rest ∧ ¬ Lang reBin (x :: t) rest ∧
    ¬ Lang reBin4 (x :: t) rest ∧ ¬ Lang reBin8 (x :: t) rest ∧ ¬ Lang reBadNumber (x :: t) rest := by
  have hdig : Heads (.chr cDigit) (isDigit · = true) := heads_chr fun y hy => by rwa [cDigit_mem] at hy
  have nd : ∀ {r : Regex}, Heads r (isDigit · = true) → ¬ Lang r (x :: t) rest :=
    fun hH => not_lang_of_heads hH (by rw [hd]; exact Bool.false_ne_true)
  have hz : ∀ r, ¬ Lang (.seq (.chr (litC '0')) r) (x :: t) rest :=
    fun r => not_lang_of_heads (heads_seq (heads_litC '0') nofun) fun h0 => by
      rw [h0] at hd; revert hd; decide
  exact ⟨nd (heads_rep hdig _ _), nd (heads_seq (heads_rep hdig _ _) nofun), hz _, hz _, hz _, hz _, hz _,
    hz _, nd (heads_seq hdig nofun)⟩

theorem nonword_patterns_fail (x : Char) (t : List Char) (hx : isWordChar x = true) :
    ¬ Lang reString (x :: t) rest ∧ ¬ Lang reDoc (x :: t) rest ∧ ¬ Lang reDocEmpty (x :: t) rest ∧
    ¬ Lang reBadDoc (x :: t) rest ∧ ¬ Lang reSpace (x :: t) rest ∧ ¬ Lang reComment (x :: t) rest :=
  ⟨not_lang_lit_head hx (by decide), not_lang_lit_head hx (by decide),
    not_lang_lit_head hx (by decide), not_lang_lit_head hx (by decide),
    not_lang_of_heads (P := (cSpace.mem · = true)) (heads_rep (heads_chr fun _ hy => hy) _ _)
      (by rw [cSpace_mem, word_not_space x hx]; exact Bool.false_ne_true),
    not_lang_lit_head hx (by decide)⟩

theorem lang_litThen_star (pre : List Char) {c : CClass} :
    Lang (litThen pre (star c)) w rest ↔ (pre.isPrefixOf w && (w.drop pre.length).all c.mem) = true := by
  rw [lang_litThen_iff, Bool.and_eq_true, List.isPrefixOf_iff_prefix]
  constructor
  · rintro ⟨t, rfl, ht⟩
    rw [List.drop_left]
    exact ⟨List.prefix_append .., lang_star_iff.mp ht⟩
  · rintro ⟨⟨t, rfl⟩, ht⟩
    rw [List.drop_left] at ht
    exact ⟨t, rfl, lang_star_iff.mpr ht⟩

theorem lang_resCamel : Lang reResCamel w rest ↔ ("EmbossReserved".toList.isPrefixOf w &&
    (w.drop 14).all (fun c => isUpper c || isLower c || isDigit c)) = true := by
  rw [reResCamel, lang_litThen_star, funext cResCamelTail_mem, String.toList_ofList]
  rfl

theorem lang_resSnake : Lang reResSnake w rest ↔ ("emboss_reserved".toList.isPrefixOf w &&
    (w.drop 15).all (fun c => isUs c || isLower c || isDigit c)) = true := by
  rw [reResSnake, lang_litThen_star, funext cResSnakeTail_mem, String.toList_ofList]
  rfl

theorem lang_resShouty : Lang reResShouty w rest ↔ ("EMBOSS_RESERVED".toList.isPrefixOf w &&
    (w.drop 15).all (fun c => isUs c || isUpper c || isDigit c)) = true := by
  rw [reResShouty, lang_litThen_star, funext cResShoutyTail_mem, String.toList_ofList]
  rfl

theorem lang_bool : Lang reBool w rest ↔ w = "true".toList ∨ w = "false".toList := by
  rw [reBool, lang_alt_iff, lang_litRegex_iff, lang_litRegex_iff, String.toList_ofList,
    String.toList_ofList]

theorem lang_snake (x : Char) (t : List Char) : Lang reSnake (x :: t) rest ↔ isSnake (x :: t) = true := by
  rw [reSnake, lang_chr_cons_iff, lang_star_iff, cLower_mem, funext cSnakeTail_mem, isSnake,
    Bool.and_eq_true]

/-- `[A-Z] S* U S*` (ShoutyWord, CamelWord): upper-case start, tail in `S`, some tail character
in `U`. -/
theorem lang_upper_mid (S U : CClass) (hsub : ∀ x, U.mem x = true → S.mem x = true) (x : Char)
    (t : List Char) :
    Lang (.seq (.chr cUpper) (.seq (star S) (.seq (.chr U) (star S)))) (x :: t) rest ↔
      (isUpper x && t.all S.mem && t.any U.mem) = true := by
  rw [lang_chr_cons_iff, cUpper_mem, Bool.and_eq_true, Bool.and_eq_true, and_assoc]
  refine and_congr_right fun _ => ?_
  constructor
  · intro hl
    obtain ⟨a, _, rfl, ha, hl⟩ := lang_seq_iff.mp hl
    obtain ⟨_, b, rfl, hy, hb⟩ := lang_seq_iff.mp hl
    obtain ⟨y, rfl, hU⟩ := lang_chr_iff.mp hy
    exact ⟨by rw [List.all_append, List.all_append, lang_star_iff.mp ha, lang_star_iff.mp hb,
        List.all_cons, hsub y hU]; rfl,
      List.any_eq_true.mpr ⟨y, List.mem_append_right _ (List.mem_append_left _ List.mem_cons_self), hU⟩⟩
  · rintro ⟨hall, hany⟩
    obtain ⟨y, hy, hU⟩ := List.any_eq_true.mp hany
    obtain ⟨a, b, rfl⟩ := List.append_of_mem hy
    rw [List.all_append, List.all_cons, Bool.and_eq_true, Bool.and_eq_true] at hall
    exact .seq (lang_star_iff.mpr hall.1)
      (.seq (u := [y]) (lang_chr_iff.mpr ⟨y, rfl, hU⟩) (lang_star_iff.mpr hall.2.2))

theorem lang_shouty (x : Char) (t : List Char) : Lang reShouty (x :: t) rest ↔ isShouty (x :: t) = true := by
  rw [reShouty, lang_upper_mid cShoutyTail cShoutyMid shoutyMid_sub_tail, funext cShoutyTail_mem,
    funext cShoutyMid_mem]
  rfl

theorem lang_camel (x : Char) (t : List Char) : Lang reCamel (x :: t) rest ↔ isCamel (x :: t) = true := by
  rw [reCamel, lang_upper_mid cCamelTail cLower lower_sub_camelTail, funext cCamelTail_mem,
    funext cLower_mem]
  rfl

theorem lang_badWord (h : WordRun w rest) : Lang reBadWord w rest :=
  lang_plus_iff.mpr ⟨h.ne, by rw [funext cWord_mem]; exact h.word⟩

theorem word_run_best (h : WordRun w rest) :
    ∃ sy, bestMatch tokTable.pats (w ++ rest) 0 none = some (w.length, sy) ∧
      IsBest tokTable.pats (w ++ rest) w.length sy := by
  obtain ⟨n, sy, hb, hbest, hge⟩ := bestMatch_of_match badWord_mem
    ((matchLen_run_iff h badWord_mem).mpr (lang_badWord h)) (List.length_pos_iff.mpr h.ne)
  obtain ⟨p, hp, hm, _⟩ := hbest.winner
  obtain rfl : n = w.length := Nat.le_antisymm (all_le_run h hp (matchLen_sound _ _ _ hm)) hge
  exact ⟨sy, hb, hbest⟩

-- `Lang` is decided classically: `find?` only names the first pattern whose language has the run
open Classical

theorem literal_find (h : WordRun w rest) :
    ((punctLiterals ++ keywords).map mkLit).find? (fun p => decide (Lang p.re w rest)) =
      (keywordOf w).map mkLit := by
  rw [List.find?_map]
  have hP : ((fun p : Pat => decide (Lang p.re w rest)) ∘ mkLit) = fun l => l.toList == w := by
    funext l
    rw [Bool.eq_iff_iff, Function.comp, decide_eq_true_eq, beq_iff_eq]
    exact (lang_litRegex_iff _).trans eq_comm
  rw [hP, List.find?_append]
  have : punctLiterals.find? (fun l => l.toList == w) = none := by
    rw [List.find?_eq_none]
    intro l hl hc
    have hw : l.toList = w := by simpa using hc
    obtain ⟨x, t, rfl, hx⟩ := h.cons
    rw [(punct_chars hl (hw ▸ List.mem_cons_self)).1] at hx
    cases hx
  rw [this, Option.none_or, keywordOf]

/-- At the start of a maximal word run the pattern loop returns the run, with the symbol of
the first pattern whose language contains it: the keyword equal to the run if there is one,
else the first such regex. -/
theorem word_run_sym (h : WordRun w rest) :
    bestMatch tokTable.pats (w ++ rest) 0 none = some (w.length,
      match keywordOf w with
      | some l => some ("\"" ++ l ++ "\"")
      | none => (expectedRegexes.find? (fun p => decide (Lang p.re w rest))).bind Pat.sym) := by
  obtain ⟨_, hb, pre, p, post, hp, hm, rfl, hpre, _⟩ := word_run_best h
  have hfind : tokTable.pats.find? (fun p => decide (Lang p.re w rest)) = some p :=
    List.find?_eq_some_iff_append.mpr
      ⟨decide_eq_true ((matchLen_run_iff h (by rw [hp]; simp)).mp hm), pre, post, hp, fun q hq => by
        rw [Bool.not_eq_true', decide_eq_false_iff_not, ← matchLen_run_iff h (by rw [hp]; simp [hq])]
        exact fun hq' => Nat.lt_irrefl _ (hpre q hq _ hq')⟩
  rw [tokTable_pats, List.find?_append, literal_find h] at hfind
  rw [hb]
  cases hk : keywordOf w with
  | some l => rw [hk] at hfind; cases hfind; rfl
  | none => rw [hk, Option.map_none, Option.none_or] at hfind; rw [hfind]; rfl

/-- **Names.**  At the start of a maximal word run that begins with a letter, `_` or `$`,
the pattern loop returns the whole run with the symbol the language reference assigns. -/
theorem bestMatch_word (h : WordRun w rest) (hd : ∀ x t, w = x :: t → isDigit x = false) :
    bestMatch tokTable.pats (w ++ rest) 0 none = some (w.length, some (classifyWord w)) := by
  rw [word_run_sym h, classifyWord]
  cases keywordOf w with
  | some l => rfl
  | none =>
    obtain ⟨x, t, rfl, hx⟩ := h.cons
    obtain ⟨n1, n2, n3, n4, n5, n6, n7, n8, n9⟩ := number_patterns_fail (rest := rest) x t (hd x t rfl)
    obtain ⟨m1, m2, m3, m4, m5, m6⟩ := nonword_patterns_fail (rest := rest) x t hx
    -- both sides become the same chain of tests, in table order
    simp only [expectedRegexes, find_sym_cons, decide_eq_true_eq, lang_resCamel, lang_resSnake,
      lang_resShouty, lang_bool, lang_snake, lang_shouty, lang_camel, lang_badWord h, n1, n2, n3, n4,
      n5, n6, n7, n8, n9, m1, m2, m3, m4, m5, m6, if_false, if_true, isReserved, Bool.or_eq_true,
      ite_or, apply_ite some]

end Emboss.Tok
