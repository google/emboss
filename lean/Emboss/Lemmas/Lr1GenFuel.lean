/-
Level B: the fuel bounds of the generator model suffice.

* FIRST: every round that does not stop adds a (nonterminal, terminal) pair or a nullable bit;
  there are at most `n·n + n` of them (`n` = number of symbol codes) — `firstFuel`.
* closure: every iteration of the worklist takes one item off the list; only dot-0 items with a
  production index `< |rules|` and a lookahead `< n` are ever added, each once — `itemBound`.
-/
import Emboss.Lemmas.Lr1Gen
import Emboss.Lemmas.Lr1GenTables
namespace Emboss.Lr1

theorem Cert.ruleAt_lt {C : Cert} {j : Nat} {p : Rule} (h : C.ruleAt j = some p) : j < C.rules.size :=
  (Array.getElem?_eq_some_iff.mp h).1

theorem Cert.ruleAt_mem_rules {C : Cert} {j : Nat} {p : Rule} (h : C.ruleAt j = some p) : p ∈ C.rules.toList := by
  unfold Cert.ruleAt at h
  rw [← Array.getElem?_toList] at h
  exact List.mem_of_getElem? h

theorem Cert.isNT_lt {C : Cert} {x : Nat} (h : C.isNT x = true) : x < C.nt.size := by
  unfold Cert.isNT at h
  by_cases hx : x < C.nt.size
  · exact hx
  · rw [Array.getElem?_eq_none (Nat.le_of_not_lt hx)] at h
    cases h

namespace Gen

theorem countP_succ_le {α} {p q : α → Bool} {l : List α} (hmono : ∀ x ∈ l, q x = true → p x = true)
    {a : α} (ha : a ∈ l) (hp : p a = true) (hq : q a = false) : l.countP q + 1 ≤ l.countP p := by
  obtain ⟨l₁, l₂, rfl⟩ := List.append_of_mem ha
  have h₁ := List.countP_mono_left (l := l₁) fun x hx => hmono x (List.mem_append_left _ hx)
  have h₂ := List.countP_mono_left (l := l₂) fun x hx =>
    hmono x (List.mem_append_right _ (List.mem_cons_of_mem _ hx))
  simp only [List.countP_append, List.countP_cons, hp, hq, if_true, Bool.false_eq_true, if_false]
  omega

def pairs (n : Nat) : List (Nat × Nat) := (List.range n).flatMap fun x => (List.range n).map fun c => (x, c)

theorem mem_pairs {n : Nat} {xc : Nat × Nat} : xc ∈ pairs n ↔ xc.1 < n ∧ xc.2 < n := by
  constructor
  · intro h
    obtain ⟨x, hx, hm⟩ := List.mem_flatMap.mp h
    obtain ⟨c, hc, rfl⟩ := List.mem_map.mp hm
    exact ⟨List.mem_range.mp hx, List.mem_range.mp hc⟩
  · intro h
    exact List.mem_flatMap.mpr ⟨xc.1, List.mem_range.mpr h.1, List.mem_map.mpr ⟨xc.2, List.mem_range.mpr h.2, rfl⟩⟩

theorem length_pairs (n : Nat) : (pairs n).length = n * n := by
  simp [pairs, List.length_flatMap, List.map_const', List.sum_replicate_nat]

def freeF (C : Cert) : Nat :=
  (pairs C.nt.size).countP fun xc => decide (xc.2 ∉ (C.first[xc.1]?).getD [])
def freeN (C : Cert) : Nat :=
  (List.range C.nt.size).countP fun x => !((C.nullable[x]?).getD false)

theorem free_le (C : Cert) : freeF C + freeN C ≤ C.nt.size * C.nt.size + C.nt.size := by
  have h1 : freeF C ≤ (pairs C.nt.size).length := List.countP_le_length
  have h2 : freeN C ≤ (List.range C.nt.size).length := List.countP_le_length
  rw [length_pairs] at h1
  simp only [List.length_range] at h2
  omega

structure InvF (C : Cert) : Prop where
  ntLhs : ∀ p ∈ C.rules.toList, C.isNT p.lhs = true
  rhsLt : ∀ p ∈ C.rules.toList, ∀ x ∈ p.rhs, x < C.nt.size
  firstLt : ∀ x : Nat, ∀ c ∈ (C.first[x]?).getD [], c < C.nt.size

theorem InvF.firstSeq {C : Cert} (h : InvF C) {β t : List Nat} {c : Nat} (hc : c ∈ C.firstSeq β t)
    (hβ : ∀ x ∈ β, x < C.nt.size) (ht : ∀ a ∈ t, a < C.nt.size) : c < C.nt.size :=
  firstSeq_all h.firstLt hc (fun x hx _ => hβ x hx) ht

theorem firstRound_invF {C : Cert} (h : InvF C) : InvF (firstRound C) :=
  ⟨h.ntLhs, h.rhsLt, firstRound_first (P := fun c => c < C.nt.size) h.firstLt
    fun p hp x hx _ => h.rhsLt p hp x hx⟩

theorem freeF_mono (C : Cert) : ∀ xc ∈ pairs C.nt.size,
    decide (xc.2 ∉ ((firstRound C).first[xc.1]?).getD []) = true →
      decide (xc.2 ∉ (C.first[xc.1]?).getD []) = true := by
  intro xc hxc hq
  simp only [decide_eq_true_eq] at hq ⊢
  intro hmem
  apply hq
  rw [first_round, if_pos (mem_pairs.mp hxc).1]
  exact mem_unionL.mpr (Or.inl hmem)

theorem freeN_mono (C : Cert) : ∀ x ∈ List.range C.nt.size,
    (!((firstRound C).nullable[x]?).getD false) = true → (!(C.nullable[x]?).getD false) = true := by
  intro x hx hq
  rw [nullable_round, if_pos (List.mem_range.mp hx)] at hq
  simp only [Option.getD_some, Bool.not_eq_true', Bool.or_eq_false_iff] at hq
  simp [hq.1]

/-- a round that does not meet the stop test adds a pair or a nullable bit: the production that
fails `VFirst` names it -/
theorem firstRound_progress {C : Cert} (h : InvF C) (hv : ¬ VFirst C) :
    freeF (firstRound C) + freeN (firstRound C) < freeF C + freeN C := by
  have hF : freeF (firstRound C) ≤ freeF C := List.countP_mono_left (freeF_mono C)
  have hN : freeN (firstRound C) ≤ freeN C := List.countP_mono_left (freeN_mono C)
  obtain ⟨p, hp⟩ := Classical.not_forall.mp hv
  obtain ⟨hp, hbad⟩ := Classical.not_imp.mp hp
  have hnt := h.ntLhs p hp
  have hl := Cert.isNT_lt hnt
  rcases Classical.not_and_iff_not_or_not.mp hbad with h1 | h1
  · obtain ⟨hall, hnl⟩ := Classical.not_imp.mp h1
    rw [Cert.nullableOf, hnt, Bool.true_and] at hnl
    have : freeN (firstRound C) + 1 ≤ freeN C := by
      refine countP_succ_le (freeN_mono C) (List.mem_range.mpr hl) (by rw [Bool.eq_false_iff.mpr hnl]; rfl) ?_
      rw [nullable_round, if_pos hl]
      simp only [Option.getD_some, Bool.not_eq_false', Bool.or_eq_true]
      exact Or.inr (List.any_eq_true.mpr ⟨p, hp, by rw [beq_self_eq_true, hall]; rfl⟩)
    omega
  · obtain ⟨c, hc⟩ := Classical.not_forall.mp h1
    obtain ⟨hc, hnc⟩ := Classical.not_imp.mp hc
    rw [Cert.firstOf, if_pos hnt] at hnc
    have : freeF (firstRound C) + 1 ≤ freeF C := by
      refine countP_succ_le (freeF_mono C) (a := (p.lhs, c))
        (mem_pairs.mpr ⟨hl, h.firstSeq hc (h.rhsLt p hp) (by simp)⟩) (decide_eq_true hnc) ?_
      simp only [decide_eq_false_iff_not, Decidable.not_not]
      rw [first_round, if_pos hl]
      exact mem_unionL.mpr (Or.inr (List.mem_flatMap.mpr ⟨p, List.mem_filter.mpr ⟨hp, beq_self_eq_true _⟩, hc⟩))
    omega

theorem firstFix_some {f : Nat} {C : Cert} : InvF C → freeF C + freeN C < f → ∃ C', firstFix f C = some C' := by
  fun_induction firstFix f C with
  | case1 => exact fun _ h => absurd h (Nat.not_lt_zero _)
  | case2 f C hv => exact fun _ _ => ⟨C, rfl⟩
  | case3 f C hv ih =>
    exact fun hi h => ih (firstRound_invF hi) (Nat.lt_of_lt_of_le (firstRound_progress hi hv) (Nat.le_of_lt_succ h))

theorem tables0_invF (G : Grammar) : InvF (tables0 G) := by
  refine ⟨?_, ?_, tables0_first G⟩
  · intro p hp
    have hp' : p ∈ G.all := by simpa [tables0] using hp
    simp only [Cert.isNT, tables0, tab_get, if_pos (lhs_lt_nsym hp'), Option.getD_some]
    exact List.any_eq_true.mpr ⟨p, hp', by simp⟩
  · intro p hp x hx
    have hp' : p ∈ G.all := by simpa [tables0] using hp
    rw [tables0_ntSize]; exact lt_nsym hp' (List.mem_cons_of_mem _ hx)

theorem tables_some (G : Grammar) : ∃ C, tables G = some C := by
  unfold tables
  refine firstFix_some (tables0_invF G) ?_
  have := free_le (tables0 G)
  rw [tables0_ntSize] at this
  unfold firstFuel
  have : nsym G * (nsym G + 1) = nsym G * nsym G + nsym G := by rw [Nat.mul_add, Nat.mul_one]
  omega

theorem tables_invF {G : Grammar} {C : Cert} (h : tables G = some C) : InvF C :=
  (firstFix_induct (P := InvF) (fun _ => firstRound_invF) h (tables0_invF G)).1

/-- all items with production index, dot and lookahead in range -/
def univ (C : Cert) : List Item :=
  (List.range C.rules.size).flatMap fun pi => (List.range (maxRhs C + 1)).flatMap fun dot =>
    (List.range C.nt.size).map fun la => (⟨pi, dot, la⟩ : Item)

theorem length_univ (C : Cert) : (univ C).length = itemBound C := by
  simp [univ, itemBound, List.length_flatMap, List.map_const', List.sum_replicate_nat, Nat.mul_assoc]

theorem mem_univ {C : Cert} {it : Item} :
    it ∈ univ C ↔ it.pi < C.rules.size ∧ it.dot ≤ maxRhs C ∧ it.la < C.nt.size := by
  constructor
  · intro h
    obtain ⟨pi, hpi, h⟩ := List.mem_flatMap.mp h
    obtain ⟨dot, hdot, h⟩ := List.mem_flatMap.mp h
    obtain ⟨la, hla, rfl⟩ := List.mem_map.mp h
    exact ⟨List.mem_range.mp hpi, Nat.le_of_lt_succ (List.mem_range.mp hdot), List.mem_range.mp hla⟩
  · rintro ⟨h1, h2, h3⟩
    exact List.mem_flatMap.mpr ⟨it.pi, List.mem_range.mpr h1, List.mem_flatMap.mpr
      ⟨it.dot, List.mem_range.mpr (Nat.lt_succ_of_le h2), List.mem_map.mpr ⟨it.la, List.mem_range.mpr h3, rfl⟩⟩⟩

theorem rhs_le_maxRhs {C : Cert} {j : Nat} {p : Rule} (h : C.ruleAt j = some p) : p.rhs.length ≤ maxRhs C :=
  le_foldl_max (List.mem_cons_of_mem _ (List.mem_map.mpr ⟨p, Cert.ruleAt_mem_rules h, rfl⟩))

def freeI (C : Cert) (acc : List Item) : Nat := (univ C).countP fun y => decide (y ∉ acc)

theorem freeI_le (C : Cert) (acc : List Item) : freeI C acc ≤ itemBound C :=
  length_univ C ▸ List.countP_le_length

theorem addNew_measure (C : Cert) (js acc todo : List Item) : (∀ j ∈ js, j ∈ univ C) →
    (addNew acc todo js).2.length + freeI C (addNew acc todo js).1 ≤ todo.length + freeI C acc := by
  fun_induction addNew acc todo js with
  | case1 => exact fun _ => Nat.le_refl _
  | case2 acc todo j js _ ih => exact fun hj => ih fun k hk => hj k (List.mem_cons_of_mem _ hk)
  | case3 acc todo j js hc ih =>
    intro hj
    have hdec : freeI C (j :: acc) + 1 ≤ freeI C acc := by
      refine countP_succ_le ?_ (hj j List.mem_cons_self) (by simpa using hc) (by simp)
      intro y _ hq
      simp only [decide_eq_true_eq, List.mem_cons, not_or] at hq ⊢
      exact hq.2
    have := ih fun k hk => hj k (List.mem_cons_of_mem _ hk)
    simp only [List.length_cons] at this
    omega

/-- All the worklist and the state graph need of the tables in order to terminate. -/
def UnivClosed (C : Cert) : Prop := ∀ it ∈ univ C, ∀ y ∈ succsOf C it, y ∈ univ C

theorem advance_univ {C : Cert} {it : Item} {x : Nat} (hit : it ∈ univ C) (hn : C.nextSyms it = [x]) :
    advance it ∈ univ C := by
  obtain ⟨p, hp, hx⟩ := nextSyms_eq_singleton_iff.mp hn
  exact mem_univ.mpr ⟨Cert.ruleAt_lt hp,
    Nat.le_trans (List.getElem?_eq_some_iff.mp hx).1 (rhs_le_maxRhs hp), (mem_univ.mp hit).2.2⟩

theorem closeLoop_some {C : Cert} (h : UnivClosed C) (f : Nat) (todo acc : List Item) :
    (∀ x ∈ todo, x ∈ univ C) → todo.length + freeI C acc ≤ f → ∃ S, closeLoop C f todo acc = some S := by
  fun_induction closeLoop C f todo acc with
  | case1 f acc => exact fun _ _ => ⟨acc, rfl⟩
  | case2 => intro _ hf; simp at hf
  | case3 f it todo acc r ih =>
    intro hs hf
    have hsucc : ∀ j ∈ succsOf C it, j ∈ univ C := h it (hs it List.mem_cons_self)
    have hm := addNew_measure C (succsOf C it) acc todo hsucc
    refine ih ?_ (Nat.le_trans hm (by simp only [List.length_cons] at hf; omega))
    intro x hx
    rcases mem_addNew_snd.mp hx with ht | ⟨hj, _⟩
    · exact hs x (List.mem_cons_of_mem _ ht)
    · exact hsucc x hj

/-- **The worklist closure terminates within its fuel.** -/
theorem closure_some {C : Cert} (h : UnivClosed C) {seed : List Item} (hs : ∀ x ∈ seed, x ∈ univ C) :
    ∃ S, closure C seed = some S ∧ ∀ y ∈ S, y ∈ univ C := by
  obtain ⟨S, hS⟩ := closeLoop_some h (itemBound C + seed.length) seed seed hs
    (by have := freeI_le C seed; omega)
  exact ⟨S, hS, (closure_grown hS).1.all h hs⟩

theorem tables_univClosed {G : Grammar} {C : Cert} (h : tables G = some C) : UnivClosed C := by
  intro it hit y hy
  obtain ⟨p, x, hp, hx, k, hk, c, hc, rfl⟩ := mem_succsOf.mp hy
  obtain ⟨q, hq, _⟩ := (tables_ok h).prodsS x k hk
  have hF := tables_invF h
  refine mem_univ.mpr ⟨Cert.ruleAt_lt hq, Nat.zero_le _, hF.firstSeq hc ?_ ?_⟩
  · intro z hz
    exact hF.rhsLt p (Cert.ruleAt_mem_rules hp) z (List.mem_of_mem_drop hz)
  · intro a ha
    rw [List.mem_singleton.mp ha]
    exact (mem_univ.mp hit).2.2

end Gen
end Emboss.Lr1
