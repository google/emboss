/-
`Window.safe` (Model/Window.lean) is kept by `GetOffsetStorage`, hence along every chain of accessors, and a
safe window's indices lie inside the allocation.
-/
import Emboss.Model.Window
namespace Emboss.View

theorem Window.sub_safe {w : Window} {total : Nat} (h : w.safe total) (offset size : Nat) :
    (w.sub offset size).safe total := by
  unfold Window.safe Window.valid Window.sub at *
  dsimp only
  split <;> omega

theorem Window.foldl_sub_safe {total : Nat} : ∀ (path : List (Nat × Nat)) {w : Window}, w.safe total →
    (path.foldl (fun (w : Window) p => w.sub p.1 p.2) w).safe total
  | [], _, h => h
  | p :: ps, _, h => Window.foldl_sub_safe ps (Window.sub_safe h p.1 p.2)

theorem Window.safe.indices_lt {w : Window} {total : Nat} (h : w.safe total) :
    ∀ i ∈ w.indices, i < total := by
  intro i hi
  rw [Window.indices, List.mem_range'_1] at hi
  rcases h with h0 | hv
  · omega
  · unfold Window.valid at hv; omega

end Emboss.View
