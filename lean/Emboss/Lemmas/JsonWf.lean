/-
C18: whatever the model's `fromDict` builds is a well-formed message (the real `_from_dict` does
not check the element types of a list field, so this is a statement about the strict model).  The constructor establishes the oneof invariant and
keeps fields fitting; decoded keyword arguments fit their fields (`DecOk`), so `buildArgs` yields
well-formed fields; then the mutual induction over `Dv` (`wfDecAny`, `wfDecKvs`, `wfDecList`).
-/
import Emboss.Lemmas.JsonRt
namespace Emboss.Json

theorem SchemaOkStrict.schemaOk {S : Schema} (hS : SchemaOkStrict S) : SchemaOk S := by
  simp only [SchemaOkStrict, schemaOkStrict, Bool.and_eq_true] at hS
  exact hS.1

theorem SchemaOkStrict.parts {S : Schema} (hS : SchemaOkStrict S) {c : String} {cs : ClassSpec}
    (h : S.findClass c = some cs) :
    namesDistinct cs.fields = true ∧ cs.fields.all fieldOk = true ∧ cs.fields.all defaultFits = true := by
  obtain ⟨hd, hok⟩ := hS.schemaOk.parts h
  simp only [SchemaOkStrict, schemaOkStrict, Bool.and_eq_true] at hS
  exact ⟨hd, hok, List.all_eq_true.mp hS.2 cs (List.mem_of_find?_eq_some h)⟩

/-! ### The constructor -/

theorem laterSet_construct (g : String) : ∀ (fs : List FieldSpec) (vs : List Val),
    laterSet g fs (construct fs vs) = laterSet g fs vs
  | [], _ => rfl
  | _ :: _, [] => rfl
  | f :: fs, v :: vs => by
    simp only [construct, laterSet, laterSet_construct g fs vs]
    cases hf : f.oneof with
    | none => simp
    | some g' =>
      by_cases hg : g' = g
      · subst hg
        by_cases hl : laterSet g' fs vs = true
        · simp [hl, Val.isNone]
        · simp [hl]
      · have : (some g' == some g) = false := by simp [hg]
        simp only [this, Bool.false_and, Bool.false_or]

theorem oneofOk_construct : ∀ (fs : List FieldSpec) (vs : List Val), oneofOk fs (construct fs vs) = true
  | [], _ => rfl
  | _ :: _, [] => rfl
  | f :: fs, v :: vs => by
    simp only [construct, oneofOk, oneofOk_construct fs vs, Bool.and_true, laterSet_construct]
    cases hf : f.oneof with
    | none => rfl
    | some g =>
      by_cases hl : laterSet g fs vs = true
      · simp [hl, Val.isNone]
      · simp [hl]

theorem wfFields_construct (S : Schema) : ∀ (fs : List FieldSpec) (vs : List Val),
    fs.all fieldOk = true → wfFields S fs vs = true → wfFields S fs (construct fs vs) = true
  | [], [], _, _ => rfl
  | [], _ :: _, _, h => by cases h
  | _ :: _, [], _, h => by cases h
  | f :: fs, v :: vs, hok, h => by
    simp only [List.all_cons, Bool.and_eq_true] at hok
    rw [wfFields_cons_fits] at h
    simp only [construct]
    rw [wfFields_cons_fits]
    refine ⟨?_, wfFields_construct S fs vs hok.2 h.2⟩
    cases hf : f.oneof with
    | none => exact h.1
    | some g =>
      simp only
      split
      · simp only [fits, fieldOk_oneof hok.1 hf, beq_self_eq_true]
      · exact h.1

/-! ### Decoded keyword arguments -/

/-- Every decoded `(key, value)` belongs to a field of that name which it fits. -/
def DecOk (S : Schema) (F : List FieldSpec) (dec : List (String × Val)) : Prop :=
  ∀ p ∈ dec, ∃ f, findField F p.1 = some f ∧ fits S f p.2 = true

theorem decOk_cons {S : Schema} {F : List FieldSpec} {k : String} {f : FieldSpec} {v : Val}
    {r : List (String × Val)} (hf : findField F k = some f) (hfit : fits S f v = true)
    (hr : DecOk S F r) : DecOk S F ((k, v) :: r) :=
  List.forall_mem_cons.mpr ⟨⟨f, hf, hfit⟩, hr⟩

theorem fits_of_wfVal (S : Schema) (f : FieldSpec) (v : Val) (hc : (f.container != .list) = true)
    (h : wfVal S f.dtype v = true) : fits S f v = true := by
  cases v with
  | none | list _ => cases h
  | _ => simp only [fits, hc, h, Bool.and_self]

theorem lookup_eq (k : String) : ∀ l : List (String × Val), lookup k l = l.lookup k
  | [] => rfl
  | (k', v) :: l => by
    rw [lookup, List.lookup_cons, lookup_eq k l, BEq.comm (a := k)]
    cases k' == k <;> simp

theorem lookup_mem {k : String} {v : Val} {l : List (String × Val)} (h : lookup k l = some v) : (k, v) ∈ l := by
  rw [lookup_eq, List.lookup_eq_some_iff] at h
  obtain ⟨l₁, l₂, rfl, _⟩ := h
  exact List.mem_append_right _ List.mem_cons_self

theorem fits_default (S : Schema) (f : FieldSpec) (v : Val) (hok : fieldOk f = true) (hdf : defaultFits f = true)
    (h : defaultOf f = some v) : fits S f v = true := by
  unfold defaultOf at h
  cases hc : f.container with
  | optional =>
    rw [fieldOk_optional hok hc] at h
    cases h
    simp only [fits, hc, beq_self_eq_true]
  | list =>
    rw [(fieldOk_list hok hc).1] at h
    cases h
    simp only [fits, hc, beq_self_eq_true, wfList, Bool.and_self]
  | none =>
    unfold defaultFits at hdf
    rw [hc] at hdf
    cases hd : f.default with
    | str s =>
      rw [hd] at h hdf
      cases h
      simp only [fits, hc, wfVal, hdf]
      rfl
    | none | emptyList =>
      rw [hd] at hdf
      cases hdf
    | required | other _ =>
      rw [hd] at h
      cases h

/-- `F` is the whole class, `fs` the suffix the induction walks (as in `rtFields`). -/
theorem wfFields_buildArgs (S : Schema) (F : List FieldSpec) (dec : List (String × Val)) (hdec : DecOk S F dec) :
    ∀ (fs : List FieldSpec) (args : List Val), (∀ f ∈ fs, findField F f.name = some f) →
      fs.all fieldOk = true → fs.all defaultFits = true →
      buildArgs dec fs = some args → wfFields S fs args = true
  | [], args, _, _, _, h => by
    cases h
    rfl
  | f :: fs, args, hfind, hok, hdf, h => by
    obtain ⟨hff, hfind⟩ := List.forall_mem_cons.mp hfind
    simp only [List.all_cons, Bool.and_eq_true] at hok hdf
    simp only [buildArgs] at h
    split at h
    · rename_i v vs hv hvs
      cases h
      rw [wfFields_cons_fits]
      refine ⟨?_, wfFields_buildArgs S F dec hdec fs vs hfind hok.2 hdf.2 hvs⟩
      split at hv
      · rename_i w hw
        cases hv
        obtain ⟨f', hf', hfit⟩ := hdec _ (lookup_mem hw)
        simp only at hf'
        rw [hff] at hf'
        cases hf'
        exact hfit
      · exact fits_default S f v hok.1 hdf.1 hv
    · cases h

/-! ### Decoded values -/

def WfDec (S : Schema) (d : Dv) : Prop :=
  ∀ t v, decVal S t d = some v → wfVal S t v = true

theorem enumMember_of_byName {S : Schema} {e s : String} {n : Int} (h : enumByName S e s = some n) :
    enumMember S e n = true := by
  unfold enumByName at h
  unfold enumMember
  cases he : S.findEnum e with
  | none => simp [he] at h
  | some es =>
    simp only [he] at h ⊢
    obtain ⟨_, h⟩ := Option.ite_none_right_eq_some.mp h
    obtain ⟨m, hf, rfl⟩ := Option.map_eq_some_iff.mp h
    exact List.any_eq_true.mpr ⟨m, List.mem_of_find?_eq_some hf, beq_self_eq_true _⟩

theorem wfDec_str (S : Schema) (s : String) : WfDec S (.str s) := by
  intro t v h
  cases t with
  | str =>
    cases h
    rfl
  | enum e =>
    obtain ⟨n, hb, rfl⟩ := Option.map_eq_some_iff.mp h
    exact enumMember_of_byName hb
  | loc =>
    obtain ⟨l, hl, rfl⟩ := Option.map_eq_some_iff.mp h
    exact Loc.ok_of_fromStr hl
  | _ => cases h

theorem wfDec_int (S : Schema) (i : Int) : WfDec S (.int i) := by
  intro t v h
  cases t with
  | int =>
    cases h
    rfl
  | enum e =>
    obtain ⟨hm, h⟩ := Option.ite_none_right_eq_some.mp h
    cases h
    exact hm
  | _ => cases h

theorem wfDec_bool (S : Schema) (b : Bool) : WfDec S (.bool b) := by
  intro t v h
  cases t with
  | bool =>
    cases h
    rfl
  | _ => cases h

mutual
theorem wfDecAny (S : Schema) (hS : SchemaOkStrict S) : ∀ d : Dv, WfDec S d
  | .null => fun t v h => by cases h
  | .str s => wfDec_str S s
  | .int i => wfDec_int S i
  | .bool b => wfDec_bool S b
  | .list ds => fun t v h => by cases h
  | .dict kvs => fun t v h => by
      cases t with
      | msg c =>
        simp only [decVal] at h
        cases hc : S.findClass c with
        | none => simp [hc] at h
        | some cs =>
          simp only [hc] at h
          cases hk : decKvs S cs.fields kvs with
          | none => simp [hk] at h
          | some dec =>
            rw [hk] at h
            obtain ⟨args, hb, rfl⟩ := Option.map_eq_some_iff.mp h
            obtain ⟨hdist, hfok, hdf⟩ := hS.parts hc
            have hdec := wfDecKvs S hS kvs cs.fields dec hk
            have hw := wfFields_buildArgs S cs.fields dec hdec cs.fields args
              (findField_self cs.fields hdist) hfok hdf hb
            simp only [wfVal, beq_self_eq_true, Bool.true_and, hc, Bool.and_eq_true]
            exact ⟨wfFields_construct S cs.fields args hfok hw, oneofOk_construct cs.fields args⟩
      | _ => cases h
theorem wfDecKvs (S : Schema) (hS : SchemaOkStrict S) : ∀ (kvs : List (String × Dv)) (F : List FieldSpec)
    (dec : List (String × Val)), decKvs S F kvs = some dec → DecOk S F dec
  | [], F, dec, h => by
    cases h
    intro p hp
    cases hp
  | (k, d) :: rest, F, dec, h => by
    have ihR := wfDecKvs S hS rest F
    rw [decKvs] at h
    cases hf : findField F k with
    | none =>
      rw [hf] at h
      exact ihR dec h
    | some f =>
      rw [hf] at h
      cases d with
      | null => exact ihR dec h
      | list ds =>
        simp only at h
        split at h
        · rename_i hcond
          split at h
          · rename_i vs r hvs hr
            cases h
            simp only [Bool.and_eq_true, beq_iff_eq] at hcond
            refine decOk_cons hf ?_ (ihR r hr)
            simp only [fits, hcond.1, beq_self_eq_true, Bool.true_and]
            exact wfDecList S hS ds f.dtype vs hvs
          · cases h
        · cases h
      | _ =>
        simp only at h
        split at h
        · rename_i hcond
          split at h
          · rename_i v r hv hr
            cases h
            exact decOk_cons hf (fits_of_wfVal S f v hcond (wfDecAny S hS _ f.dtype v hv)) (ihR r hr)
          · cases h
        · cases h
theorem wfDecList (S : Schema) (hS : SchemaOkStrict S) : ∀ (ds : List Dv) (t : DType) (vs : List Val),
    decList S t ds = some vs → wfList S t vs = true
  | [], t, vs, h => by
    cases h
    rfl
  | d :: ds, t, vs, h => by
    simp only [decList] at h
    split at h
    · rename_i v vs' hv hvs
      cases h
      simp only [wfList, Bool.and_eq_true]
      exact ⟨wfDecAny S hS d t v hv, wfDecList S hS ds t vs' hvs⟩
    · cases h
end

end Emboss.Json
