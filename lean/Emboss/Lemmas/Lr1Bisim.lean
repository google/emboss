/-
Soundness of the bisimulation checker (C09): if `Bisim A B π` holds, the two parsers run in
lock-step on every token list — stacks related pointwise by the state pairing `π` with equal
trees, equal cursors — and produce related results.  At the end: parse trees depend only on
the set of productions (`ParseTree.congr`, for `SameRules`).
-/
import Emboss.Lemmas.Lr1Basic
import Emboss.Model.Lr1Bisim
namespace Emboss.Lr1

variable {A B : Automaton} {π : Array (Option Nat)}

theorem entry_some_key {s a : Nat} {x : Action} (h : A.entry s a = some x) : a ∈ rowKeys (A.row s) := by
  unfold Automaton.entry at h
  split at h
  · rename_i r hr; rw [hr]; exact lookup_some_mem_keys h
  · cases h

theorem entry_none_of_not_key {s a : Nat} (h : a ∉ rowKeys (A.row s)) : A.entry s a = none :=
  Option.eq_none_iff_forall_ne_some.mpr fun _ he => h (entry_some_key he)

theorem goto_none_of_not_key {s x : Nat} (h : x ∉ A.gotoKeys s) : A.gotoOf s x = none :=
  lookup_none_of_not_mem h

theorem pairOf_lt {s t : Nat} (h : pairOf π s = some t) : s < π.size :=
  lt_size_of_ne Option.join h nofun

/-- paired states act alike on *every* symbol -/
theorem actRel_all (hb : Bisim A B π) {s t : Nat} (hp : pairOf π s = some t) (a : Nat) :
    ActRel A B π (A.actionOf s a) (B.actionOf t a) := by
  have hok := hb.2.2 s (pairOf_lt hp) t hp
  by_cases hk : a ∈ rowKeys (A.row s) ++ rowKeys (B.row t)
  · exact hok.2.2.1 a hk
  · simp only [List.mem_append, not_or] at hk
    simp only [Automaton.actionOf, Automaton.defaultAction, entry_none_of_not_key hk.1,
      entry_none_of_not_key hk.2, ← hok.2.2.2.1]
    cases A.defaultErrors.lookup s <;> simp [ActRel]

theorem gotoRel_all (hb : Bisim A B π) {s t : Nat} (hp : pairOf π s = some t) (x : Nat) :
    GotoRel π (A.gotoOf s x) (B.gotoOf t x) := by
  have hok := hb.2.2 s (pairOf_lt hp) t hp
  by_cases hk : x ∈ A.gotoKeys s ++ B.gotoKeys t
  · exact hok.2.2.2.2 x hk
  · simp only [List.mem_append, not_or] at hk
    rw [goto_none_of_not_key hk.1, goto_none_of_not_key hk.2]
    trivial

/-! ### expected sets of paired states -/

theorem ActRel.isError_eq {x y : Action} (h : ActRel A B π x y) : x.isError = y.isError := by
  cases x <;> cases y <;> first | rfl | exact h.elim

theorem mem_expectedOf_iff_actionOf {s x : Nat} :
    x ∈ A.expectedOf s ↔ (A.actionOf s x).isError = false :=
  mem_expectedOf.trans ⟨fun ⟨_, ha, hne⟩ => actionOf_of_entry ha ▸ hne,
    fun h => ⟨_, Automaton.actionOf_nonerror rfl h, h⟩⟩

theorem expected_iff (hb : Bisim A B π) {s t : Nat} (hp : pairOf π s = some t) (x : Nat) :
    x ∈ A.expectedOf s ↔ x ∈ B.expectedOf t := by
  rw [mem_expectedOf_iff_actionOf, mem_expectedOf_iff_actionOf, (actRel_all hb hp x).isError_eq]

/-! ### the simulation -/

def StackRel (π : Array (Option Nat)) : List (Nat × Tree) → List (Nat × Tree) → Prop
  | [], [] => True
  | (s, t) :: r₁, (s', t') :: r₂ => pairOf π s = some s' ∧ t = t' ∧ StackRel π r₁ r₂
  | _, _ => False

def ConfigRel (π : Array (Option Nat)) (c₁ c₂ : Config) : Prop :=
  StackRel π c₁.stack c₂.stack ∧ c₁.cursor = c₂.cursor

/-- results equal up to the state renaming: same accept/reject, tree, error code and index,
paired error states, expected sets with the same members, same Python exception -/
def ResultRel (π : Array (Option Nat)) : Result → Result → Prop
  | .accept t, .accept t' => t = t'
  | .error c i s e, .error c' i' s' e' => c = c' ∧ i = i' ∧ pairOf π s = some s' ∧ ∀ x, x ∈ e ↔ x ∈ e'
  | .internal m, .internal m' => m = m'
  | .outOfFuel, .outOfFuel => True
  | _, _ => False

def StepRel (π : Array (Option Nat)) : StepOut → StepOut → Prop :=
  StepLift (ConfigRel π) (ResultRel π)

theorem ResultRel.accept_iff {r₁ r₂ : Result} (h : ResultRel π r₁ r₂) (t : Tree) :
    r₁ = .accept t ↔ r₂ = .accept t := by
  cases r₁ <;> cases r₂ <;> try exact h.elim
  · cases (h : _ = _); rfl
  all_goals exact ⟨nofun, nofun⟩

theorem StackRel.top (hb : Bisim A B π) : ∀ {s₁ s₂ : List (Nat × Tree)}, StackRel π s₁ s₂ →
    pairOf π (topState s₁) = some (topState s₂)
  | [], [], _ => hb.2.1
  | (_, _) :: _, (_, _) :: _, h => h.1
  | [], _ :: _, h => by cases h
  | _ :: _, [], h => by cases h

-- related stacks are one list under the renaming
theorem stackRel_iff : ∀ {s₁ s₂ : List (Nat × Tree)}, StackRel π s₁ s₂ ↔
    s₁.map (fun p => (pairOf π p.1, p.2)) = s₂.map (fun p => (some p.1, p.2))
  | [], [] => by simp [StackRel]
  | (_, _) :: _, (_, _) :: _ => by simp [StackRel, stackRel_iff, and_assoc]
  | [], _ :: _ => by simp [StackRel]
  | _ :: _, [] => by simp [StackRel]

theorem StackRel.length : ∀ {s₁ s₂ : List (Nat × Tree)}, StackRel π s₁ s₂ → s₁.length = s₂.length :=
  fun h => by simpa using congrArg List.length (stackRel_iff.mp h)

theorem StackRel.drop {s₁ s₂ : List (Nat × Tree)} (n : Nat) (h : StackRel π s₁ s₂) :
    StackRel π (s₁.drop n) (s₂.drop n) :=
  stackRel_iff.mpr (by rw [List.map_drop, List.map_drop, stackRel_iff.mp h])

theorem StackRel.trees {s₁ s₂ : List (Nat × Tree)} (h : StackRel π s₁ s₂) : s₁.map (·.2) = s₂.map (·.2) := by
  simpa [Function.comp_def] using congrArg (List.map (·.2)) (stackRel_iff.mp h)

theorem step_bisim (hb : Bisim A B π) (w : List Token) {c₁ c₂ : Config} (hc : ConfigRel π c₁ c₂) :
    StepRel π (step A w c₁) (step B w c₂) := by
  obtain ⟨st₁, i⟩ := c₁
  obtain ⟨st₂, _⟩ := c₂
  obtain ⟨hst, rfl⟩ : StackRel π st₁ st₂ ∧ i = _ := hc
  have htop := hst.top hb
  have hok := hb.2.2 _ (pairOf_lt htop) _ htop
  have hla := lookahead_congr hb.1.symm w i
  have hrel : ActRel A B π (nextAction A w (topState st₁) i) (nextAction B w (topState st₂) i) := by
    unfold nextAction
    rw [clientEoi_congr hb.1.symm, hla]
    split
    · simp only [Automaton.defaultAction, ← hok.2.2.2.1]
      cases A.defaultErrors.lookup (topState st₁) <;> exact rfl
    · exact actRel_all hb htop _
  cases ha : nextAction A w (topState st₁) i <;> cases hbb : nextAction B w (topState st₂) i <;>
    rw [ha, hbb] at hrel <;> try exact hrel.elim
  case shift.shift s t =>
    rw [step_shift ha, step_shift hbb]
    cases w[i]? with
    | none => exact rfl
    | some tok => exact ⟨⟨hrel, rfl, hst⟩, rfl⟩
  case reduce.reduce pi pj =>
    obtain ⟨p, hp, hq⟩ := hrel
    rw [step_reduce ha, step_reduce hbb, (hp : A.prods[pi]? = some p), hq]
    dsimp only
    rw [← hst.length]
    split
    · have hd := hst.drop p.rhs.length
      have hg := gotoRel_all hb (hd.top hb) p.lhs
      cases h1 : A.gotoOf (topState (st₁.drop p.rhs.length)) p.lhs <;>
        cases h2 : B.gotoOf (topState (st₂.drop p.rhs.length)) p.lhs <;> rw [h1, h2] at hg
      · exact rfl
      · exact hg.elim
      · exact hg.elim
      · exact ⟨⟨hg, by rw [List.map_take, List.map_take, hst.trees], hd⟩, rfl⟩
    · exact rfl
  case accept.accept =>
    rw [step_accept ha, step_accept hbb, hla, ← hb.1]
    dsimp only
    rw [hst.trees]
    split
    · split <;> exact rfl
    · exact rfl
  case error.error code code' =>
    cases (hrel : code = code')
    rw [step_error ha, step_error hbb, if_pos hok.1, if_pos hok.2.1]
    exact ⟨rfl, rfl, htop, expected_iff hb htop⟩

theorem runFrom_bisim (hb : Bisim A B π) (w : List Token) (f : Nat) {c₁ c₂ : Config} :
    ConfigRel π c₁ c₂ → ResultRel π (runFrom A w f c₁) (runFrom B w f c₂) :=
  runFrom_lift trivial (fun _ _ => step_bisim hb w) f

/-! ### production sets -/

theorem ParseTree.congr {G G' : Grammar} (hs : G'.start = G.start) (hp : G'.startPrime = G.startPrime)
    (hr : SameRules G.prods G'.prods) : ∀ {t : Tree}, ParseTree G t → ParseTree G' t := by
  have hnt : ∀ x, G'.isNT x = G.isNT x := by
    intro x
    rw [Bool.eq_iff_iff, Grammar.isNT_iff, Grammar.isNT_iff]
    simp only [Grammar.all, Grammar.seed, hs, hp, List.mem_append, List.mem_singleton]
    exact exists_congr fun p => and_congr_left' (or_congr ⟨hr.2 p, hr.1 p⟩ Iff.rfl)
  intro t ht
  induction ht with
  | leaf tok h => exact ParseTree.leaf tok (by rw [hnt]; exact h)
  | node p cs hp' _ hroots ih => exact ParseTree.node p cs (hr.1 p hp') ih hroots

end Emboss.Lr1
