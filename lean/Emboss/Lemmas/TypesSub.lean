/-
C13, sub-expressions ("Sub").  The checker reports for a node what it reports for its `kids`, then
located errors of its own (`tc_errs_eq`); hence errors of a part are errors of the whole
(`parts_errs`) and every error lies at some part (`LocIn`, `tc_loc`).  Parts of closed expressions.
-/
import Emboss.Lemmas.Types
namespace Emboss.Types

/-- an error of the node itself: under `file`, at the node or at a constituent written in `file`;
the only notes are those of a static reference to a physical field (the field's definition) -/
def OwnErr (file : FileId) (e : Expr) (er : Err) : Prop :=
  er.file = file ∧ (er.l = e.loc ∨ ∃ k ∈ kids file e, k.1 = file ∧ er.l = k.2.loc) ∧
    (er.notes = [] ∨ ∃ l df dl, e = .cphys l df dl ∧ er.notes = [(df, dl)])

theorem OwnErr.node {file : FileId} {e : Expr} {c : Cls} : OwnErr file e (err file e.loc c) :=
  ⟨rfl, .inl rfl, .inl rfl⟩

theorem OwnErr.kid {file : FileId} {e a : Expr} {c : Cls} (hk : (file, a) ∈ kids file e) :
    OwnErr file e (err file a.loc c) :=
  ⟨rfl, .inr ⟨_, hk, rfl, rfl⟩, .inl rfl⟩

theorem OwnErr.ite {file : FileId} {e : Expr} {x : Err} {c : Prop} [Decidable c]
    (h : OwnErr file e x) : ∀ er ∈ (if c then [] else [x]), OwnErr file e er := by
  split
  · exact fun _ h => nomatch h
  · exact List.forall_mem_singleton.2 h

theorem fnArgErrs_own {file : FileId} {e : Expr} (f : Fn) : ∀ (i : Nat) (as : List Expr) (tys : List Ty),
    (∀ a ∈ as, (file, a) ∈ kids file e) → ∀ er ∈ fnArgErrs file f i as tys, OwnErr file e er
  | _, [], _, _ => fun _ h => nomatch h
  | _, _ :: _, [], _ => fun _ h => nomatch h
  | i, a :: as, t :: ts, hk => List.forall_mem_append.2
    ⟨by cases f <;> exact OwnErr.ite (.kid (hk a List.mem_cons_self)),
      fnArgErrs_own f (i + 1) as ts fun x hx => hk x (List.mem_cons_of_mem _ hx)⟩

theorem tc_errs_eq (file : FileId) (e : Expr) : ∃ own,
    (tc file e).errs = (kids file e).flatMap (fun k => (tc k.1 k.2).errs) ++ own ∧
      ∀ er ∈ own, OwnErr file e er := by
  cases e with
  | num | boolc | enumv | lparam | lparamArr | lphys => exact ⟨[], rfl, fun _ h => nomatch h⟩
  | cother l => exact ⟨_, rfl, List.forall_mem_singleton.2 .node⟩
  | cphys l df dl =>
    exact ⟨_, rfl, List.forall_mem_singleton.2 ⟨rfl, .inl rfl, .inr ⟨_, _, _, rfl, rfl⟩⟩⟩
  | builtin l b =>
    cases b
    · exact ⟨[], rfl, fun _ h => nomatch h⟩
    · exact ⟨[], rfl, fun _ h => nomatch h⟩
    · exact ⟨_, rfl, List.forall_mem_singleton.2 .node⟩
  | cvirt l df d | lvirt l df d =>
    exact ⟨[], by simp only [tc, kids, List.flatMap_cons, List.flatMap_nil, List.append_nil],
      fun _ h => nomatch h⟩
  | bin l op a b =>
    have ka : (file, a) ∈ kids file (.bin l op a b) := List.mem_cons_self
    have kb : (file, b) ∈ kids file (.bin l op a b) := List.mem_cons_of_mem _ List.mem_cons_self
    simp only [tc, kids, List.flatMap_cons, List.flatMap_nil, List.append_nil]
    cases op.isCmp
    · exact ⟨_, List.append_assoc .., List.forall_mem_append.2 ⟨OwnErr.ite (.kid ka), OwnErr.ite (.kid kb)⟩⟩
    · cases cmpAcceptable op (tc file a).ty
      · exact ⟨_, rfl, List.forall_mem_singleton.2 (.kid ka)⟩
      · cases cmpAcceptable op (tc file b).ty
        · exact ⟨_, rfl, List.forall_mem_singleton.2 (.kid kb)⟩
        · exact ⟨_, rfl, OwnErr.ite .node⟩
  | choice l c t f =>
    have kc : (file, c) ∈ kids file (.choice l c t f) := List.mem_cons_self
    have kt : (file, t) ∈ kids file (.choice l c t f) := List.mem_cons_of_mem _ List.mem_cons_self
    simp only [tc, kids, List.flatMap_cons, List.flatMap_nil, List.append_nil, ← List.append_assoc]
    cases (tc file t).ty.isValue
    · exact ⟨_, List.append_assoc .., List.forall_mem_append.2
        ⟨OwnErr.ite (.kid kc), List.forall_mem_singleton.2 (.kid kt)⟩⟩
    · exact ⟨_, List.append_assoc .., List.forall_mem_append.2 ⟨OwnErr.ite (.kid kc), OwnErr.ite .node⟩⟩
  | fn l f args =>
    simp only [tc, tcList_errs, kids, List.flatMap_map]
    exact ⟨_, List.append_assoc .., List.forall_mem_append.2
      ⟨fnArgErrs_own f 0 args _ fun a ha => List.mem_map.2 ⟨a, ha, rfl⟩, OwnErr.ite .node⟩⟩

theorem mem_tc_errs {file : FileId} {e : Expr} {er : Err} (h : er ∈ (tc file e).errs) :
    (∃ k ∈ kids file e, er ∈ (tc k.1 k.2).errs) ∨ OwnErr file e er := by
  obtain ⟨own, he, ho⟩ := tc_errs_eq file e
  rw [he, List.mem_append, List.mem_flatMap] at h
  exact h.imp_right (ho er)

theorem kid_errs {file : FileId} {e : Expr} {k : FExpr} {er : Err} (hk : k ∈ kids file e)
    (h : er ∈ (tc k.1 k.2).errs) : er ∈ (tc file e).errs := by
  obtain ⟨own, he, _⟩ := tc_errs_eq file e
  rw [he]
  exact List.mem_append_left _ (List.mem_flatMap.2 ⟨k, hk, h⟩)

/-- `(x, xf)` — a source location and a file name — is where `e`, written in module
`file`, or one of the things `e` is built from is written: the location of a
sub-expression together with `file`, or (looking through a reference to a virtual field
of module `df`) a location inside that field's definition together with `df`. -/
inductive LocIn (x : Loc) (xf : FileId) : FileId → Expr → Prop
  | here {file e} : x = e.loc → xf = file → LocIn x xf file e
  | cvirt {file l df d} : LocIn x xf df d → LocIn x xf file (.cvirt l df d)
  | lvirt {file l df d} : LocIn x xf df d → LocIn x xf file (.lvirt l df d)
  | binL {file l op a b} : LocIn x xf file a → LocIn x xf file (.bin l op a b)
  | binR {file l op a b} : LocIn x xf file b → LocIn x xf file (.bin l op a b)
  | chC {file l c t f} : LocIn x xf file c → LocIn x xf file (.choice l c t f)
  | chT {file l c t f} : LocIn x xf file t → LocIn x xf file (.choice l c t f)
  | chF {file l c t f} : LocIn x xf file f → LocIn x xf file (.choice l c t f)
  | arg {file l f args a} : a ∈ args → LocIn x xf file a → LocIn x xf file (.fn l f args)

theorem LocIn.of_kid {x : Loc} {xf file : FileId} {e : Expr} :
    ∀ k ∈ kids file e, LocIn x xf k.1 k.2 → LocIn x xf file e := by
  cases e with
  | cvirt => exact List.forall_mem_singleton.2 .cvirt
  | lvirt => exact List.forall_mem_singleton.2 .lvirt
  | bin => exact List.forall_mem_cons.2 ⟨.binL, List.forall_mem_singleton.2 .binR⟩
  | choice =>
    exact List.forall_mem_cons.2 ⟨.chC, List.forall_mem_cons.2 ⟨.chT, List.forall_mem_singleton.2 .chF⟩⟩
  | fn => exact List.forall_mem_map.2 fun _ ha => .arg ha
  | _ => exact fun _ hk => nomatch hk

theorem tc_loc (e : Expr) (file : FileId) : ∀ er ∈ (tc file e).errs, LocIn er.l er.file file e := by
  induction file, e using kids_induction with
  | step file e ih =>
    intro er h
    rcases mem_tc_errs h with ⟨k, hk, h⟩ | ⟨hf, h | ⟨k, hk, hkf, h⟩, _⟩
    · exact .of_kid k hk (ih k hk er h)
    · exact .here h hf
    · exact .of_kid k hk (.here h (hf.trans hkf.symm))

theorem tcList_loc (es : List Expr) : ∀ (file : FileId), ∀ er ∈ (tcList file es).errs,
    ∃ a ∈ es, LocIn er.l er.file file a := by
  intro file er h
  obtain ⟨a, ha, h⟩ := List.mem_flatMap.1 (tcList_errs file es ▸ h)
  exact ⟨a, ha, tc_loc a file er h⟩

theorem partsList_eq (file : FileId) : ∀ es : List Expr, partsList file es = es.flatMap (parts file)
  | [] => rfl
  | e :: es => by rw [partsList, partsList_eq file es, List.flatMap_cons]

theorem parts_eq (file : FileId) (e : Expr) :
    parts file e = (file, e) :: (kids file e).flatMap fun k => parts k.1 k.2 := by
  cases e with
  | cvirt | lvirt | bin | choice =>
    simp only [parts, kids, List.flatMap_cons, List.flatMap_nil, List.append_nil]
  | fn l f args => simp only [parts, kids, partsList_eq, List.flatMap_map]
  | _ => rfl

theorem parts_errs (e : Expr) (file : FileId) : ∀ p ∈ parts file e, ∀ er ∈ (tc p.1 p.2).errs,
    er ∈ (tc file e).errs := by
  induction file, e using kids_induction with
  | step file e ih =>
    intro p hp er her
    rw [parts_eq, List.mem_cons, List.mem_flatMap] at hp
    rcases hp with rfl | ⟨k, hk, hp⟩
    · exact her
    · exact kid_errs hk (ih k hk p hp er her)

theorem partsList_errs (es : List Expr) : ∀ (file : FileId), ∀ p ∈ partsList file es,
    ∀ er ∈ (tc p.1 p.2).errs, er ∈ (tcList file es).errs := by
  intro file p hp er her
  obtain ⟨a, ha, hp⟩ := List.mem_flatMap.1 (partsList_eq file es ▸ hp)
  rw [tcList_errs]
  exact List.mem_flatMap.2 ⟨a, ha, parts_errs a file p hp er her⟩

theorem closedList_mem : ∀ {es : List Expr}, closedList es = true → ∀ a ∈ es, closed a = true
  | [], _ => fun _ h => nomatch h
  | _ :: _, h =>
    have h := Bool.and_eq_true_iff.1 h
    List.forall_mem_cons.2 ⟨h.1, closedList_mem h.2⟩

theorem kids_closed {file : FileId} {e : Expr} (h : closed e = true) :
    ∀ k ∈ kids file e, closed k.2 = true := by
  cases e with
  | cvirt | lvirt => exact List.forall_mem_singleton.2 h
  | bin =>
    simp only [closed, Bool.and_eq_true] at h
    exact List.forall_mem_cons.2 ⟨h.1, List.forall_mem_singleton.2 h.2⟩
  | choice =>
    simp only [closed, Bool.and_eq_true] at h
    exact List.forall_mem_cons.2 ⟨h.1, List.forall_mem_cons.2 ⟨h.2.1, List.forall_mem_singleton.2 h.2.2⟩⟩
  | fn => exact List.forall_mem_map.2 (closedList_mem h)
  | _ => exact fun _ hk => nomatch hk

theorem parts_closed (e : Expr) (file : FileId) : closed e = true → ∀ p ∈ parts file e, closed p.2 = true := by
  induction file, e using kids_induction with
  | step file e ih =>
    intro hc p hp
    rw [parts_eq, List.mem_cons, List.mem_flatMap] at hp
    rcases hp with rfl | ⟨k, hk, hp⟩
    · exact hc
    · exact ih k hk (kids_closed hc k hk) p hp

theorem partsList_closed (es : List Expr) : ∀ (file : FileId), closedList es = true →
    ∀ p ∈ partsList file es, closed p.2 = true := by
  intro file hc p hp
  obtain ⟨a, ha, hp⟩ := List.mem_flatMap.1 (partsList_eq file es ▸ hp)
  exact parts_closed a file (closedList_mem hc a ha) p hp

theorem closed_not_ref {e : Expr} (h : closed e = true) :
    (∀ l t, e ≠ .lphys l t) ∧ (∀ l t, e ≠ .lparam l t) ∧ (∀ l, e ≠ .lparamArr l) ∧ (∀ l b, e ≠ .builtin l b) := by
  refine ⟨?_, ?_, ?_, ?_⟩ <;> intros <;> intro he <;> subst he <;> simp [closed] at h

theorem self_mem_parts (file : FileId) (e : Expr) : (file, e) ∈ parts file e :=
  parts_eq file e ▸ List.mem_cons_self

end Emboss.Types
