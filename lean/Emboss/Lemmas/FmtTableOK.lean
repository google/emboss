/-
The table obligations of C11 on the regenerated registry, as the conjuncts of one kernel
evaluation (`table_eval`).  `tableTyped` is evaluated on the interned copy `formattersN`
(`tableTypedN`: kind and layout flag of every symbol computed once) and transported to the table
of strings by `tableTypedN_sound`; `formattersN` is checked to decode to `formatters`.
-/
import Emboss.Spec.FmtEquivC
namespace Emboss.Fmt
open Emboss.Generated.FmtTable

theorem getAll_map {α β : Type} (f : α → β) (l : List α) :
    ∀ (is : List Nat), getAll (l.map f) is = (getAll l is).map (List.map f) := by
  intro is
  induction is with
  | nil => rfl
  | cons i rest ih =>
    simp only [getAll, List.getElem?_map, ih]
    cases l[i]? <;> cases getAll l rest <;> rfl

theorem resolveN_eq (e : Nat × List Nat × String × Bool) (l : String) (r : List String) :
    resolve (l, r, e.2.2.1, e.2.2.2) = resolveN e := rfl

theorem entryOKN_sound (syms : List String) (e : Nat × List Nat × String × Bool)
    (h : entryOKN (syms.map kindOf) (syms.map isLayoutSym) e = true) :
    ∃ d, decodeEntry syms e = some d ∧ checkEntry d = true ∧ dropOK d = true ∧
      isLayoutSym d.1 = false := by
  unfold entryOKN at h
  simp only [getAll_map, List.getElem?_map] at h
  cases hs : syms[e.1]? with
  | none => simp [hs] at h
  | some s =>
    cases hx : getAll syms e.2.1 with
    | none => simp [hs, hx] at h
    | some xs =>
      simp only [hs, hx, Option.map_some, Bool.and_eq_true, Bool.not_eq_true'] at h
      obtain ⟨⟨hc, hd⟩, hl⟩ := h
      refine ⟨(s, xs, e.2.2.1, e.2.2.2), ?_, ?_, ?_, hl⟩
      · simp only [decodeEntry, hs, hx]
      · simp only [checkEntry, resolveN_eq]; exact hc
      · simp only [dropOK, resolveN_eq]; exact hd

theorem tableTypedN_sound (syms : List String) :
    ∀ (tblN : List (Nat × List Nat × String × Bool)) (tbl : Table),
      decodeTable syms tblN = some tbl → tableTypedN syms tblN = true → tableTyped tbl = true := by
  have key : ∀ (tblN : List (Nat × List Nat × String × Bool)) (tbl : Table),
      decodeTable syms tblN = some tbl →
      tblN.all (entryOKN (syms.map kindOf) (syms.map isLayoutSym)) = true →
      ∀ d ∈ tbl, checkEntry d = true ∧ dropOK d = true ∧ isLayoutSym d.1 = false := by
    intro tblN
    induction tblN with
    | nil => intro tbl hd _ d hm; simp only [decodeTable, Option.some.injEq] at hd; subst hd; cases hm
    | cons e rest ih =>
      intro tbl hd hall d hm
      simp only [List.all_cons, Bool.and_eq_true] at hall
      obtain ⟨d0, hd0, hp⟩ := entryOKN_sound syms e hall.1
      simp only [decodeTable, hd0] at hd
      cases hr : decodeTable syms rest with
      | none => simp [hr] at hd
      | some tr =>
        simp only [hr, Option.some.injEq] at hd
        subst hd
        rcases List.mem_cons.mp hm with rfl | hm'
        · exact hp
        · exact ih tr hr hall.2 d hm'
  intro tblN tbl hdec h
  have hk := key tblN tbl hdec h
  simp only [tableTyped, Bool.and_eq_true, List.all_eq_true, Bool.not_eq_true']
  exact ⟨⟨fun d hm => (hk d hm).1, fun d hm => (hk d hm).2.1⟩, fun d hm => (hk d hm).2.2⟩

/-- Meaning: `C11_table_ok`, `C11_table_normal`, `C11_table_comment` in Properties/C11.lean. -/
theorem table_eval :
    decodeTable symbols formattersN = some formatters ∧ tableTypedN symbols formattersN = true ∧
    formatters.map prodOf = grammar ∧ kindOf startSymbol = .str ∧
    tableNormal formatters = true ∧ tableComment formatters = true := by
  decide +kernel

end Emboss.Fmt
