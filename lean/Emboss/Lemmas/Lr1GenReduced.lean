/-
The executable productivity check (`Gen.allProductive`, `Gen.reducedB`, Model/Lr1Gen.lean) is
sound: when it answers `true` every nonterminal of the grammar derives a terminal string, i.e.
`Reduced G` — the hypothesis of the error-position theorem.  (Only soundness of the marking loop
is needed; were its fuel too small it would answer `false` for a reduced grammar, which the
harness would see as a disagreement with its own oracle.)
-/
import Emboss.Lemmas.Lr1Basic
import Emboss.Model.Lr1Gen
namespace Emboss.Lr1
namespace Gen

variable {G : Grammar}

theorem prodRound_sound {P : List Nat} (hP : ∀ x ∈ P, Productive G x) : ∀ x ∈ prodRound G P, Productive G x := by
  refine List.foldlRecOn (motive := fun P => ∀ x ∈ P, Productive G x) _ _ hP fun P hP p hp => ?_
  split
  · next hc =>
    simp only [Bool.and_eq_true, List.all_eq_true, Bool.or_eq_true, Bool.not_eq_true'] at hc
    intro x hx
    rcases List.mem_cons.mp hx with rfl | hx
    · obtain ⟨cs, hcs, hm⟩ := Productive.forest (G := G) p.rhs (by
        intro y hy
        rcases hc.2 y hy with hn | hin
        · exact Productive.of_terminal hn
        · exact hP y (by simpa using hin))
      exact ⟨.node p cs, ParseTree.node p cs hp hcs hm, rfl⟩
    · exact hP x hx
  · exact hP

theorem productiveFix_sound (f : Nat) (P : List Nat) : (∀ x ∈ P, Productive G x) →
    ∀ x ∈ productiveFix G f P, Productive G x := by
  fun_induction productiveFix G f P with
  | case1 => exact id
  | case2 => exact id
  | case3 f P P' _ ih => exact fun hP => ih (prodRound_sound hP)

theorem allProductive_sound (h : allProductive G = true) : ∀ p ∈ G.prods, Productive G p.lhs := by
  intro p hp
  unfold allProductive at h
  have := List.all_eq_true.mp h p hp
  exact productiveFix_sound (G.prods.length + 1) [] (by simp) p.lhs (by simpa [productiveSet] using this)

end Gen

open Gen in
theorem reducedB_sound {G : Grammar} (h : Gen.reducedB G = true) : Reduced G := by
  unfold Gen.reducedB at h
  simp only [Bool.and_eq_true, Bool.or_eq_true, List.any_eq_true, beq_iff_eq, Bool.not_eq_true'] at h
  have hall := allProductive_sound h.1
  refine ⟨hall, ?_⟩
  rcases h.2 with ⟨p, hp, hl⟩ | hnt
  · rw [← hl]; exact hall p hp
  · exact Productive.of_terminal hnt

open Gen in
/-- When the start symbol is not `S'`, it is a nonterminal exactly if a client production has it on the left, so the second
half of `reducedB` holds by itself. -/
theorem reducedB_of_allProductive {G : Grammar} (h : Gen.allProductive G = true) (hs : G.start ≠ G.startPrime) :
    Gen.reducedB G = true := by
  have : G.isNT G.start = G.prods.any (fun p => p.lhs == G.start) := by
    simp [Grammar.isNT, Grammar.all, Grammar.seed, Ne.symm hs]
  rw [reducedB, h, this, Bool.true_and, Bool.or_not_self]

end Emboss.Lr1
