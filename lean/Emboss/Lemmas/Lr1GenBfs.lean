/-
Level B: the state graph of the generator model (`Gen.expand`, `Gen.bfs`): item
well-formedness, and the invariant of the breadth-first construction — every recorded transition
`s --x--> k` leads to the closure of the advanced items of `s`, every symbol after a dot of a
processed state has its transition, the two copies of each item set (sorted / discovery order)
have the same members.
-/
import Emboss.Lemmas.Lr1Gen
import Emboss.Lemmas.Lr1GenTables
namespace Emboss.Lr1

theorem WfG.start_ne_startPrime {G : Grammar} (hW : WfG G) : G.start ≠ G.startPrime := hW.1

theorem WfG.no_eoi {G : Grammar} (hW : WfG G) {p : Rule} (hp : p ∈ G.all) : p.lhs ≠ G.eoi ∧ ∀ x ∈ p.rhs, x ≠ G.eoi :=
  hW.2.2.2.1 p hp

theorem WfG.no_startPrime {G : Grammar} (hW : WfG G) {p : Rule} (hp : p ∈ G.prods) :
    p.lhs ≠ G.startPrime ∧ ∀ x ∈ p.rhs, x ≠ G.startPrime :=
  hW.2.2.2.2 p hp

namespace Gen

variable {G : Grammar} {C : Cert}

theorem TabOK.eoi_terminal (hT : TabOK G C) (hW : WfG G) : C.isNT G.eoi = false := by
  cases h : C.isNT G.eoi with
  | false => rfl
  | true =>
    obtain ⟨p, hp, hl⟩ := Grammar.isNT_iff.mp (hT.ntS _ h)
    exact absurd hl (hW.no_eoi hp).1

theorem TabOK.succLhs (hT : TabOK G C) : SuccLhs C := by
  intro it j hj
  obtain ⟨p, x, hp, hx, k, hk, c, _, rfl⟩ := mem_succsOf.mp hj
  obtain ⟨q, hq, hl⟩ := hT.prodsS x k hk
  exact ⟨q, hq, by rw [hl]; exact mem_nextSyms_iff.mpr ⟨p, hp, hx⟩⟩

structure ItemOK (G : Grammar) (C : Cert) (it : Item) : Prop where
  rule : ∃ p, C.ruleAt it.pi = some p ∧ it.dot ≤ p.rhs.length
  seedLa : it.pi = C.seedIdx → it.la = G.eoi
  laT : C.isNT it.la = false

theorem succ_not_seed (hT : TabOK G C) (hW : WfG G) {it y : Item} (hy : y ∈ succsOf C it) : y.pi ≠ C.seedIdx := by
  obtain ⟨p, x, hp, hx, k, hk, c, _, rfl⟩ := mem_succsOf.mp hy
  obtain ⟨q, hq, hl⟩ := hT.prodsS x k hk
  intro hk'
  simp only at hk'
  rw [hk', Cert.ruleAt_seed hT.rules] at hq
  cases hq
  exact Grammar.rhs_ne_startPrime hW.start_ne_startPrime (fun _ => hW.no_startPrime) (Cert.ruleAt_mem hT.rules hp) _ (List.mem_of_getElem? hx) hl.symm

theorem ItemOK.succ (hT : TabOK G C) (hW : WfG G) {it y : Item} (hit : ItemOK G C it)
    (hy : y ∈ succsOf C it) : ItemOK G C y := by
  have hns := succ_not_seed hT hW hy
  obtain ⟨p, x, hp, hx, k, hk, c, hc, rfl⟩ := mem_succsOf.mp hy
  obtain ⟨q, hq, _⟩ := hT.prodsS x k hk
  refine ⟨⟨q, hq, Nat.zero_le _⟩, fun h => absurd h hns, ?_⟩
  refine hT.fterm.firstSeq hc ?_
  intro a ha
  simp only [List.mem_singleton] at ha
  subst ha; exact hit.laT

theorem ItemOK.advance {it : Item} {x : Nat} (hit : ItemOK G C it) (hn : C.nextSyms it = [x]) :
    ItemOK G C (advance it) := by
  obtain ⟨p, hp, hx⟩ := nextSyms_eq_singleton_iff.mp hn
  refine ⟨⟨p, hp, ?_⟩, hit.seedLa, hit.laT⟩
  have := (List.getElem?_eq_some_iff.mp hx).1
  simp only [Gen.advance]; omega

/-- `J` is `goto(I, x)` as far as the validator is concerned -/
def EdgeOK (C : Cert) (I : List Item) (x : Nat) (J : List Item) : Prop :=
  (∃ it ∈ I, C.nextSyms it = [x]) ∧
  (∀ it ∈ I, C.nextSyms it = [x] → advance it ∈ J) ∧
  (∀ y ∈ J, (y.dot = 0 ∧ y.pi ≠ C.seedIdx) ∨ ∃ it ∈ I, C.nextSyms it = [x] ∧ y = advance it)

/-- what `Inv` asks of a state `norm J` pushed with `J.reverse` as its discovery order -/
structure StateOK (G : Grammar) (C : Cert) (J : List Item) : Prop where
  closed : Closed C (norm J)
  ok : ∀ y ∈ norm J, ItemOK G C y
  order : JustOrder C [] J.reverse

theorem closure_state (hT : TabOK G C) (hW : WfG G) {seed S : List Item} (h : closure C seed = some S)
    (hok : ∀ y ∈ seed, ItemOK G C y) (h0 : ∀ y ∈ seed, y.dot = 0 → y.pi = C.seedIdx) : StateOK G C S :=
  let ⟨g, c⟩ := closure_grown h
  ⟨c.norm, fun y hy => g.all (fun _ hit _ hy => hit.succ hT hW hy) hok y (mem_norm.mp hy),
    g.justOrder hT.succLhs h0⟩

theorem gotoSet_edge (hT : TabOK G C) (hW : WfG G) {I J : List Item} {x : Nat}
    (h : gotoSet C I x = some J) (hI : ∀ it ∈ I, ItemOK G C it) (hx : ∃ it ∈ I, C.nextSyms it = [x]) :
    EdgeOK C I x (norm J) ∧ StateOK G C J := by
  obtain ⟨c1, _, c3⟩ := closure_spec h
  refine ⟨⟨hx, fun it hit hn => mem_norm.mpr (c1 _ (mem_gotoSeed.mpr ⟨it, hit, hn, rfl⟩)), ?_⟩,
    closure_state hT hW h ?_ ?_⟩
  · intro y hy
    rcases c3 y (mem_norm.mp hy) with hs | ⟨h0, z, hz, hzy⟩
    · exact Or.inr (mem_gotoSeed.mp hs)
    · exact Or.inl ⟨h0, succ_not_seed hT hW hzy⟩
  · intro y hy
    obtain ⟨it, hit, hn, rfl⟩ := mem_gotoSeed.mp hy
    exact (hI it hit).advance hn
  · intro y hy h0
    obtain ⟨it, _, _, rfl⟩ := mem_gotoSeed.mp hy
    exact absurd h0 (Nat.succ_ne_zero _)

theorem stateIndex_some {st : St} {J : List Item} {k : Nat} (h : stateIndex st J = some k) :
    st.states[k]? = some J := by
  unfold stateIndex at h
  obtain ⟨hk, hp, _⟩ := Array.findIdx?_eq_some_iff_getElem.mp h
  have : st.states[k] = J := by simpa using hp
  rw [Array.getElem?_eq_getElem hk, this]

theorem stateIndex_none {st : St} {J : List Item} (h : stateIndex st J = none) : J ∉ st.states.toList := by
  unfold stateIndex at h
  intro hm
  have := Array.findIdx?_eq_none_iff.mp h J (Array.mem_toList_iff.mp hm)
  simp at this

def ArrExt {α} (a a' : Array α) : Prop := ∀ (k : Nat) (v : α), a[k]? = some v → a'[k]? = some v

theorem ArrExt.get {α} {a a' : Array α} (h : ArrExt a a') {k : Nat} {v : α} (hk : a[k]? = some v) :
    a'[k]? = some v := h k v hk

theorem ArrExt.refl {α} {a : Array α} : ArrExt a a := fun _ _ h => h

theorem ArrExt.trans {α} {a b c : Array α} (h : ArrExt a b) (h' : ArrExt b c) : ArrExt a c :=
  fun _ _ hk => h'.get (h.get hk)

theorem ArrExt.push {α} {a : Array α} {w : α} : ArrExt a (a.push w) := fun k v h => by
  rw [Array.getElem?_push, if_neg (Nat.ne_of_lt (Array.getElem?_eq_some_iff.mp h).1)]
  exact h

theorem forall_push {α} {a : Array α} {w : α} {P : Nat → α → Prop}
    (h : ∀ i v, a[i]? = some v → P i v) (hw : P a.size w) : ∀ i v, (a.push w)[i]? = some v → P i v := by
  intro i v hi
  rw [Array.getElem?_push] at hi
  split at hi
  · next hk => cases hi; exact hk ▸ hw
  · exact h i v hi

structure Inv (G : Grammar) (C : Cert) (st : St) : Prop where
  size : st.just.size = st.states.size
  tsize : st.trans.size ≤ st.states.size
  mem : ∀ (i : Nat) (I L : List Item), st.states[i]? = some I → st.just[i]? = some L → ∀ it, it ∈ L ↔ it ∈ I
  closed : ∀ (i : Nat) (I : List Item), st.states[i]? = some I → Closed C I
  ok : ∀ (i : Nat) (I : List Item), st.states[i]? = some I → ∀ it ∈ I, ItemOK G C it
  order : ∀ (i : Nat) (L : List Item), st.just[i]? = some L → JustOrder C [] L
  edges : ∀ (s : Nat) (row : List (Nat × Nat)), st.trans[s]? = some row → ∀ e ∈ row,
    ∃ I J, st.states[s]? = some I ∧ st.states[e.2]? = some J ∧ EdgeOK C I e.1 J
  total : ∀ (s : Nat) (row : List (Nat × Nat)) (I : List Item), st.trans[s]? = some row → st.states[s]? = some I →
    ∀ it ∈ I, ∀ x ∈ C.nextSyms it, (row.lookup x).isSome = true

theorem Inv.push {st : St} {J : List Item} (hinv : Inv G C st) (hJ : StateOK G C J) :
    Inv G C { st with states := st.states.push (norm J), just := st.just.push J.reverse } := by
  have hs : ∀ {s : Nat} {r : List (Nat × Nat)}, st.trans[s]? = some r → s < st.states.size :=
    fun hr => Nat.lt_of_lt_of_le (Array.getElem?_eq_some_iff.mp hr).1 hinv.tsize
  refine ⟨by simp [hinv.size], Nat.le_trans hinv.tsize (by simp), ?_, forall_push hinv.closed hJ.closed,
    forall_push hinv.ok hJ.ok, forall_push hinv.order hJ.order, ?_, ?_⟩
  · intro k K L hK hL it
    rw [Array.getElem?_push] at hK hL
    rw [hinv.size] at hL
    split at hK
    · next hk =>
      rw [if_pos hk] at hL
      cases hK; cases hL
      rw [List.mem_reverse, mem_norm]
    · next hk =>
      rw [if_neg hk] at hL
      exact hinv.mem k K L hK hL it
  · intro s r hr e he
    obtain ⟨A, B, hA, hB, hE⟩ := hinv.edges s r hr e he
    exact ⟨A, B, ArrExt.push.get hA, ArrExt.push.get hB, hE⟩
  · intro s r K hr hK
    rw [Array.getElem?_push, if_neg (Nat.ne_of_lt (hs hr))] at hK
    exact hinv.total s r K hr hK

theorem Inv.pushRow {st : St} {I : List Item} {row : List (Nat × Nat)} (hinv : Inv G C st)
    (hI : st.states[st.trans.size]? = some I)
    (hedges : ∀ e ∈ row, ∃ J, st.states[e.2]? = some J ∧ EdgeOK C I e.1 J)
    (htotal : ∀ it ∈ I, ∀ y ∈ C.nextSyms it, (row.lookup y).isSome = true) :
    Inv G C { st with trans := st.trans.push row } := by
  refine ⟨hinv.size, (Array.size_push _).symm ▸ (Array.getElem?_eq_some_iff.mp hI).1, hinv.mem, hinv.closed, hinv.ok, hinv.order,
    forall_push hinv.edges ?_,
    fun s r K hr => forall_push (fun s r hr K => hinv.total s r K hr) ?_ s r hr K⟩
  · intro e he
    obtain ⟨B, hB, hE⟩ := hedges e he
    exact ⟨I, B, hI, hB, hE⟩
  · intro K hK
    rw [hI] at hK
    cases hK; exact htotal

theorem inv_empty : Inv G C ⟨#[], #[], #[]⟩ := by
  have no : ∀ {α} {i : Nat} {v : α}, ¬ (#[] : Array α)[i]? = some v := by simp
  exact ⟨rfl, Nat.le_refl _, fun _ _ _ h => absurd h no, fun _ _ h => absurd h no, fun _ _ h => absurd h no,
    fun _ _ h => absurd h no, fun _ _ h => absurd h no, fun _ _ _ h => absurd h no⟩

theorem inv_init (hT : TabOK G C) (hW : WfG G) {I0 : List Item}
    (hI : closure C [⟨C.seedIdx, 0, G.eoi⟩] = some I0) : Inv G C ⟨#[norm I0], #[I0.reverse], #[]⟩ :=
  inv_empty.push <| closure_state hT hW hI
    (fun _ hy => List.mem_singleton.mp hy ▸
      ⟨⟨G.seed, Cert.ruleAt_seed hT.rules, Nat.zero_le _⟩, fun _ => rfl, hT.eoi_terminal hW⟩)
    (fun _ hy _ => List.mem_singleton.mp hy ▸ rfl)

def addState (st : St) (J : List Item) : St × Nat :=
  match stateIndex st (norm J) with
  | some k => (st, k)
  | none => ({ st with states := st.states.push (norm J), just := st.just.push J.reverse }, st.states.size)

theorem expand_cons {I : List Item} {x : Nat} {J : List Item} (hg : gotoSet C I x = some J)
    (xs : List Nat) (st : St) (row : List (Nat × Nat)) :
    expand C I (x :: xs) st row = expand C I xs (addState st J).1 (row ++ [(x, (addState st J).2)]) := by
  simp only [expand, hg, addState]
  cases stateIndex st (norm J) <;> rfl

theorem addState_spec (st : St) (J : List Item) :
    (addState st J).1.states[(addState st J).2]? = some (norm J) ∧ (addState st J).1.trans = st.trans ∧
      ArrExt st.states (addState st J).1.states ∧ ArrExt st.just (addState st J).1.just := by
  unfold addState
  cases hi : stateIndex st (norm J) with
  | some k => exact ⟨stateIndex_some hi, rfl, ArrExt.refl, ArrExt.refl⟩
  | none => exact ⟨Array.getElem?_push_size, rfl, ArrExt.push, ArrExt.push⟩

theorem Inv.addState {st : St} {J : List Item} (hinv : Inv G C st) (hJ : StateOK G C J) : Inv G C (addState st J).1 := by
  unfold Gen.addState
  cases stateIndex st (norm J) with
  | some k => exact hinv
  | none => exact hinv.push hJ

theorem lookup_isSome_of_mem {x : Nat} {row : List (Nat × Nat)} (h : x ∈ row.map Prod.fst) :
    (row.lookup x).isSome = true := by
  obtain ⟨e, he, rfl⟩ := List.mem_map.mp h
  exact List.lookup_isSome_iff.mpr ⟨e, he, beq_self_eq_true _⟩

theorem expand_inv (hT : TabOK G C) (hW : WfG G) {I : List Item} (hI : ∀ it ∈ I, ItemOK G C it)
    {xs : List Nat} : ∀ {st : St} {row : List (Nat × Nat)} {st' : St} {row' : List (Nat × Nat)},
    expand C I xs st row = some (st', row') → Inv G C st →
    (∀ x ∈ xs, ∃ it ∈ I, C.nextSyms it = [x]) →
    (∀ e ∈ row, ∃ J, st.states[e.2]? = some J ∧ EdgeOK C I e.1 J) →
    Inv G C st' ∧ st'.trans = st.trans ∧ ArrExt st.states st'.states ∧ ArrExt st.just st'.just ∧
    (∀ e ∈ row', ∃ J, st'.states[e.2]? = some J ∧ EdgeOK C I e.1 J) ∧
    row'.map Prod.fst = row.map Prod.fst ++ xs := by
  induction xs with
  | nil =>
    intro st row st' row' h hinv _ hrow
    cases h
    exact ⟨hinv, rfl, ArrExt.refl, ArrExt.refl, hrow, (List.append_nil _).symm⟩
  | cons x xs ih =>
    intro st row st' row' h hinv hxs hrow
    cases hg : gotoSet C I x with
    | none => simp [expand, hg] at h
    | some J =>
      rw [expand_cons hg] at h
      obtain ⟨e1, e2⟩ := gotoSet_edge hT hW hg hI (hxs x List.mem_cons_self)
      obtain ⟨a1, a2, a3, a4⟩ := addState_spec st J
      obtain ⟨r1, r2, r3, r3', r4, r5⟩ := ih h (hinv.addState e2)
        (fun y hy => hxs y (List.mem_cons_of_mem _ hy)) (by
          intro e he
          rcases List.mem_append.mp he with he | he
          · obtain ⟨B, hB, hE⟩ := hrow e he
            exact ⟨B, a3.get hB, hE⟩
          · rw [List.mem_singleton.mp he]
            exact ⟨_, a1, e1⟩)
      exact ⟨r1, r2.trans a2, a3.trans r3, a4.trans r3', r4, by simp [r5]⟩

/-- `st.trans.size = i`: rows pushed = states expanded.  So the row pushed for state `i` is the one `Inv.edges` / `Inv.total` speak of, and
at the exit (`states[i]? = none`) every state has its row.  `ArrExt st.just st'.just`: state 0 is still the closure of the seed item
(`Done.zero`, for `VStart`). -/
theorem bfs_inv (hT : TabOK G C) (hW : WfG G) {f : Nat} : ∀ {i : Nat} {st st' : St}, bfs C f i st = some st' →
    Inv G C st → st.trans.size = i →
    Inv G C st' ∧ st'.trans.size = st'.states.size ∧ ArrExt st.just st'.just := by
  intro i st st'
  fun_induction bfs C f i st with
  | case1 => nofun
  | case2 f i st hI =>
    rintro ⟨⟩ hinv hi
    refine ⟨hinv, Nat.le_antisymm hinv.tsize ?_, ArrExt.refl⟩
    rw [hi]
    exact Array.getElem?_eq_none_iff.mp hI
  | case3 => nofun
  | case4 f i st I hI st1 row he ih =>
    intro h hinv hi
    obtain ⟨r1, r2, r3, r3', r4, r5⟩ := expand_inv hT hW (hinv.ok i I hI) he hinv (by
      intro x hx
      obtain ⟨it, hit, hx⟩ := List.mem_flatMap.mp (mem_normN.mp hx)
      exact ⟨it, hit, nextSyms_singleton.mp hx⟩) (by intro e he; cases he)
    have hI1 : st1.states[st1.trans.size]? = some I := by rw [r2, hi]; exact r3.get hI
    obtain ⟨b1, b2, b3⟩ := ih h
      (r1.pushRow hI1 r4 fun it hit y hy => lookup_isSome_of_mem (by
        rw [r5]
        exact mem_normN.mpr (List.mem_flatMap.mpr ⟨it, hit, hy⟩))) (by simp [r2, hi])
    exact ⟨b1, b2, r3'.trans b3⟩

end Gen
end Emboss.Lr1
