/-
`BcdView`: the `ConvertToBinary` loop and the bound on its result, the SWAR test of `IsBcd`
(`((~x - 0x66…6) & x & 0x88…8) == 0` holds exactly when every nibble of `x` is at most 9; by
induction over the nibbles from the low end: as long as the nibbles seen are decimal digits
the subtraction does not borrow, and the first nibble above 9 leaves bit 3 set in its own
position), and the write side: `ConvertToBcd`, `MaxBcd`, representability.
-/
import Emboss.Lemmas.Bits
import Emboss.Spec.Scalar
namespace Emboss.Scalar
open Emboss.Bits Emboss.Scalar.Spec

/-! ### ConvertToBinary -/

theorem nibbles_le_leastWidth {k : Nat} (hk : k ≤ 64) : nibbles k ≤ leastWidth k / 4 := by
  have := leastWidth_spec k; unfold nibbles; omega

theorem pow10_nibbles_le {k : Nat} (hk : k ≤ 64) : 2 * 10 ^ nibbles k ≤ 2 ^ leastWidth k := by
  refine Nat.le_trans (Nat.mul_le_mul_left 2
    (Nat.pow_le_pow_right (by decide) (nibbles_le_leastWidth hk))) ?_
  rcases leastWidth_cases k with h | h | h | h <;> rw [h] <;> decide

/-- The loop of `ConvertToBinary` from any state `(shift, result, mult)`: as long as the width
holds `2·mult·10^fuel` and `result < 2·mult`, nothing wraps (a nibble is below 16, so the next
result is below `17·mult ≤ 2·(10·mult)`). -/
theorem bcdToBinaryAux_eq {VW : Nat} (v fuel shift result mult : Nat)
    (hb : 2 * mult * 10 ^ fuel ≤ 2 ^ VW) (hres : result < 2 * mult) :
    bcdToBinaryAux VW v fuel shift result mult = result + mult * bcdValue fuel (v >>> shift) := by
  induction fuel generalizing shift result mult with
  | zero => simp [bcdToBinaryAux, bcdValue]
  | succ fuel ih =>
    rw [Nat.pow_succ, Nat.mul_comm _ 10, ← Nat.mul_assoc, Nat.mul_assoc 2] at hb
    have hT : 2 * (mult * 10) ≤ 2 ^ VW :=
      Nat.le_trans (Nat.le_mul_of_pos_right _ (Nat.pow_pos (Nat.succ_pos 9))) hb
    have hA : 2 ^ VW ≤ 2 ^ arithW VW := Nat.pow_le_pow_right Nat.two_pos (le_arithW VW)
    have hN : v >>> shift % 16 * mult ≤ 15 * mult :=
      Nat.mul_le_mul_right _ (Nat.le_of_lt_succ (Nat.mod_lt _ (by decide)))
    rw [bcdToBinaryAux, Nat.and_two_pow_sub_one_eq_mod _ 4, mulW, mulW,
      wrap_of_lt (by omega : v >>> shift % 16 * mult < 2 ^ arithW VW),
      wrap_of_lt (by omega : mult * 10 < 2 ^ VW), wrap_of_lt (by omega),
      ih _ _ _ hb (by omega), bcdValue, Nat.shiftRight_add, Nat.shiftRight_eq_div_pow _ 4, Nat.mul_add,
      Nat.mul_comm (_ % 16), Nat.mul_assoc, Nat.add_assoc]

theorem bcdToBinary_eq {k v : Nat} (hk : k ≤ 64) (hv : v < 2 ^ k) :
    bcdToBinary k v = bcdValue (nibbles k) v := by
  unfold bcdToBinary nibbles
  rw [wrap_of_lt (lt_pow_of_lt_of_le hv (le_leastWidth hk)),
    bcdToBinaryAux_eq _ _ _ _ _ (by rw [Nat.mul_one]; exact pow10_nibbles_le hk) (by decide),
    Nat.zero_add, Nat.one_mul, Nat.shiftRight_zero]

/-- The bound that the step `d % 16 + 10 · _` preserves (`3·(15 + 10v) + 5 = 10·(3v + 5)`), with
equality at all-`f` nibbles; it puts the value of `n` nibbles below `2·10ⁿ`. -/
theorem bcdValue_bound (n d : Nat) : 3 * bcdValue n d + 5 ≤ 5 * 10 ^ n := by
  induction n generalizing d with
  | zero => simp [bcdValue]
  | succ n ih =>
    have := ih (d / 16)
    have hm := Nat.mod_lt d (show 0 < 16 by decide)
    simp only [bcdValue, Nat.pow_succ]; omega

/-! ### IsBcd -/

theorem nibble_zero (x : Nat) : nibble 0 x = x % 16 := by simp [nibble]

theorem nibble_succ (i x : Nat) : nibble (i + 1) x = nibble i (x / 16) := by
  unfold nibble; rw [Nat.pow_succ, Nat.mul_comm, Nat.div_div_eq_div_mul]

theorem bcdOk_succ (n d : Nat) : BcdOk (n + 1) d ↔ d % 16 ≤ 9 ∧ BcdOk n (d / 16) := by
  constructor
  · intro h
    exact ⟨nibble_zero d ▸ h 0 (Nat.succ_pos n),
      fun i hi => nibble_succ i d ▸ h (i + 1) (Nat.succ_lt_succ hi)⟩
  · rintro ⟨h0, h⟩ i hi
    cases i with
    | zero => rw [nibble_zero]; exact h0
    | succ i => rw [nibble_succ]; exact h i (Nat.lt_of_succ_lt_succ hi)

theorem and3_mod16 (a b c : Nat) : (a &&& b &&& c) % 16 = a % 16 &&& b % 16 &&& c % 16 := by
  rw [show (16 : Nat) = 2 ^ 4 from rfl, Nat.and_mod_two_pow, Nat.and_mod_two_pow]

theorem and3_div16 (a b c : Nat) : (a &&& b &&& c) / 16 = a / 16 &&& b / 16 &&& c / 16 := by
  rw [show (16 : Nat) = 2 ^ 4 from rfl, Nat.and_div_two_pow, Nat.and_div_two_pow]

/-- One nibble of the test: `a` is the nibble of `~x - 0x66…6` over the nibble `r` of `x`. -/
theorem digit_tab : ∀ a, a < 16 → ∀ r, r < 16 →
    (a + r = 9 → a &&& r &&& 8 = 0 ∧ r ≤ 9) ∧ (a + r = 25 → a &&& r &&& 8 ≠ 0 ∧ 9 < r) := by
  decide +kernel

/-- The test on an `n`-nibble word.  `S` is `0x11…1` (`n` ones) and `D` is `~x - 6·S` before
reduction mod `16ⁿ`, given by `D + x = 16ⁿ + 9·S`. -/
theorem swar_iff (n : Nat) : ∀ x S D : Nat, 15 * S + 1 = 16 ^ n →
    D + x = 16 ^ n + 9 * S → (D % 16 ^ n &&& x &&& (8 * S) = 0 ↔ BcdOk n x) := by
  induction n with
  | zero =>
    intro x S D _ _
    exact ⟨fun _ i hi => absurd hi (Nat.not_lt_zero i), fun _ => by simp [Nat.mod_one]⟩
  | succ n ih =>
    intro x S D hS hD
    rw [Nat.pow_succ] at hS hD ⊢
    -- no borrow into this nibble and none out of it, or a borrow out of it
    have hc : (D % 16 + x % 16 = 9 ∧ D / 16 + x / 16 = 16 ^ n + 9 * (S / 16) ∧
        15 * (S / 16) + 1 = 16 ^ n) ∨ D % 16 + x % 16 = 25 := by omega
    have hsplit : ∀ w : Nat, w = 0 ↔ w % 16 = 0 ∧ w / 16 = 0 := by omega
    rw [bcdOk_succ, hsplit, and3_mod16, and3_div16, Nat.mod_mul_left_mod,
      Nat.mod_mul_left_div_self, show 8 * S % 16 = 8 by omega,
      show 8 * S / 16 = 8 * (S / 16) by omega]
    have ht := digit_tab _ (Nat.mod_lt D (by decide)) _ (Nat.mod_lt x (by decide))
    rcases hc with ⟨ha, hD', hS'⟩ | ha
    · rw [ih _ _ _ hS' hD', (ht.1 ha).1]
      simp only [true_and, (ht.1 ha).2]
    · exact ⟨fun h => absurd h.1 (ht.2 ha).1, fun h => absurd h.1 (Nat.not_le.2 (ht.2 ha).2)⟩

theorem isBcd_eq_swar {W x S : Nat} (hS : 15 * S + 1 = 2 ^ arithW W) (hx : x < 2 ^ arithW W) :
    isBcd W x = decide ((2 ^ arithW W - 1 - x + (2 ^ arithW W - S * 6)) % 2 ^ arithW W &&& x &&&
      (8 * S) = 0) := by
  unfold isBcd
  simp only []
  generalize arithW W = E at *
  have h6 : mulW E S 6 = S * 6 := wrap_of_lt (by omega)
  have h8 : mulW E S 8 = 8 * S := by rw [Nat.mul_comm 8]; exact wrap_of_lt (by omega)
  rw [notW_eq (Nat.two_pow_pos E), show (2 ^ E - 1 - 0) / 0xf = S by omega, notW_eq hx, h6, h8,
    Bool.beq_eq_decide_eq, subW, wrap_of_lt (by omega : 2 ^ E - 1 - x < 2 ^ E),
    wrap_of_lt (by omega : S * 6 < 2 ^ E), wrap]

theorem nibble_eq_zero_of_lt {x i : Nat} (h : x < 16 ^ i) : nibble i x = 0 := by
  unfold nibble; rw [Nat.div_eq_of_lt h]

theorem bcdOk_iff_of_lt {m n x : Nat} (hmn : m ≤ n) (hx : x < 16 ^ m) : BcdOk n x ↔ BcdOk m x := by
  refine ⟨fun h i hi => h i (Nat.lt_of_lt_of_le hi hmn), fun h i _ => ?_⟩
  by_cases him : i < m
  · exact h i him
  · rw [nibble_eq_zero_of_lt (Nat.lt_of_lt_of_le hx (Nat.pow_le_pow_right (by decide) (by omega)))]
    exact Nat.zero_le 9

theorem pow16_eq (i : Nat) : 16 ^ i = 2 ^ (4 * i) := by rw [Nat.pow_mul]

theorem isBcd_iff {W w x : Nat} (hW : W = 8 ∨ W = 16 ∨ W = 32 ∨ W = 64) (hw : w ≤ W)
    (hx : x < 2 ^ w) : isBcd W x = true ↔ BcdOk (nibbles w) x := by
  obtain ⟨n, S, hpow, hS, hn⟩ : ∃ n S, 2 ^ arithW W = 16 ^ n ∧ 15 * S + 1 = 16 ^ n ∧ W ≤ 4 * n := by
    rcases hW with rfl | rfl | rfl | rfl
    · exact ⟨8, 0x11111111, by decide, by decide, by decide⟩
    · exact ⟨8, 0x11111111, by decide, by decide, by decide⟩
    · exact ⟨8, 0x11111111, by decide, by decide, by decide⟩
    · exact ⟨16, 0x1111111111111111, by decide, by decide, by decide⟩
  have h16 : ∀ k, w ≤ 4 * k → x < 16 ^ k := fun k hk => by
    rw [pow16_eq]; exact lt_pow_of_lt_of_le hx hk
  have hxn := h16 n (by omega)
  unfold nibbles
  rw [isBcd_eq_swar (hpow ▸ hS) (hpow ▸ hxn), decide_eq_true_iff, hpow]
  exact (swar_iff n x S _ hS (by omega)).trans
    (bcdOk_iff_of_lt (by omega) (h16 _ (by omega)))

/-! ### ConvertToBcd, MaxBcd -/

/-- Decimal digits of `v` packed one per nibble (`n` digits). -/
def bcdEnc : Nat → Nat → Nat
  | 0, _ => 0
  | n + 1, v => v % 10 + 16 * bcdEnc n (v / 10)

theorem bcdEnc_lt (n v : Nat) : bcdEnc n v < 16 ^ n := by
  induction n generalizing v with
  | zero => simp [bcdEnc]
  | succ n ih =>
    have := ih (v / 10)
    have := Nat.mod_lt v (show 0 < 10 by decide)
    simp only [bcdEnc, Nat.pow_succ]; omega

theorem binaryToBcdAux_eq {VW : Nat} (fuel shift value acc : Nat) (hW : shift + 4 * fuel ≤ VW)
    (hacc : acc < 2 ^ shift) :
    binaryToBcdAux VW fuel shift value acc = acc + 2 ^ shift * bcdEnc fuel value := by
  induction fuel generalizing shift value acc with
  | zero => simp [binaryToBcdAux, bcdEnc]
  | succ fuel ih =>
    obtain ⟨hstep, hlt⟩ := wrap_or_shl (W := VW) hacc (s := 4) (b := value % 10)
      (Nat.lt_of_lt_of_le (Nat.mod_lt _ (by decide)) (by decide)) (by omega)
    rw [binaryToBcdAux, hstep, ih _ _ _ (by omega) hlt, bcdEnc, Nat.pow_add, Nat.mul_add,
      Nat.mul_comm (value % 10), Nat.mul_assoc, Nat.add_assoc]

theorem binaryToBcd_eq {k v : Nat} (hk : k ≤ 64) : binaryToBcd k v = bcdEnc (nibbles k) v := by
  have := nibbles_le_leastWidth hk
  unfold binaryToBcd nibbles at *
  rw [binaryToBcdAux_eq _ 0 v 0 (by omega) (by decide), Nat.zero_add, Nat.pow_zero, Nat.one_mul]

theorem bcdEnc_succ_mod (n v : Nat) : bcdEnc (n + 1) v % 16 = v % 10 := by
  rw [bcdEnc]; omega

theorem bcdEnc_succ_div (n v : Nat) : bcdEnc (n + 1) v / 16 = bcdEnc n (v / 10) := by
  rw [bcdEnc]; omega

theorem bcdEnc_ok (n v : Nat) : BcdOk n (bcdEnc n v) := by
  induction n generalizing v with
  | zero => intro i hi; omega
  | succ n ih =>
    rw [bcdOk_succ, bcdEnc_succ_mod, bcdEnc_succ_div]
    exact ⟨by omega, ih _⟩

/-! A `4m + r`-bit Bcd (`r < 4`) has `m` full nibbles below a top part of `nibbles r` nibbles
(one nibble of `r` bits, absent when `r = 0`).  The bounds below are proved for any top part of
`n0` nibbles with values below `c` on which the property at hand holds, by induction on `m`. -/

theorem nibbles_add (m r : Nat) : nibbles (4 * m + r) = nibbles r + m := by
  unfold nibbles; omega

/-- A value of the top part is below `2^3`, hence a digit, and is its own encoding. -/
theorem top_spec {r x : Nat} (hr : r < 4) (hx : x < 2 ^ r) :
    bcdEnc (nibbles r) x = x ∧ bcdValue (nibbles r) x = x := by
  have h8 : 2 ^ r ≤ 2 ^ 3 := Nat.pow_le_pow_right Nat.two_pos (by omega)
  obtain rfl | h : r = 0 ∨ nibbles r = 1 := by unfold nibbles; omega
  · obtain rfl : x = 0 := by omega
    exact ⟨rfl, rfl⟩
  · simp only [h, bcdEnc, bcdValue]; omega

theorem bcdEnc_bound {n0 c : Nat}
    (h0 : ∀ v, v < c → bcdEnc n0 v < c ∧ bcdValue n0 (bcdEnc n0 v) = v) (m v : Nat)
    (hv : v < 10 ^ m * c) :
    bcdEnc (n0 + m) v < 16 ^ m * c ∧ bcdValue (n0 + m) (bcdEnc (n0 + m) v) = v := by
  induction m generalizing v with
  | zero => simpa using h0 v (by simpa using hv)
  | succ m ih =>
    obtain ⟨h1, h2⟩ := ih (v / 10) (by rw [Nat.pow_succ, Nat.mul_right_comm] at hv; omega)
    rw [← Nat.add_assoc, bcdValue, bcdEnc_succ_mod, bcdEnc_succ_div, h2, bcdEnc, Nat.pow_succ,
      Nat.mul_right_comm]
    omega

theorem bcdValue_bound_of_ok {n0 c : Nat} (h0 : ∀ d, d < c → bcdValue n0 d < c) (m d : Nat)
    (hd : d < 16 ^ m * c) (hok : BcdOk (n0 + m) d) : bcdValue (n0 + m) d < 10 ^ m * c := by
  induction m generalizing d with
  | zero => simpa using h0 d (by simpa using hd)
  | succ m ih =>
    rw [← Nat.add_assoc, bcdOk_succ] at hok
    have := ih (d / 16) (by rw [Nat.pow_succ, Nat.mul_right_comm] at hd; omega) hok.2
    rw [← Nat.add_assoc, bcdValue, Nat.pow_succ, Nat.mul_right_comm]; omega

/-- `MaxBcd<ValueType>(bits) = 10^⌊bits/4⌋ · 2^(bits mod 4) − 1`. -/
theorem maxBcd_eq (VW m r : Nat) (hr : r < 4) (hVW : 4 * m + r ≤ VW) :
    maxBcd VW (4 * m + r) = 10 ^ m * 2 ^ r - 1 := by
  induction m with
  | zero =>
    rw [Nat.mul_zero, Nat.zero_add, Nat.pow_zero, Nat.one_mul, maxBcd.eq_def]
    split
    · omega
    · rw [shl_one (by omega)]
      exact wrap_of_lt (Nat.lt_of_lt_of_le (Nat.sub_lt (Nat.two_pow_pos r) Nat.one_pos)
        (Nat.pow_le_pow_right Nat.two_pos (by omega)))
  | succ m ih =>
    have hpos : 0 < 10 ^ m * 2 ^ r := Nat.mul_pos (Nat.pos_of_ne_zero (by simp)) (Nat.two_pow_pos r)
    have hle : 10 ^ (m + 1) * 2 ^ r ≤ 2 ^ VW := by
      refine Nat.le_trans ?_ (Nat.pow_le_pow_right Nat.two_pos hVW)
      rw [Nat.pow_add 2, ← pow16_eq]
      exact Nat.mul_le_mul_right _ (Nat.pow_le_pow_left (by decide) _)
    have hstep : 10 * (10 ^ m * 2 ^ r) = 10 ^ (m + 1) * 2 ^ r := by
      rw [Nat.pow_succ, Nat.mul_right_comm, Nat.mul_comm]
    rw [show 4 * (m + 1) + r = (4 * m + r) + 4 by omega, maxBcd, ih (by omega),
      Nat.sub_add_cancel hpos, hstep]
    exact wrap_of_lt (by omega)

theorem maxBcd_iff_bcd_pattern {k v : Nat} (hk64 : k ≤ 64) :
    (v ≤ maxBcd (leastWidth k) k ↔
      ∃ d, d < 2 ^ k ∧ BcdOk (nibbles k) d ∧ bcdValue (nibbles k) d = v) ∧
    (v ≤ maxBcd (leastWidth k) k →
      binaryToBcd k v < 2 ^ k ∧ BcdOk (nibbles k) (binaryToBcd k v) ∧
      bcdValue (nibbles k) (binaryToBcd k v) = v) := by
  obtain ⟨m, r, hr, rfl⟩ : ∃ m r, r < 4 ∧ k = 4 * m + r := ⟨k / 4, k % 4, by omega, by omega⟩
  rw [maxBcd_eq _ m r hr (le_leastWidth hk64), nibbles_add m r, binaryToBcd_eq hk64,
    nibbles_add m r, Nat.pow_add, ← pow16_eq]
  have hpos : 0 < 10 ^ m * 2 ^ r := Nat.mul_pos (Nat.pos_of_ne_zero (by simp)) (Nat.two_pow_pos r)
  have hwit : v ≤ 10 ^ m * 2 ^ r - 1 →
      bcdEnc (nibbles r + m) v < 16 ^ m * 2 ^ r ∧ BcdOk (nibbles r + m) (bcdEnc (nibbles r + m) v) ∧
      bcdValue (nibbles r + m) (bcdEnc (nibbles r + m) v) = v := fun hv =>
    have h := bcdEnc_bound (fun x hx => by rw [(top_spec hr hx).1, (top_spec hr hx).2]; exact ⟨hx, rfl⟩)
      m v (by omega)
    ⟨h.1, bcdEnc_ok _ _, h.2⟩
  refine ⟨⟨fun hv => ⟨_, hwit hv⟩, ?_⟩, hwit⟩
  rintro ⟨d, hd, hok, rfl⟩
  have := bcdValue_bound_of_ok (fun x hx => by rw [(top_spec hr hx).2]; exact hx) m d hd hok
  omega

end Emboss.Scalar
