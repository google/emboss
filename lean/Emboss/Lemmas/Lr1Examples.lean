/- Facts about the regenerated example grammars, for the counterexample of Properties/C08: in the
grammar of finding F10 the nonterminal `B` derives nothing. -/
import Emboss.Lemmas.Lr1Error
import Emboss.Generated.Lr1Examples
namespace Emboss.Lr1
open Examples

theorem leaf_of_terminal_root {G : Grammar} {t : Tree} (ht : ParseTree G t)
    (h : G.isNT t.root = false) : ∃ tok, t = .leaf tok := by
  cases ht with
  | leaf tok _ => exact ⟨tok, rfl⟩
  | node p cs hp _ _ =>
    exfalso
    have : G.isNT p.lhs = true := Grammar.isNT_iff.mpr ⟨p, List.mem_append_left _ hp, rfl⟩
    simp only [Tree.root] at h
    rw [this] at h; cases h

theorem map_root_pair {cs : List Tree} {x y : Nat} (h : cs.map Tree.root = [x, y]) :
    ∃ c1 c2, cs = [c1, c2] ∧ c1.root = x ∧ c2.root = y := by
  match cs, h with
  | [c1, c2], h =>
    simp only [List.map_cons, List.map_nil, List.cons.injEq, and_true] at h
    exact ⟨c1, c2, rfl, h.1, h.2⟩
  | [], h => simp at h
  | [_], h => simp at h
  | _ :: _ :: _ :: _, h => simp at h

/-- In `S → a B | a c ; B → b B` the nonterminal `B` (code 4) derives no terminal string. -/
theorem f10_no_tree_for_B : ∀ {t : Tree}, ParseTree f10G t → t.root ≠ 4 := by
  intro t ht
  induction ht with
  | leaf tok hnt =>
    intro h
    simp only [Tree.root] at h
    rw [h] at hnt
    revert hnt; decide
  | node p cs hp hcs hroots ih =>
    intro h
    simp only [Tree.root] at h
    simp only [f10G, List.mem_cons, List.mem_nil_iff, or_false] at hp
    rcases hp with rfl | rfl | rfl
    · cases h
    · cases h
    · obtain ⟨c1, c2, rfl, _, h2⟩ := map_root_pair hroots
      exact ih c2 (by simp) h2

end Emboss.Lr1
