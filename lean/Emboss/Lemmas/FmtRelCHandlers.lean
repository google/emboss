/-
C11, normal form modulo trailing blanks of Comment tokens: `run_rel` — every handler but
`_identity` (whose case is in `node_rel`, FmtRelCFold.lean) maps related arguments to related
results, or is undefined on both.  Each reader of a list argument
(`asRows`, `asBlocks`, `asSections`) respects the relation, so a handler's proof follows these readers
through its `do` block; string arguments are given as constructors (`ForArgs`) and their readers compute.
-/
import Emboss.Lemmas.FmtRelC
import Emboss.Lemmas.FmtTree
import Emboss.Spec.FmtEquivC
namespace Emboss.Fmt

/-- Results of handlers on two trees that differ in trailing blanks of comments. -/
def VRel : Fmt → Fmt → Prop
  | .str a, .str b => a = b
  | .strs a, .strs b => a = b
  | .nil, .nil => True
  | .rows a, .rows b => RowsRel a b
  | .blocks a, .blocks b => BlocksRel a b
  | .sections a, .sections b => All₂ RowsRel a b
  | .inlineBody h f, .inlineBody h' f' => RowsRel h h' ∧ BlocksRel f f'
  | _, _ => False

/-- A comment argument. -/
def CArg (v v' : Fmt) : Prop := ∃ c c', v = .str c ∧ v' = .str c' ∧ CRel c c'

/-- `VRel` as an inductive relation. -/
inductive VRelView : Fmt → Fmt → Prop
  | str (s : Str) : VRelView (.str s) (.str s)
  | strs (l : List Str) : VRelView (.strs l) (.strs l)
  | nil : VRelView .nil .nil
  | rows {a b : List Row} : RowsRel a b → VRelView (.rows a) (.rows b)
  | blocks {a b : List Block} : BlocksRel a b → VRelView (.blocks a) (.blocks b)
  | sections {a b : List (List Row)} : All₂ RowsRel a b → VRelView (.sections a) (.sections b)
  | inlineBody {h h' : List Row} {f f' : List Block} :
      RowsRel h h' → BlocksRel f f' → VRelView (.inlineBody h f) (.inlineBody h' f')

theorem VRel.view {a a' : Fmt} (h : VRel a a') : VRelView a a' := by
  cases a <;> cases a' <;> first
    | exact h.elim
    | exact .nil
    | exact .rows h
    | exact .blocks h
    | exact .sections h
    | exact .inlineBody h.1 h.2
    | (cases h; constructor)

theorem asStr_eq {a a' : Fmt} (h : VRel a a') : asStr a = asStr a' := by
  cases h.view <;> rfl

theorem asRows_rel {a a' : Fmt} (h : VRel a a') : ORel RowsRel (asRows a) (asRows a') := by
  cases h.view <;> first | exact trivial | assumption | exact All₂.nil

theorem asBlocks_rel {a a' : Fmt} (h : VRel a a') : ORel BlocksRel (asBlocks a) (asBlocks a') := by
  cases h.view <;> first | exact trivial | assumption | exact All₂.nil

theorem asSections_rel {a a' : Fmt} (h : VRel a a') :
    ORel (All₂ RowsRel) (asSections a) (asSections a') := by
  cases h.view <;> first | exact trivial | assumption | exact All₂.nil

theorem vrel_str {a a' : Fmt} (hk : HasKind a .str) (h : VRel a a') : a' = a := by
  obtain ⟨s, rfl⟩ := hk
  cases h.view; rfl

theorem concatWith_two_rel (j x : Str) {c c' : Str} (h : CRel c c') :
    CRel (concatWith j [x, c]) (concatWith j [x, c']) := by
  unfold concatWith
  have he := h.isEmpty_eq
  simp only [List.filter_cons, List.filter_nil, ← he]
  cases hx : x.isEmpty <;> cases hc : c.isEmpty <;>
    simp only [Bool.not_true, Bool.not_false, Bool.false_eq_true, if_false, if_true, joinWith]
  · exact h.pre _
  · exact CRel.refl _
  · exact h
  · exact CRel.refl _

theorem plainRow_rel (n : RowName) {c c' : Str} (h : CRel c c') :
    RowRel { name := n, columns := [c] } { name := n, columns := [c'] } := ⟨rfl, rfl, h⟩

theorem headerBlock_rel (n : RowName) {cs cs' : List Str} {body body' : List Row} (hc : ColsRel cs cs')
    (hn : cs.length = ncols n) (hb : RowsRel body body') :
    BlockRel { pre := [], header := { name := n, columns := cs }, body := body }
      { pre := [], header := { name := n, columns := cs' }, body := body' } :=
  ⟨All₂.nil, ⟨rfl, rfl, hc⟩, hb, hn⟩

theorem pyAdd_rel {a a' b b' : Fmt} (ha : VRel a a') (hb : VRel b b') :
    ORel VRel (pyAdd a b) (pyAdd a' b') := by
  -- undefined on both sides, the same strings, one side `[]`, or two lists
  cases ha.view <;> cases hb.view <;>
    first | exact trivial | exact rfl | assumption | exact All₂.append ‹_› ‹_›

/-- Arguments at position `i` of handler `h` on the two sides: anything where `h` ignores
the argument, a comment where it takes the line's comment, related values elsewhere. -/
def ArgRel (h : Handler) (i : Nat) (v v' : Fmt) : Prop :=
  if i ∈ h.dropped then True else if i ∈ h.commentPos then CArg v v' else VRel v v'

def ArgsRel (h : Handler) : Nat → List Fmt → List Fmt → Prop
  | _, [], [] => True
  | i, a :: as, b :: bs => ArgRel h i a b ∧ ArgsRel h (i + 1) as bs
  | _, _, _ => False

/-- `Q` holds of all related pairs of arguments of kind `k` at position `i`; where position and kind
fix the constructor the pair is given in that form. -/
def ForArg (h : Handler) (i : Nat) (k : Kind) (Q : Fmt → Fmt → Prop) : Prop :=
  if i ∈ h.dropped then ∀ a b, Q a b
  else if i ∈ h.commentPos then ∀ c c', CRel c c' → Q (.str c) (.str c')
  else match k with
    | .str => ∀ s, Q (.str s) (.str s)
    | .strs2 => ∀ x y, Q (.strs [x, y]) (.strs [x, y])
    | .inlineBody => ∀ hl hl' fb fb', RowsRel hl hl' → BlocksRel fb fb' →
        Q (.inlineBody hl fb) (.inlineBody hl' fb')
    | _ => ∀ a b, VRel a b → Q a b

/-- `P` holds of all pairs of related argument lists with one argument per entry of `ks`, of that kind. -/
def ForArgs (h : Handler) : Nat → List Kind → (List Fmt → List Fmt → Prop) → Prop
  | _, [], P => P [] []
  | i, k :: ks, P => ForArg h i k fun a b => ForArgs h (i + 1) ks fun as bs => P (a :: as) (b :: bs)

theorem ArgRel.elim {h : Handler} {i : Nat} {k : Kind} {a b : Fmt} {Q : Fmt → Fmt → Prop}
    (h0 : ArgRel h i a b) (hka : HasKind a k) (hp : ForArg h i k Q) : Q a b := by
  unfold ForArg at hp
  unfold ArgRel at h0
  by_cases hd : i ∈ h.dropped
  · rw [if_pos hd] at hp
    exact hp a b
  · rw [if_neg hd] at hp h0
    by_cases hc : i ∈ h.commentPos
    · rw [if_pos hc] at hp h0
      obtain ⟨c, c', rfl, rfl, hcc⟩ := h0
      exact hp c c' hcc
    · rw [if_neg hc] at hp h0
      cases k with
      | str =>
        obtain ⟨s, rfl⟩ := hka
        cases h0.view
        exact hp s
      | strs2 =>
        obtain ⟨x, y, rfl⟩ := hka
        cases h0.view
        exact hp x y
      | inlineBody =>
        obtain ⟨hl, fb, rfl, -⟩ := hka
        cases h0.view with
        | inlineBody hh hf => exact hp _ _ _ _ hh hf
      | _ => exact hp a b h0

theorem ArgsRel.elim {h : Handler} {P : List Fmt → List Fmt → Prop} :
    ∀ {ks : List Kind} {i : Nat} {args args' : List Fmt},
      ArgsRel h i args args' → HasKinds args ks → ForArgs h i ks P → P args args' := by
  intro ks
  induction ks generalizing P with
  | nil =>
    intro i args args' ha hk hp
    cases hasKinds_nil hk
    cases args' with
    | nil => exact hp
    | cons _ _ => exact False.elim ha
  | cons k ks ih =>
    intro i args args' ha hk hp
    obtain ⟨a, as, rfl, hka, hr⟩ := hasKinds_cons hk
    cases args' with
    | nil => exact False.elim ha
    | cons b bs => exact ih (P := fun as bs => P (a :: as) (b :: bs)) ha.2 hr (ha.1.elim hka hp)

theorem ArgsRel.run {h : Handler} {iw : Nat} {ks ks₀ : List Kind} {k k₀ : Kind} {args args' : List Fmt}
    (ha : ArgsRel h 0 args args') (hk : HasKinds args ks)
    (hs : (if ks = ks₀ then some k₀ else none) = some k)
    (hp : ForArgs h 0 ks₀ fun as bs => ORel VRel (h.run iw as) (h.run iw bs)) :
    ORel VRel (h.run iw args) (h.run iw args') := by
  obtain ⟨rfl, -⟩ := Option.ite_some_none_eq_some.mp hs
  exact ha.elim hk hp

theorem allStrs_eq {h : Handler} (hd : h.dropped = []) (hc : h.commentPos = []) :
    ∀ {args args' : List Fmt} {i : Nat}, ArgsRel h i args args' → allStrs args = allStrs args'
  | [], [], _, _ => rfl
  | a :: as, b :: bs, i, hr => by
    have h0 := hr.1
    simp only [ArgRel, hd, hc, List.not_mem_nil, if_false] at h0
    simp only [allStrs, asStr_eq h0, allStrs_eq hd hc hr.2]
  | [], _ :: _, _, hr => False.elim hr
  | _ :: _, [], _, hr => False.elim hr

/-- `_identity` is left out: it hands a comment through, so its result is a comment pair, not `VRel`. -/
theorem run_rel (iw : Nat) {h : Handler} {args args' : List Fmt} {ks : List Kind} {k : Kind}
    (hne : h ≠ .identity) (ha : ArgsRel h 0 args args') (hk : HasKinds args ks) (hs : h.sig ks = some k) :
    ORel VRel (h.run iw args) (h.run iw args') := by
  cases h <;> simp only [Handler.sig] at hs
  case identity => exact absurd rfl hne
  case concatenate | concatenateWithPrefixSpaces | concatenateWithSpaces =>
    -- these read their arguments through `allStrs` only
    show ORel VRel ((allStrs args).map _) ((allStrs args').map _)
    rw [allStrs_eq rfl rfl ha]
    cases allStrs args' with
    | none => trivial
    | some _ => rfl
  case «attribute» => exact ha.run hk hs fun _ _ _ _ _ _ _ => rfl
  case parameterDefinition => exact ha.run hk hs fun _ _ _ => rfl
  case docRstrip => exact ha.run hk hs fun _ => rfl
  case additiveExpressionRight =>
    exact ha.run hk hs fun _ _ => by
      show ORel VRel (if _ then _ else _) (if _ then _ else _)
      split <;> rfl
  case fieldLocation => exact ha.run hk hs fun _ _ _ _ _ => rfl
  case emptyList => exact ha.run hk hs trivial
  case emptyString => exact ha.run hk hs rfl
  case module =>
    exact ha.run hk hs fun _ _ rc _ _ rd _ _ ri _ _ ra _ _ rt =>
      (asRows_rel rc).bind fun _ _ hc => (asRows_rel rd).bind fun _ _ hd =>
      (asRows_rel ri).bind fun _ _ hi => (asRows_rel ra).bind fun _ _ hat =>
      (asSections_rel rt).bind fun _ _ ht =>
      ORel.bind_eq
        (RowsRel.renderRows iw <| RowsRel.addBlankRowsAux
          (RowsRel.indentBlanksAndComments <| RowsRel.intersperse _ <| All₂.cons
            (RowsRel.intersperse _ <|
              All₂.cons hc.stripEmpty <| All₂.cons hd <| All₂.cons hi <| All₂.cons hat All₂.nil)
            ht) 0 true)
        fun _ => rfl
  case docLine =>
    exact ha.run hk hs fun _ c c' hc _ _ re => (asRows_rel re).bind fun _ _ he => by
      show ORel VRel (if c.isEmpty then _ else none) (if c'.isEmpty then _ else none)
      rw [← hc.isEmpty_eq]
      split
      · exact All₂.cons (RowRel.refl _) he
      · trivial
  case importLine =>
    exact ha.run hk hs fun _ _ _ _ _ _ hc _ _ re =>
      (asRows_rel re).bind fun _ _ he => All₂.cons (plainRow_rel _ (hc.pre _)) he
  case attributeLine =>
    exact ha.run hk hs fun _ _ _ hc _ _ re =>
      (asRows_rel re).bind fun _ _ he => All₂.cons (plainRow_rel _ (hc.pre _)) he
  case typeDefinitions =>
    exact ha.run hk hs fun _ _ rd _ _ rs =>
      (asRows_rel rd).bind fun _ _ hd => (asSections_rel rs).bind fun _ _ hs => All₂.cons hd hs
  case structureType =>
    exact ha.run hk hs fun _ _ _ _ _ _ hc _ _ re _ _ rf =>
      (asRows_rel re).bind fun _ _ he => (asRows_rel rf).bind fun _ _ hf =>
      All₂.cons (plainRow_rel _ (hc.pre _)) (he.append hf)
  case type_ =>
    exact ha.run hk hs fun _ _ _ _ _ hc _ _ re _ _ rf =>
      (asRows_rel re).bind fun _ _ he => (asRows_rel rf).bind fun _ _ hf =>
      All₂.cons (plainRow_rel _ (hc.pre _)) (he.append hf)
  case structureBody =>
    exact ha.run hk hs fun _ _ _ _ rd _ _ ra _ _ rt _ _ rf _ _ =>
      (asRows_rel rd).bind fun _ _ hd => (asRows_rel ra).bind fun _ _ hat =>
      (asSections_rel rt).bind fun _ _ ht => (asBlocks_rel rf).bind fun _ _ hf =>
      (columnize_rel hf iw 2).bind fun _ _ hcol => by
        rw [← hf.shouldAddBlankLines]
        exact RowsRel.indentRows <| RowsRel.intersperse _ <|
          ((All₂.cons hd (All₂.cons hat All₂.nil)).append ht).append hcol
  case structureBlock =>
    split at hs
    · rename_i hks
      subst hks
      exact ha.elim (P := fun as bs => ORel VRel (Handler.run iw _ as) (Handler.run iw _ bs)) hk
        fun _ _ ra _ _ rb => pyAdd_rel ra rb
    · exact ha.run hk hs fun _ _ ra _ _ rb => pyAdd_rel ra rb
  case virtualField =>
    exact ha.run hk hs fun _ _ _ _ _ _ hc _ _ re _ _ rf =>
      (asRows_rel re).bind fun _ _ he => (asRows_rel rf).bind fun _ _ hf =>
      All₂.cons (headerBlock_rel _ (concatWith_two_rel _ _ hc) rfl (he.append hf)) All₂.nil
  case unconditionalField =>
    exact ha.run hk hs fun _ _ _ _ _ _ _ _ _ hc _ _ re _ _ rf =>
      (asRows_rel re).bind fun _ _ he => (asRows_rel rf).bind fun _ _ hf =>
      All₂.cons (headerBlock_rel _ ⟨rfl, rfl, rfl, rfl, rfl, rfl, hc⟩ rfl (he.append hf)) All₂.nil
  case fieldBody | enumValueBody =>
    exact ha.run hk hs fun _ _ _ _ rd _ _ ra _ _ =>
      (asRows_rel rd).bind fun _ _ hd => (asRows_rel ra).bind fun _ _ hat =>
      RowsRel.indentRows (hd.append hat)
  case inlineBits =>
    exact ha.run hk hs fun _ _ _ _ _ _ hc _ _ re _ _ _ _ hh hfb =>
      (asRows_rel re).bind fun _ _ he =>
      All₂.cons (headerBlock_rel _ ⟨rfl, rfl, rfl, rfl, rfl, rfl, hc⟩ rfl (he.append hh)) hfb
  case inlineType =>
    exact ha.run hk hs fun _ _ _ _ _ _ _ _ hc _ _ re _ _ rf =>
      (asRows_rel re).bind fun _ _ he => (asRows_rel rf).bind fun _ _ hf =>
      All₂.cons (headerBlock_rel _ ⟨rfl, rfl, rfl, rfl, rfl, rfl, hc⟩ rfl (he.append hf)) All₂.nil
  case conditionalField =>
    exact ha.run hk hs fun _ _ _ _ _ hc _ _ re _ _ _ _ rf _ _ =>
      (asRows_rel re).bind fun _ _ he => (asBlocks_rel rf).bind fun lb lb' hf => by
        have hib : BlocksRel (indentBlocks lb) (indentBlocks lb') := hf.indentBlocks
        show ORel VRel (match indentBlocks lb with | [] => none | b0 :: rest => _)
          (match indentBlocks lb' with | [] => none | b0 :: rest => _)
        generalize indentBlocks lb = ib, indentBlocks lb' = ib' at hib
        cases hib with
        | nil => trivial
        | cons hb0 hrest =>
          exact All₂.cons ⟨All₂.cons (plainRow_rel _ (hc.pre _)) (he.append hb0.pre), hb0.header, hb0.body,
            hb0.nc⟩ hrest
  case inlineBitsBody =>
    exact ha.run hk hs fun _ _ _ _ ra _ _ rf _ _ =>
      (asRows_rel ra).bind fun _ _ hat => (asBlocks_rel rf).bind fun _ _ hf =>
      ⟨RowsRel.indentRows hat, hf.indentBlocks⟩
  case enumBody =>
    exact ha.run hk hs fun _ _ _ _ rd _ _ ra _ _ rv _ _ =>
      (asRows_rel rd).bind fun _ _ hd => (asRows_rel ra).bind fun _ _ hat =>
      (asBlocks_rel rv).bind fun _ _ hv => (columnize_rel hv iw 1).bind fun _ _ hcol => by
        rw [← hv.shouldAddBlankLines]
        exact RowsRel.indentRows <| RowsRel.intersperse _ <|
          (All₂.cons hd (All₂.cons hat All₂.nil)).append hcol
  case enumValues | concatenateLists =>
    exact ha.run hk hs fun _ _ ra _ _ rb => pyAdd_rel ra rb
  case enumValue =>
    exact ha.run hk hs fun _ _ _ _ _ _ _ hc _ _ re _ _ rf =>
      (asRows_rel re).bind fun _ _ he => (asRows_rel rf).bind fun _ _ hf =>
      All₂.cons (headerBlock_rel _ ⟨rfl, rfl, rfl, rfl, rfl, hc⟩ rfl (he.append hf)) All₂.nil
  case externalBody =>
    exact ha.run hk hs fun _ _ _ _ rd _ _ ra _ _ =>
      (asRows_rel rd).bind fun _ _ hd => (asRows_rel ra).bind fun _ _ hat =>
      RowsRel.indentRows (RowsRel.intersperse _ (All₂.cons hd (All₂.cons hat All₂.nil)))
  case commentLine =>
    exact ha.run hk hs fun c c' hc _ _ => by
      show ORel VRel (if c.isEmpty then _ else _) (if c'.isEmpty then _ else _)
      rw [← hc.isEmpty_eq]
      split
      · exact All₂.cons (RowRel.refl _) All₂.nil
      · exact All₂.cons (plainRow_rel _ hc) All₂.nil
  case eol =>
    exact ha.run hk hs fun _ _ _ _ rc => (asRows_rel rc).bind fun _ _ hc => hc.stripEmpty

end Emboss.Fmt
