/-
C10, table-specific: `WordRun w rest` (the text `w ++ rest` begins with the maximal word run
`w`), the pattern table with names (`c*`, `star`/`plus`/`opt`, `re*`, `expectedRegexes`, equal
to the regenerated table), class membership in terms of the reference's character predicates,
inclusion of classes by their ranges (`subClass`), `wordOnly` patterns (their matches at the
start of a maximal word run lie within the run: `lang_le_run`), the punctuation literals and
the literal rows in characters, the shape of a string literal.
-/
import Emboss.Lemmas.RegexShapes
import Emboss.Spec.Tok
import Emboss.Spec.TokClass
import Emboss.Generated.TokTable
namespace Emboss.Tok
open Emboss.Regex Emboss.Tok.Class Emboss.Generated

structure WordRun (w rest : List Char) : Prop where
  ne : w ≠ []
  word : w.all isWordChar = true
  stop : ∀ c, rest.head? = some c → isWordChar c = false

def cLower : CClass := ⟨false, [.range 97 122]⟩
def cUpper : CClass := ⟨false, [.range 65 90]⟩
def cDigit : CClass := ⟨false, [.range 48 57]⟩
def cResCamelTail : CClass := ⟨false, [.range 65 90, .range 97 122, .range 48 57]⟩
def cResSnakeTail : CClass := ⟨false, [.range 95 95, .range 97 122, .range 48 57]⟩
def cResShoutyTail : CClass := ⟨false, [.range 95 95, .range 65 90, .range 48 57]⟩
def cSnakeTail : CClass := ⟨false, [.range 97 122, .range 95 95, .range 48 57]⟩
def cShoutyTail : CClass := ⟨false, [.range 65 90, .range 95 95, .range 48 57]⟩
def cShoutyMid : CClass := ⟨false, [.range 65 90, .range 95 95]⟩
def cCamelTail : CClass := ⟨false, [.range 97 122, .range 65 90, .range 48 57]⟩
def cWord : CClass := ⟨false, [.range 97 122, .range 65 90, .range 95 95, .range 36 36, .range 48 57]⟩
def cHex : CClass := ⟨false, [.range 48 57, .range 97 102, .range 65 70]⟩
def cBin : CClass := ⟨false, [.range 48 48, .range 49 49]⟩
def cRadix : CClass := ⟨false, [.range 98 98, .range 120 120, .range 66 66, .range 88 88]⟩
def cHexUs : CClass := ⟨false, [.range 48 57, .range 97 102, .range 65 70, .range 95 95]⟩
def cAny : CClass := ⟨true, [.range 10 10]⟩
def cSpace : CClass := ⟨false, [.space]⟩
def cStrPlain : CClass := ⟨true, [.range 34 34, .range 10 10, .range 92 92]⟩
def cStrEsc : CClass := ⟨false, [.range 110 110, .range 92 92, .range 34 34]⟩

def star (c : CClass) : Regex := .rep (.chr c) 0 none
def plus (c : CClass) : Regex := .rep (.chr c) 1 none
def opt (c : CClass) : Regex := .rep (.chr c) 0 (some 1)

theorem lang_star_iff {c : CClass} {p q : List Char} : Lang (star c) p q ↔ p.all c.mem = true :=
  lang_rep_chr_iff.trans ⟨fun h => h.1, fun h => ⟨h, Nat.zero_le _, nofun⟩⟩

theorem lang_plus_iff {c : CClass} {p q : List Char} :
    Lang (plus c) p q ↔ p ≠ [] ∧ p.all c.mem = true :=
  lang_rep_chr_iff.trans ⟨fun h => ⟨fun hp => by rw [hp] at h; exact absurd h.2.1 (by decide), h.1⟩,
    fun h => ⟨h.2, List.length_pos_iff.mpr h.1, nofun⟩⟩

theorem lang_opt_seq_iff {c : CClass} {R : Regex} {p q : List Char} :
    Lang (.seq (opt c) R) p q ↔ Lang R p q ∨ ∃ x t, p = x :: t ∧ c.mem x = true ∧ Lang R t q := by
  rw [lang_seq_iff]
  constructor
  · rintro ⟨o, v, rfl, ho, hv⟩
    obtain ⟨h1, _, h3⟩ := lang_rep_chr_iff.mp ho
    cases o with
    | nil => exact .inl hv
    | cons x o =>
      obtain rfl := List.length_eq_zero_iff.mp (Nat.le_zero.mp (Nat.le_of_succ_le_succ (h3 1 rfl)))
      rw [List.all_cons, Bool.and_eq_true] at h1
      exact .inr ⟨x, v, rfl, h1.1, hv⟩
  · rintro (hv | ⟨x, t, rfl, hx, hv⟩)
    · exact ⟨[], p, rfl, lang_rep_chr_iff.mpr ⟨rfl, Nat.le_refl _, fun _ _ => Nat.zero_le _⟩, hv⟩
    · exact ⟨[x], t, rfl, lang_rep_chr_iff.mpr ⟨by rw [List.all_cons, hx]; rfl, Nat.zero_le _,
        fun k hk => by cases hk; exact Nat.le_refl _⟩, hv⟩

def reResCamel : Regex :=
  litThen ['E', 'm', 'b', 'o', 's', 's', 'R', 'e', 's', 'e', 'r', 'v', 'e', 'd'] (star cResCamelTail)
def reResSnake : Regex :=
  litThen ['e', 'm', 'b', 'o', 's', 's', '_', 'r', 'e', 's', 'e', 'r', 'v', 'e', 'd'] (star cResSnakeTail)
def reResShouty : Regex :=
  litThen ['E', 'M', 'B', 'O', 'S', 'S', '_', 'R', 'E', 'S', 'E', 'R', 'V', 'E', 'D'] (star cResShoutyTail)
def strItem : Regex := .alt (.chr cStrPlain) (.seq (.chr (litC '\\')) (.chr cStrEsc))
def reString : Regex := .seq (.chr (litC '"')) (.seq (.rep strItem 0 none) (.chr (litC '"')))
def reDec : Regex := plus cDigit
/-- `D{1,first}(?:_D{len})*` -/
def grouped (c : CClass) (first len : Nat) : Regex :=
  .seq (.rep (.chr c) 1 (some first))
    (.rep (.seq (.chr (litC '_')) (.rep (.chr c) len (some len))) 0 none)
def reDecGrouped : Regex := grouped cDigit 3 3
def reHex : Regex := litThen ['0', 'x'] (plus cHex)
def reHex4 : Regex := litThen ['0', 'x'] (.seq (opt (litC '_')) (grouped cHex 4 4))
def reHex8 : Regex := litThen ['0', 'x'] (.seq (opt (litC '_')) (grouped cHex 8 8))
def reBin : Regex := litThen ['0', 'b'] (plus cBin)
def reBin4 : Regex := litThen ['0', 'b'] (.seq (opt (litC '_')) (grouped cBin 4 4))
def reBin8 : Regex := litThen ['0', 'b'] (.seq (opt (litC '_')) (grouped cBin 8 8))
def reBool : Regex := .alt (litRegex ['t', 'r', 'u', 'e']) (litRegex ['f', 'a', 'l', 's', 'e'])
def reSnake : Regex := .seq (.chr cLower) (star cSnakeTail)
def reShouty : Regex := .seq (.chr cUpper) (.seq (star cShoutyTail) (.seq (.chr cShoutyMid) (star cShoutyTail)))
def reCamel : Regex := .seq (.chr cUpper) (.seq (star cCamelTail) (.seq (.chr cLower) (star cCamelTail)))
def reDoc : Regex := litThen ['-', '-', ' '] (star cAny)
def reDocEmpty : Regex := litThen ['-', '-'] .eol
def reBadDoc : Regex := litThen ['-', '-'] (star cAny)
def reSpace : Regex := plus cSpace
def reComment : Regex := litThen ['#'] (star cAny)
def reBadNumber : Regex := .seq (.chr cDigit) (.seq (opt cRadix) (star cHexUs))
def reBadWord : Regex := plus cWord

def expectedRegexes : List Pat := [
  ⟨reResCamel, some "BadWord"⟩, ⟨reResSnake, some "BadWord"⟩, ⟨reResShouty, some "BadWord"⟩,
  ⟨reString, some "String"⟩,
  ⟨reDec, some "Number"⟩, ⟨reDecGrouped, some "Number"⟩,
  ⟨reHex, some "Number"⟩, ⟨reHex4, some "Number"⟩, ⟨reHex8, some "Number"⟩,
  ⟨reBin, some "Number"⟩, ⟨reBin4, some "Number"⟩, ⟨reBin8, some "Number"⟩,
  ⟨reBool, some "BooleanConstant"⟩, ⟨reSnake, some "SnakeWord"⟩, ⟨reShouty, some "ShoutyWord"⟩,
  ⟨reCamel, some "CamelWord"⟩,
  ⟨reDoc, some "Documentation"⟩, ⟨reDocEmpty, some "Documentation"⟩, ⟨reBadDoc, some "BadDocumentation"⟩,
  ⟨reSpace, none⟩, ⟨reComment, some "Comment"⟩,
  ⟨reBadNumber, some "BadNumber"⟩, ⟨reBadWord, some "BadWord"⟩]

/-- The regenerated table is the one the lemmas below talk about.  Breaks (on purpose)
whenever a pattern, a symbol or the order changes. -/
theorem tokRegexes_eq : tokRegexes = expectedRegexes := by rfl

def punctLiterals : List String :=
  ["[", "]", "(", ")", ":", "=", "+", "-", "*", ".", "?", "==", "!=", "&&", "||", "<", ">", "<=", ">=", ","]

theorem tokLiterals_eq : tokLiterals = punctLiterals ++ keywords := rfl

theorem mem_pos (items : List CItem) (c : Char) :
    CClass.mem ⟨false, items⟩ c = items.any (fun i => i.mem c.toNat) := Bool.false_bne _

theorem range_lower (c : Char) : CItem.mem (.range 97 122) c.toNat = isLower c := rfl
theorem range_upper (c : Char) : CItem.mem (.range 65 90) c.toNat = isUpper c := rfl
theorem range_digit (c : Char) : CItem.mem (.range 48 57) c.toNat = isDigit c := rfl
theorem range_us (c : Char) : CItem.mem (.range 95 95) c.toNat = isUs c := range_single 95 c.toNat
theorem range_dollar (c : Char) : CItem.mem (.range 36 36) c.toNat = (c.toNat == '$'.toNat) :=
  range_single 36 c.toNat

theorem cLower_mem (c : Char) : cLower.mem c = isLower c := by
  simp only [cLower, mem_pos, List.any_cons, List.any_nil, Bool.or_false, range_lower]
theorem cUpper_mem (c : Char) : cUpper.mem c = isUpper c := by
  simp only [cUpper, mem_pos, List.any_cons, List.any_nil, Bool.or_false, range_upper]
theorem cDigit_mem (c : Char) : cDigit.mem c = isDigit c := by
  simp only [cDigit, mem_pos, List.any_cons, List.any_nil, Bool.or_false, range_digit]
theorem cResCamelTail_mem (c : Char) : cResCamelTail.mem c = (isUpper c || isLower c || isDigit c) := by
  simp only [cResCamelTail, mem_pos, List.any_cons, List.any_nil, Bool.or_false, range_upper, range_lower,
    range_digit, Bool.or_assoc]
theorem cResSnakeTail_mem (c : Char) : cResSnakeTail.mem c = (isUs c || isLower c || isDigit c) := by
  simp only [cResSnakeTail, mem_pos, List.any_cons, List.any_nil, Bool.or_false, range_us, range_lower,
    range_digit, Bool.or_assoc]
theorem cResShoutyTail_mem (c : Char) : cResShoutyTail.mem c = (isUs c || isUpper c || isDigit c) := by
  simp only [cResShoutyTail, mem_pos, List.any_cons, List.any_nil, Bool.or_false, range_us, range_upper,
    range_digit, Bool.or_assoc]
theorem cSnakeTail_mem (c : Char) : cSnakeTail.mem c = (isLower c || isUs c || isDigit c) := by
  simp only [cSnakeTail, mem_pos, List.any_cons, List.any_nil, Bool.or_false, range_lower, range_us,
    range_digit, Bool.or_assoc]
theorem cShoutyTail_mem (c : Char) : cShoutyTail.mem c = (isUpper c || isUs c || isDigit c) := by
  simp only [cShoutyTail, mem_pos, List.any_cons, List.any_nil, Bool.or_false, range_upper, range_us,
    range_digit, Bool.or_assoc]
theorem cShoutyMid_mem (c : Char) : cShoutyMid.mem c = (isUpper c || isUs c) := by
  simp only [cShoutyMid, mem_pos, List.any_cons, List.any_nil, Bool.or_false, range_upper, range_us]
theorem cCamelTail_mem (c : Char) : cCamelTail.mem c = (isLower c || isUpper c || isDigit c) := by
  simp only [cCamelTail, mem_pos, List.any_cons, List.any_nil, Bool.or_false, range_lower, range_upper,
    range_digit, Bool.or_assoc]
theorem cWord_mem (c : Char) : cWord.mem c = isWordChar c := by
  simp only [cWord, isWordChar, mem_pos, List.any_cons, List.any_nil, Bool.or_false, range_lower,
    range_upper, range_us, range_dollar, range_digit, Bool.or_assoc]
  ac_rfl
theorem cHex_mem (c : Char) : cHex.mem c = isHexDigit c := by
  simp only [cHex, isHexDigit, mem_pos, List.any_cons, List.any_nil, Bool.or_false, range_digit,
    Bool.or_assoc]
  rfl
theorem cBin_mem (c : Char) : cBin.mem c = isBinDigit c := by
  simp only [cBin, mem_pos, List.any_cons, List.any_nil, Bool.or_false, CItem.mem]
  show _ = (decide (48 ≤ c.toNat) && decide (c.toNat ≤ 49))
  rw [Bool.eq_iff_iff]
  simp only [Bool.or_eq_true, Bool.and_eq_true, decide_eq_true_eq]
  omega
theorem cHexUs_mem (c : Char) : cHexUs.mem c = (isHexDigit c || isUs c) := by
  simp only [cHexUs, isHexDigit, mem_pos, List.any_cons, List.any_nil, Bool.or_false, range_digit,
    range_us, Bool.or_assoc]
  rfl

theorem cSpace_mem (y : Char) : cSpace.mem y = isSpaceChar y := by
  simp [cSpace, CClass.mem, CItem.mem, isSpaceChar]
theorem cRadix_mem (y : Char) : cRadix.mem y =
    (y.toNat == 'b'.toNat || y.toNat == 'x'.toNat || y.toNat == 'B'.toNat || y.toNat == 'X'.toNat) := by
  simp only [cRadix, mem_pos, List.any_cons, List.any_nil, Bool.or_false, CItem.mem, range_single,
    Bool.or_assoc]
  rfl

/-- Every range of `c` lies within a range of `d`, both classes positive. -/
def subClass (c d : CClass) : Bool :=
  !c.neg && !d.neg && c.items.all fun i => d.items.any fun j =>
    match i, j with
    | .range lo hi, .range lo' hi' => lo' ≤ lo && hi ≤ hi'
    | _, _ => false

theorem mem_of_subClass {c d : CClass} (h : subClass c d = true) {x : Char} (hx : c.mem x = true) :
    d.mem x = true := by
  obtain ⟨_, ci⟩ := c
  obtain ⟨_, di⟩ := d
  simp only [subClass, Bool.and_eq_true, Bool.not_eq_true', List.all_eq_true, List.any_eq_true] at h
  obtain ⟨⟨rfl, rfl⟩, h⟩ := h
  rw [mem_pos, List.any_eq_true] at hx ⊢
  obtain ⟨i, hi, hix⟩ := hx
  obtain ⟨j, hj, hij⟩ := h i hi
  refine ⟨j, hj, ?_⟩
  split at hij
  · simp only [CItem.mem, Bool.and_eq_true, decide_eq_true_eq] at hij hix ⊢
    omega
  · cases hij

theorem w_lower (x : Char) (h : isLower x = true) : isWordChar x = true := by
  simp only [isWordChar, h, Bool.true_or]
theorem w_upper (x : Char) (h : isUpper x = true) : isWordChar x = true := by
  simp only [isWordChar, h, Bool.true_or, Bool.or_true]
theorem w_digit (x : Char) (h : isDigit x = true) : isWordChar x = true := by
  simp only [isWordChar, h, Bool.true_or, Bool.or_true]
theorem w_us (x : Char) (h : isUs x = true) : isWordChar x = true := by
  simp only [isWordChar, h, Bool.true_or, Bool.or_true]
theorem w_hex (x : Char) (h : isHexDigit x = true) : isWordChar x = true :=
  (cWord_mem x).symm.trans (mem_of_subClass (c := cHex) rfl ((cHex_mem x).trans h))
theorem w_bin (x : Char) (h : isBinDigit x = true) : isWordChar x = true :=
  (cWord_mem x).symm.trans (mem_of_subClass (c := cBin) rfl ((cBin_mem x).trans h))

theorem shoutyMid_sub_tail (y : Char) (hy : cShoutyMid.mem y = true) : cShoutyTail.mem y = true :=
  mem_of_subClass rfl hy
theorem lower_sub_camelTail (y : Char) (hy : cLower.mem y = true) : cCamelTail.mem y = true :=
  mem_of_subClass rfl hy

/-- All classes of the pattern lie within `[a-zA-Z_$0-9]`. -/
def wordOnly : Regex → Bool
  | .chr c => subClass c cWord
  | .seq a b | .alt a b => wordOnly a && wordOnly b
  | .rep r _ _ => wordOnly r
  | .eps | .eol => true

theorem lang_wordOnly {r pre rest} (h : Lang r pre rest) (hw : wordOnly r = true) :
    pre.all isWordChar = true := by
  induction h with
  | eps => rfl
  | chr c x rest hm => rw [List.all_cons, ← cWord_mem, mem_of_subClass hw hm]; rfl
  | seq _ _ iha ihb =>
    rw [wordOnly, Bool.and_eq_true] at hw
    rw [List.all_append, iha hw.1, ihb hw.2]; rfl
  | altL _ ih => exact ih (Bool.and_eq_true _ _ ▸ hw).1
  | altR _ ih => exact ih (Bool.and_eq_true _ _ ▸ hw).2
  | repStop => rfl
  | repIter _ _ _ iha ihb => rw [List.all_append, iha hw, ihb hw]; rfl
  | eol => rfl

theorem lang_le_run {r : Regex} (hw : wordOnly r = true) {w rest p q : List Char} (h : WordRun w rest)
    (hs : w ++ rest = p ++ q) (hl : Lang r p q) : p.length ≤ w.length := by
  have hall := lang_wordOnly hl hw
  rw [← funext cWord_mem] at hall
  -- the word characters at the front of the text are those of `w`
  exact Nat.le_trans (hs ▸ span_ge_of_all cWord p q hall)
    (span_append_le cWord w rest fun c hc => (cWord_mem c).trans (h.stop c hc))

theorem WordRun.cons {w rest} (h : WordRun w rest) : ∃ x t, w = x :: t ∧ isWordChar x = true := by
  cases w with
  | nil => exact absurd rfl h.ne
  | cons x t => exact ⟨x, t, rfl, (Bool.and_eq_true _ _ ▸ List.all_cons ▸ h.word).1⟩

theorem word_not_space (x : Char) (hx : isWordChar x = true) : isSpaceChar x = false := by
  -- word characters lie in `'$' … 'z'`, where there is no space
  have hb := mem_of_subClass (d := ⟨false, [.range 36 122]⟩) rfl ((cWord_mem x).trans hx)
  simp only [mem_pos, List.any_cons, List.any_nil, Bool.or_false, CItem.mem, isSpaceChar, isSpaceNat,
    Bool.and_eq_true, decide_eq_true_eq, Bool.or_eq_false_iff, Bool.and_eq_false_iff,
    decide_eq_false_iff_not, beq_eq_false_iff_ne] at hb ⊢
  omega

def mkLit (l : String) : Pat := ⟨litRegex l.toList, some ("\"" ++ l ++ "\"")⟩

theorem tokTable_pats : tokTable.pats = (punctLiterals ++ keywords).map mkLit ++ expectedRegexes := by
  simp only [Table.pats, tokTable, tokLiterals_eq, tokRegexes_eq]
  rfl

def keywordChars : List (List Char) := [
  ['$', 's', 't', 'a', 't', 'i', 'c', '_', 's', 'i', 'z', 'e', '_', 'i', 'n', '_', 'b', 'i', 't', 's'],
  ['$', 'i', 's', '_', 's', 't', 'a', 't', 'i', 'c', 'a', 'l', 'l', 'y', '_', 's', 'i', 'z', 'e', 'd'],
  ['$', 'm', 'a', 'x'],
  ['$', 'p', 'r', 'e', 's', 'e', 'n', 't'],
  ['$', 'u', 'p', 'p', 'e', 'r', '_', 'b', 'o', 'u', 'n', 'd'],
  ['$', 'l', 'o', 'w', 'e', 'r', '_', 'b', 'o', 'u', 'n', 'd'],
  ['$', 'n', 'e', 'x', 't'],
  ['$', 's', 'i', 'z', 'e', '_', 'i', 'n', '_', 'b', 'i', 't', 's'],
  ['$', 's', 'i', 'z', 'e', '_', 'i', 'n', '_', 'b', 'y', 't', 'e', 's'],
  ['$', 'm', 'a', 'x', '_', 's', 'i', 'z', 'e', '_', 'i', 'n', '_', 'b', 'i', 't', 's'],
  ['$', 'm', 'a', 'x', '_', 's', 'i', 'z', 'e', '_', 'i', 'n', '_', 'b', 'y', 't', 'e', 's'],
  ['$', 'm', 'i', 'n', '_', 's', 'i', 'z', 'e', '_', 'i', 'n', '_', 'b', 'i', 't', 's'],
  ['$', 'm', 'i', 'n', '_', 's', 'i', 'z', 'e', '_', 'i', 'n', '_', 'b', 'y', 't', 'e', 's'],
  ['$', 'd', 'e', 'f', 'a', 'u', 'l', 't'],
  ['s', 't', 'r', 'u', 'c', 't'],
  ['b', 'i', 't', 's'],
  ['e', 'n', 'u', 'm'],
  ['e', 'x', 't', 'e', 'r', 'n', 'a', 'l'],
  ['i', 'm', 'p', 'o', 'r', 't'],
  ['a', 's'],
  ['i', 'f'],
  ['l', 'e', 't']]

theorem keywords_eq : keywords = keywordChars.map String.ofList := by rfl

/-! ### Literal rows through character lists (the form the table equality is decided in) -/

def litRow (l : List Char) : Pat := ⟨litRegex l, some (String.ofList ('"' :: (l ++ ['"'])))⟩

theorem mkLit_ofList (l : List Char) : mkLit (String.ofList l) = litRow l := by
  rw [mkLit, String.toList_ofList, litRow]
  congr 2
  apply String.toList_inj.mp
  simp [String.toList_append]

theorem keyword_rows : keywords.map mkLit = keywordChars.map litRow := by
  rw [keywords_eq, List.map_map]
  exact List.map_congr_left fun l _ => mkLit_ofList l

theorem keywordOf_chars (w : List Char) :
    keywordOf w = (keywordChars.find? (· == w)).map String.ofList := by
  rw [keywordOf, keywords_eq, List.find?_map]
  simp only [Function.comp_def, String.toList_ofList]

theorem keyword_shape {l : String} (hl : l ∈ keywords) :
    wordOnly (litRegex l.toList) = true ∧ l.toList.any isDigit = false := by
  have : keywordChars.all (fun l => wordOnly (litRegex l) && !l.any isDigit) = true := by decide +kernel
  rw [keywords_eq] at hl
  obtain ⟨cs, hcs, rfl⟩ := List.mem_map.mp hl
  rw [String.toList_ofList, ← Bool.not_eq_true', ← Bool.and_eq_true]
  exact List.all_eq_true.mp this cs hcs

theorem punct_table : punctLiterals.all (fun l =>
    l.toList.all (fun c => !isWordChar c && !isSpaceChar c && c != '#' && c != '"') &&
      !(['-', '-'].isPrefixOf l.toList)) = true := by
  decide +kernel

theorem punct_chars {l : String} (hl : l ∈ punctLiterals) {x : Char} (hx : x ∈ l.toList) :
    isWordChar x = false ∧ isSpaceChar x = false ∧ x ≠ '#' ∧ x ≠ '"' := by
  have := List.all_eq_true.mp (Bool.and_eq_true_iff.mp (List.all_eq_true.mp punct_table l hl)).1 x hx
  simpa only [Bool.and_eq_true, Bool.not_eq_true', bne_iff_ne, ne_eq, and_assoc] using this

theorem lang_string_iff {p q : List Char} : Lang reString p q ↔
    ∃ T, p = '"' :: (T ++ ['"']) ∧ Lang (.rep strItem 0 none) T (['"'] ++ q) := by
  rw [reString, lang_seq_iff]
  constructor
  · rintro ⟨_, _, rfl, h1, h2⟩
    obtain ⟨T, _, rfl, h3, h4⟩ := lang_seq_iff.mp h2
    obtain rfl := lang_litC_iff.mp h1
    obtain rfl := lang_litC_iff.mp h4
    exact ⟨T, rfl, h3⟩
  · rintro ⟨T, rfl, hT⟩
    exact ⟨['"'], T ++ ['"'], rfl, lang_litC_iff.mpr rfl, .seq hT (lang_litC_iff.mpr rfl)⟩

theorem string_head {pre rest : List Char} (h : Lang reString pre rest) : ∃ q, pre = '"' :: q :=
  let ⟨_, e, _⟩ := lang_string_iff.mp h; ⟨_, e⟩

theorem string_last {pre rest : List Char} (h : Lang reString pre rest) : pre.getLast? = some '"' := by
  obtain ⟨T, rfl, _⟩ := lang_string_iff.mp h
  rw [← List.cons_append, List.getLast?_append]; rfl

theorem badWord_mem : (⟨reBadWord, some "BadWord"⟩ : Pat) ∈ tokTable.pats := by
  rw [tokTable_pats]
  exact List.mem_append_right _ (List.getLast_mem (l := expectedRegexes) (List.cons_ne_nil _ _))

theorem badDoc_mem : (⟨reBadDoc, some "BadDocumentation"⟩ : Pat) ∈ tokTable.pats := by
  rw [tokTable_pats]
  exact List.mem_append_right _ (by simp only [expectedRegexes, List.mem_cons, true_or, or_true])

theorem space_mem : (⟨reSpace, none⟩ : Pat) ∈ tokTable.pats := by
  rw [tokTable_pats]
  exact List.mem_append_right _ (by simp only [expectedRegexes, List.mem_cons, true_or, or_true])

end Emboss.Tok
