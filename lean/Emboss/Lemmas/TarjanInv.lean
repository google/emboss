/- `Inv` of `_find_cycles` and the three state changes that keep it (`push`, `setLow`, popping a
component); `Post` (what one call achieves, assumed of the recursive calls as `SCSpec`) and `LoopInv`,
kept by each branch of the `for` loop (`visitEdges_spec`). -/
import Emboss.Lemmas.TarjanBasic
namespace Emboss.Deps

/-- State invariant of `_find_cycles` between any two statements of `strong_connect`
that the model separates. -/
structure Inv (g : Graph) (s : TState) : Prop where
  onst : s.onStack = s.stack
  /-- the stack is in order of discovery, newest on top -/
  sorted : s.stack.Pairwise (fun a b => ix s b < ix s a)
  stkIdx : ∀ w ∈ s.stack, indexed s w = true
  idxLt : ∀ w, indexed s w = true → ix s w < s.next
  /-- `lowlink[w]` is the index of a stack node that `w` reaches -/
  low : ∀ w ∈ s.stack, lw s w ≤ ix s w ∧ ∃ y ∈ s.stack, ix s y = lw s w ∧ Reach g w y
  /-- the popped nodes are closed under edges -/
  doneClosed : ∀ w d, indexed s w = true → w ∉ s.stack → Edge g w d →
    indexed s d = true ∧ d ∉ s.stack
  /-- every reported component is an SCC of popped, cyclic nodes -/
  compsOk : ∀ C ∈ s.comps, (∀ a ∈ C, indexed s a = true ∧ a ∉ s.stack) ∧ IsSCC g C ∧ C.Nodup ∧
    (∀ a ∈ C, cyclic g a)
  compsDisj : s.comps.Pairwise (fun C D => ∀ a ∈ C, a ∉ D)
  /-- every popped cyclic node is in a reported component -/
  compsAll : ∀ w, indexed s w = true → w ∉ s.stack → cyclic g w → ∃ C ∈ s.comps, w ∈ C
  noOof : s.oof = false

theorem Inv.init (g : Graph) : Inv g TState.init :=
  { onst := rfl, sorted := .nil, stkIdx := nofun, idxLt := nofun, low := nofun, doneClosed := nofun,
    compsOk := nofun, compsDisj := .nil, compsAll := nofun, noOof := rfl }

theorem Inv.above {g : Graph} {t : TState} (h : Inv g t) {a b : List Nat} (hs : t.stack = a ++ b) :
    ∀ x ∈ a, ∀ y ∈ b, ix t y < ix t x :=
  (List.pairwise_append.mp (hs ▸ h.sorted)).2.2

theorem Inv.setLow {g : Graph} {t : TState} (h : Inv g t) (v x : Nat)
    (hx : x ≤ lw t v) (hy : ∃ y ∈ t.stack, ix t y = x ∧ Reach g v y) : Inv g (setLow v x t) := by
  refine { h with low := fun w hw => ?_ }
  rw [lw_setLow]
  by_cases hwv : w = v
  · subst hwv
    rw [if_pos rfl]
    exact ⟨Nat.le_trans hx (h.low w hw).1, hy⟩
  · rw [if_neg hwv]
    exact h.low w hw

theorem done_push {v : Nat} {s : TState} (hv : indexed s v = false) (w : Nat) :
    indexed (push v s) w = true ∧ w ∉ (push v s).stack ↔ indexed s w = true ∧ w ∉ s.stack := by
  rw [stack_push, List.mem_cons, not_or, indexed_push, Bool.or_eq_true, beq_iff_eq]
  constructor
  · rintro ⟨hw, hne, hws⟩
    exact ⟨hw.resolve_left hne, hws⟩
  · rintro ⟨hw, hws⟩
    exact ⟨.inr hw, indexed_ne hv hw, hws⟩

theorem Inv.push {g : Graph} {s : TState} (h : Inv g s) (v : Nat) (hv : indexed s v = false) :
    Inv g (push v s) := by
  -- `Deps.push`: a bare `push` would be read as `Inv.push` in here
  have hk := keeps_push hv
  have hix : ∀ w ∈ s.stack, ix (Deps.push v s) w = ix s w := fun w hw => (hk w (h.stkIdx w hw)).2.1
  have hnew : indexed (Deps.push v s) v = true ∧ ix (Deps.push v s) v = s.next ∧ lw (Deps.push v s) v = s.next := by
    simp
  refine { onst := congrArg (v :: ·) h.onst, sorted := ?_, stkIdx := ?_, idxLt := ?_, low := ?_,
           doneClosed := ?_, compsOk := ?_, compsDisj := h.compsDisj, compsAll := ?_,
           noOof := h.noOof }
  · rw [stack_push, List.pairwise_cons]
    refine ⟨fun b hb => ?_, h.sorted.imp_of_mem fun ha hb hab => ?_⟩
    · rw [hix b hb, hnew.2.1]; exact h.idxLt b (h.stkIdx b hb)
    · rw [hix _ ha, hix _ hb]; exact hab
  · intro w hw
    rcases List.mem_cons.mp hw with rfl | hw
    · exact hnew.1
    · exact (hk w (h.stkIdx w hw)).1
  · intro w hw
    rw [next_push]
    by_cases hwv : w = v
    · rw [hwv, hnew.2.1]; exact Nat.lt_succ_self _
    · rw [indexed_push, Bool.or_eq_true, beq_iff_eq] at hw
      rw [(hk w (hw.resolve_left hwv)).2.1]
      exact Nat.lt_succ_of_lt (h.idxLt w (hw.resolve_left hwv))
  · intro w hw
    rcases List.mem_cons.mp hw with rfl | hw
    · rw [hnew.2.1, hnew.2.2]
      exact ⟨Nat.le_refl _, w, List.mem_cons_self .., hnew.2.1, .refl _⟩
    · obtain ⟨_, e2, e3⟩ := hk w (h.stkIdx w hw)
      obtain ⟨h1, y, hy, hy2, hy3⟩ := h.low w hw
      rw [e2, e3]
      exact ⟨h1, y, List.mem_cons_of_mem _ hy, (hix y hy).trans hy2, hy3⟩
  · intro w d hw hws he
    obtain ⟨a1, a2⟩ := (done_push hv w).mp ⟨hw, hws⟩
    exact (done_push hv d).mpr (h.doneClosed w d a1 a2 he)
  · intro C hC
    obtain ⟨h1, h2⟩ := h.compsOk C hC
    exact ⟨fun a ha => (done_push hv a).mpr (h1 a ha), h2⟩
  · intro w hw hws hc
    obtain ⟨a1, a2⟩ := (done_push hv w).mp ⟨hw, hws⟩
    exact h.compsAll w a1 a2 hc

def popped (t : TState) (old : List Nat) (cs : List (List Nat)) : TState :=
  { t with stack := old, onStack := old, comps := cs }

theorem finish_pop {g : Graph} {v : Nat} {t : TState} {seg old : List Nat}
    (hon : t.onStack = t.stack)
    (hstk : t.stack = seg ++ v :: old) (hv : v ∉ seg) (heq : lw t v = ix t v) :
    finish g v t = popped t old
      (if nontrivial g (seg ++ [v]) then t.comps ++ [seg ++ [v]] else t.comps) := by
  have hpop : popUntil v t.stack = (seg ++ [v], old) := by
    rw [hstk]; exact popUntil_append v seg old hv
  have hers : (seg ++ [v]).foldl List.erase t.onStack = old := by
    rw [hon, hstk, List.append_cons]; exact foldl_erase_append _ _
  unfold finish
  rw [if_pos heq, hpop]
  simp only [hers]
  split <;> rfl

theorem Inv.pop {g : Graph} {t : TState} {comp old : List Nat} {cs : List (List Nat)}
    (h : Inv g t)
    (hstk : t.stack = comp ++ old)
    (hedges : ∀ w ∈ comp, ∀ d, Edge g w d → indexed t d = true ∧ d ∉ old) (hscc : IsSCC g comp)
    (hcs : cs = if nontrivial g comp then t.comps ++ [comp] else t.comps) :
    Inv g (popped t old cs) := by
  have hsplit : ∀ {y}, y ∈ t.stack ↔ y ∈ comp ∨ y ∈ old := by
    intro y; rw [hstk, List.mem_append]
  have hsub : ∀ y ∈ old, y ∈ t.stack := fun y hy => hsplit.mpr (.inr hy)
  have hsorted := h.sorted
  rw [hstk] at hsorted
  obtain ⟨hs1, hs2, _⟩ := List.pairwise_append.mp hsorted
  have hnd : comp.Nodup := hs1.imp fun hab e => by subst e; exact Nat.lt_irrefl _ hab
  have hcompold : ∀ y ∈ comp, y ∉ old := fun y hy ho =>
    Nat.lt_irrefl _ (h.above hstk y hy y ho)
  have hold : ∀ C ∈ t.comps, (∀ a ∈ C, indexed t a = true ∧ a ∉ old) ∧ IsSCC g C ∧ C.Nodup ∧
      (∀ a ∈ C, cyclic g a) := fun C hC =>
    have ⟨h1, h2⟩ := h.compsOk C hC
    ⟨fun a ha => ⟨(h1 a ha).1, fun ho => (h1 a ha).2 (hsub a ho)⟩, h2⟩
  refine { onst := rfl, sorted := hs2, stkIdx := fun w hw => h.stkIdx w (hsub w hw),
           idxLt := h.idxLt, low := ?_, doneClosed := ?_, compsOk := ?_, compsDisj := ?_,
           compsAll := ?_, noOof := h.noOof }
  · -- the node whose index is `lowlink[w]` is not younger than `w`, hence not in the component
    intro w hw
    obtain ⟨h1, y, hy1, hy2, hy3⟩ := h.low w (hsub w hw)
    refine ⟨h1, y, (hsplit.mp hy1).resolve_left fun hy => ?_, hy2, hy3⟩
    exact Nat.lt_irrefl _ (Nat.lt_of_lt_of_le (h.above hstk y hy w hw) (hy2 ▸ h1))
  · intro w d hw hws he
    by_cases hwt : w ∈ t.stack
    · exact hedges w ((hsplit.mp hwt).resolve_right hws) d he
    · obtain ⟨e1, e2⟩ := h.doneClosed w d hw hwt he
      exact ⟨e1, fun ho => e2 (hsub d ho)⟩
  · intro C hC
    rw [hcs] at hC
    split at hC
    · rename_i hnt
      rcases List.mem_append.mp hC with hC | hC
      · exact hold C hC
      · rw [List.mem_singleton.mp hC]
        exact ⟨fun a ha => ⟨h.stkIdx a (hsplit.mpr (.inl ha)), hcompold a ha⟩, hscc, hnd,
          hscc.cyclic_of_nontrivial hnd (nontrivial_iff.mp hnt)⟩
    · exact hold C hC
  · rw [hcs]
    split
    · refine List.pairwise_append.mpr ⟨h.compsDisj, List.pairwise_singleton _ _, ?_⟩
      intro C hC D hD a ha had
      rw [List.mem_singleton.mp hD] at had
      exact ((h.compsOk C hC).1 a ha).2 (hsplit.mpr (.inl had))
    · exact h.compsDisj
  · intro w hw hws hc
    show ∃ C ∈ cs, w ∈ C
    rw [hcs]
    by_cases hwt : w ∈ t.stack
    · have hcomp := (hsplit.mp hwt).resolve_right hws
      rw [if_pos (nontrivial_iff.mpr (hscc.nontrivial_of_cyclic hcomp hc))]
      exact ⟨comp, List.mem_append_right _ (List.mem_singleton_self _), hcomp⟩
    · obtain ⟨C, hC, hwC⟩ := h.compsAll w hw hwt hc
      refine ⟨C, ?_, hwC⟩
      split
      · exact List.mem_append_left _ hC
      · exact hC

/-- No `d ∈ ds` is unvisited or a stack node older than index `m`: taking `min` with `ix t d` over
these destinations cannot bring a lowlink below `m`. -/
def EdgesOk (t : TState) (m : Nat) (ds : List Nat) : Prop :=
  ∀ d ∈ ds, indexed t d = true ∧ (d ∈ t.stack → m ≤ ix t d)

theorem EdgesOk.mono {t : TState} {m x : Nat} {ds : List Nat} (h : EdgesOk t m ds) (hx : x ≤ m) :
    EdgesOk t x ds :=
  fun d hd => ⟨(h d hd).1, fun hs => Nat.le_trans hx ((h d hd).2 hs)⟩

theorem EdgesOk.snoc {t : TState} {m d : Nat} {ds : List Nat} (h : EdgesOk t m ds)
    (h1 : indexed t d = true) (h2 : d ∈ t.stack → m ≤ ix t d) : EdgesOk t m (ds ++ [d]) := by
  intro x hx
  rcases List.mem_append.mp hx with hx | hx
  · exact h x hx
  · rw [List.mem_singleton.mp hx]; exact ⟨h1, h2⟩

/-- A node `w` of the stack segment above `v`; `m` bounds what it points back to. -/
structure SegOk (g : Graph) (t : TState) (v m w : Nat) : Prop where
  reach : Reach g v w
  /-- `w` is not the root of its component (so it stays on the stack) -/
  notRoot : lw t w < ix t w
  lowGe : m ≤ lw t w
  edges : EdgesOk t m (succs g w)

theorem SegOk.mono {g : Graph} {t : TState} {v m x w : Nat} (h : SegOk g t v m w) (hx : x ≤ m) :
    SegOk g t v x w :=
  ⟨h.reach, h.notRoot, Nat.le_trans hx h.lowGe, h.edges.mono hx⟩

theorem SegOk.step {g : Graph} {t : TState} {v d m w : Nat} (h : SegOk g t d m w) (he : Edge g v d) :
    SegOk g t v m w :=
  { h with reach := .step he h.reach }

theorem SegOk.setLow {g : Graph} {t : TState} {v m w : Nat} (h : SegOk g t v m w) {u : Nat}
    (hw : w ≠ u) (x : Nat) : SegOk g (setLow u x t) v m w := by
  refine ⟨h.reach, ?_, ?_, h.edges⟩
  · rw [lw_setLow, if_neg hw]; exact h.notRoot
  · rw [lw_setLow, if_neg hw]; exact h.lowGe

/-- What one call `strong_connect(v)` achieves (from `s` to `s'`). -/
structure Post (g : Graph) (v : Nat) (s s' : TState) : Prop where
  inv : Inv g s'
  old : Keeps s s'
  vidx : indexed s' v = true ∧ ix s' v = s.next
  /-- left on the stack: nodes reachable from `v`, none a root, bounded by `lowlink[v]` -/
  stk : ∃ new, s'.stack = new ++ s.stack ∧ ∀ w ∈ new, SegOk g s' v (lw s' v) w
  /-- either `v` stays on the stack, or it was the root and its component has been popped -/
  vlow : v ∈ s'.stack ∨ (lw s' v = ix s' v ∧ s'.stack = s.stack)

/-- What the recursive call is assumed to do at recursion depth `fuel`.  `unvisited g s ≤ fuel` is the
measure: every call indexes its node first, so the bound is inherited by the nested calls at
`fuel - 1`; at `fuel = 0` the premises cannot be met (`v` itself is an unvisited key). -/
def SCSpec (g : Graph) (fuel : Nat) (rec : Nat → TState → TState) : Prop :=
  ∀ v s, Inv g s → indexed s v = false → v ∈ keys g → unvisited g s ≤ fuel → Post g v s (rec v s)

/-- Invariant of the `for destination_node in graph[node]` loop of the call for `v`
entered in state `s0`; `seg` = what the recursive calls have left on the stack above `v`;
`done` = the destinations already processed; `m` is `lowlink[v]`, or, after a recursive
call, the value about to be assigned to it. -/
structure LoopInv (g : Graph) (v : Nat) (s0 t : TState) (seg : List Nat) (m : Nat)
    (done : List Nat) : Prop where
  inv : Inv g t
  old : Keeps s0 t
  vidx : indexed t v = true ∧ ix t v = s0.next
  vnew : indexed s0 v = false
  stk : t.stack = seg ++ v :: s0.stack
  segOk : ∀ w ∈ seg, SegOk g t v m w
  proc : EdgesOk t m done

variable {g : Graph} {v : Nat} {s0 t : TState} {seg : List Nat} {m : Nat} {done : List Nat}

theorem LoopInv.v_mem (h : LoopInv g v s0 t seg m done) : v ∈ t.stack :=
  h.stk ▸ List.mem_append_right _ (List.mem_cons_self ..)

theorem LoopInv.stk_comp (h : LoopInv g v s0 t seg m done) : t.stack = (seg ++ [v]) ++ s0.stack := by
  rw [h.stk, List.append_cons]

theorem LoopInv.seg_ne (h : LoopInv g v s0 t seg m done) (w : Nat) (hw : w ∈ seg) : w ≠ v :=
  fun e => Nat.lt_irrefl _ (e ▸ h.inv.above h.stk w hw v (List.mem_cons_self ..))

theorem LoopInv.init {s : TState} (h : Inv g s) (v : Nat) (hv : indexed s v = false) :
    LoopInv g v s (push v s) [] (lw (push v s) v) [] :=
  { inv := h.push v hv, old := keeps_push hv, vidx := by simp, vnew := hv, stk := rfl,
    segOk := nofun, proc := nofun }

theorem LoopInv.lower (h : LoopInv g v s0 t seg m done) (x : Nat) (hxm : x ≤ m) (hx : x ≤ lw t v)
    (hy : ∃ y ∈ t.stack, ix t y = x ∧ Reach g v y) :
    LoopInv g v s0 (setLow v x t) seg (lw (setLow v x t) v) done := by
  rw [lw_setLow, if_pos rfl]
  refine { inv := h.inv.setLow v x hx hy, old := fun w hw => ?_, vidx := h.vidx,
           vnew := h.vnew, stk := h.stk, proc := h.proc.mono hxm,
           segOk := fun w hw => ((h.segOk w hw).mono hxm).setLow (h.seg_ne w hw) x }
  rw [lw_setLow, if_neg (indexed_ne h.vnew hw)]
  exact h.old w hw

/-- `elif destination_node in nodes_on_stack` branch. -/
theorem LoopInv.stepB (h : LoopInv g v s0 t seg (lw t v) done) (d : Nat) (he : Edge g v d)
    (hs : d ∈ t.stack) :
    LoopInv g v s0 (setLow v (min (lw t v) (ix t d)) t) seg
      (lw (setLow v (min (lw t v) (ix t d)) t) v) (done ++ [d]) := by
  have h' := h.lower _ (Nat.min_le_left _ _) (Nat.min_le_left _ _) <| by
    rw [Nat.min_def]
    split
    · exact (h.inv.low v h.v_mem).2
    · exact ⟨d, hs, rfl, .single he⟩
  refine { h' with proc := h'.proc.snoc (h.inv.stkIdx d hs) fun _ => ?_ }
  rw [lw_setLow, if_pos rfl]
  exact Nat.min_le_right _ _

/-- After the recursive call for `d`, before `lowlink[v]` is assigned: the nodes the call
left on the stack join the segment above `v`. -/
theorem LoopInv.call {t1 : TState}
    (hL : LoopInv g v s0 t seg (lw t v) done) (d : Nat) (he : Edge g v d) (hP : Post g d t t1) :
    ∃ new, LoopInv g v s0 t1 (new ++ seg) (min (lw t1 v) (lw t1 d)) (done ++ [d]) := by
  obtain ⟨new, hnstk, hnew⟩ := hP.stk
  obtain ⟨hv1, hvix, hvlw⟩ := hP.old v hL.vidx.1
  have hm1 : min (lw t1 v) (lw t1 d) ≤ lw t1 v := Nat.min_le_left _ _
  have hm2 : min (lw t1 v) (lw t1 d) ≤ lw t1 d := Nat.min_le_right _ _
  have hvlow : lw t1 v ≤ ix t1 v := (hP.inv.low v (hnstk ▸ List.mem_append_right _ hL.v_mem)).1
  have hdlow : lw t1 d ≤ ix t1 d := by
    rcases hP.vlow with h | h
    · exact (hP.inv.low d h).1
    · exact Nat.le_of_eq h.1
  -- a bound that held before the call holds after it: new stack nodes are younger than `v`
  have hkeep : ∀ ds, EdgesOk t (lw t v) ds → EdgesOk t1 (min (lw t1 v) (lw t1 d)) ds := by
    intro ds h y hy
    refine ⟨(hP.old y (h y hy).1).1, fun hys => Nat.le_trans hm1 ?_⟩
    rw [hnstk] at hys
    rcases List.mem_append.mp hys with hys | hys
    · exact Nat.le_trans hvlow (Nat.le_of_lt (hP.inv.above hnstk y hys v hL.v_mem))
    · rw [(hP.old y (hL.inv.stkIdx y hys)).2.1, hvlw]
      exact (h y hy).2 hys
  refine ⟨new, { inv := hP.inv, old := hL.old.trans hP.old, vidx := ⟨hv1, hvix.trans hL.vidx.2⟩,
                 vnew := hL.vnew, stk := by rw [hnstk, hL.stk, List.append_assoc],
                 segOk := fun w hw => ?_,
                 proc := (hkeep _ hL.proc).snoc hP.vidx.1 fun _ => Nat.le_trans hm2 hdlow }⟩
  rcases List.mem_append.mp hw with hw | hw
  · exact ((hnew w hw).mono hm2).step he
  · have b := hL.segOk w hw
    obtain ⟨_, c2, c3⟩ := hP.old w (hL.inv.stkIdx w (hL.stk ▸ List.mem_append_left _ hw))
    refine ⟨b.reach, ?_, ?_, hkeep _ b.edges⟩
    · rw [c2, c3]; exact b.notRoot
    · rw [c3]; exact Nat.le_trans hm1 (hvlw ▸ b.lowGe)

/-- `if destination_node not in node_indices` branch. -/
theorem LoopInv.stepA {t1 : TState}
    (hL : LoopInv g v s0 t seg (lw t v) done) (d : Nat) (he : Edge g v d) (hP : Post g d t t1) :
    ∃ new, LoopInv g v s0 (setLow v (min (lw t1 v) (lw t1 d)) t1) (new ++ seg)
      (lw (setLow v (min (lw t1 v) (lw t1 d)) t1) v) (done ++ [d]) := by
  obtain ⟨new, hC⟩ := hL.call d he hP
  refine ⟨new, hC.lower _ (Nat.le_refl _) (Nat.min_le_left _ _) ?_⟩
  have hlow := hP.inv.low v hC.v_mem
  rcases hP.vlow with hds | ⟨hroot, _⟩
  · obtain ⟨y, hy1, hy2, hy3⟩ := (hP.inv.low d hds).2
    rw [Nat.min_def]
    split
    · exact hlow.2
    · exact ⟨y, hy1, hy2, .step he hy3⟩
  · -- `d` was the root of its component: its lowlink is its index, which is above `v`'s
    have hlt : ix t1 v < t.next := by
      rw [(hP.old v hL.vidx.1).2.1]; exact hL.inv.idxLt v hL.vidx.1
    have hle : lw t1 v ≤ lw t1 d := by
      rw [hroot, hP.vidx.2]; exact Nat.le_of_lt (Nat.lt_of_le_of_lt hlow.1 hlt)
    rw [Nat.min_eq_left hle]
    exact hlow.2

theorem visitEdges_spec {fuel : Nat} {rec : Nat → TState → TState}
    (hrec : SCSpec g fuel rec) (hc : closed g = true) (v : Nat) (s0 : TState) :
    ∀ (ds : List Nat) (t : TState) (seg done : List Nat), LoopInv g v s0 t seg (lw t v) done →
      (∀ d ∈ ds, Edge g v d) → unvisited g t ≤ fuel →
      ∃ seg', LoopInv g v s0 (visitEdges rec v ds t) seg' (lw (visitEdges rec v ds t) v)
        (done ++ ds) := by
  intro ds
  induction ds with
  | nil =>
    intro t seg done hL _ _
    rw [List.append_nil]
    exact ⟨seg, hL⟩
  | cons d ds ih =>
    intro t seg done hL hE hfuel
    have he : Edge g v d := hE d (List.mem_cons_self ..)
    have hE' : ∀ d ∈ ds, Edge g v d := fun x hx => hE x (List.mem_cons_of_mem _ hx)
    rw [List.append_cons]
    unfold visitEdges
    by_cases hd : indexed t d = false
    · rw [if_pos hd]
      have hP := hrec d t hL.inv hd (closed_edge hc v d he) hfuel
      obtain ⟨new, hA⟩ := hL.stepA d he hP
      have hfuel1 : unvisited g (rec d t) ≤ fuel := Nat.le_trans (unvisited_mono g hP.old) hfuel
      exact ih _ _ _ hA hE' hfuel1
    · rw [if_neg hd]
      replace hd := Bool.of_not_eq_false hd
      by_cases hs : t.onStack.contains d = true
      · rw [if_pos hs]
        rw [hL.inv.onst, List.contains_iff_mem] at hs
        exact ih _ _ _ (hL.stepB d he hs) hE' hfuel
      · rw [if_neg hs]
        rw [hL.inv.onst, List.contains_iff_mem] at hs
        exact ih _ _ _ { hL with proc := hL.proc.snoc hd fun h => absurd h hs } hE' hfuel

end Emboss.Deps
