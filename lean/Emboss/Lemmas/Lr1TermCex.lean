/-
A hand-built witness that `Valid` alone does not give termination of rejected inputs (why
`C08_terminates` has the separate, checked hypothesis `TermOK`).

Grammar `S → a | A c ; A → B A ; B → ε` (A is unproductive).  The certificate's FIRST table is
closed but not least: it puts `c` into FIRST(A).  Then `[B → ., c]` belongs to the closure of
`[A → . B A, c]`, the state reached over `B` reduces `B → ε` on `c` and its goto on `B` is the
state itself: on the input `c` the (validated!) table pushes `B` forever.  The real generator
computes least FIRST sets (FIRST(A) = ∅, no such item), so this table is not an output of
`Grammar.parser()`; it shows what the validator's conditions do not exclude.

symbols: 0 = $, 1 = S', 2 = S, 3 = A, 4 = B, 5 = a, 6 = c
-/
import Emboss.Model.Lr1Valid
import Emboss.Model.Lr1Term
namespace Emboss.Lr1.TermCex

def G : Grammar := ⟨2, [⟨2, [5]⟩, ⟨2, [3, 6]⟩, ⟨3, [4, 3]⟩, ⟨4, []⟩], 1, 0⟩

def A : Automaton where
  prods := [⟨2, [5]⟩, ⟨2, [3, 6]⟩, ⟨3, [4, 3]⟩, ⟨4, []⟩, ⟨1, [2]⟩]
  action := #[some [(5, .shift 4), (6, .reduce 3)], some [(0, .accept)], some [(6, .shift 5)],
    some [(6, .reduce 3)], some [(0, .reduce 0)], some [(0, .reduce 1)], some [(6, .reduce 2)]]
  goto := #[[(2, 1), (3, 2), (4, 3)], [], [], [(3, 6), (4, 3)], [], [], []]
  defaultErrors := []
  strict := false
  eoi := 0

def C : Cert where
  items := #[[⟨4, 0, 0⟩, ⟨0, 0, 0⟩, ⟨1, 0, 0⟩, ⟨2, 0, 6⟩, ⟨3, 0, 6⟩],
    [⟨4, 1, 0⟩], [⟨1, 1, 0⟩], [⟨2, 1, 6⟩, ⟨2, 0, 6⟩, ⟨3, 0, 6⟩], [⟨0, 1, 0⟩], [⟨1, 2, 0⟩], [⟨2, 2, 6⟩]]
  rules := #[⟨2, [5]⟩, ⟨2, [3, 6]⟩, ⟨3, [4, 3]⟩, ⟨4, []⟩, ⟨1, [2]⟩]
  prodsOf := #[[], [4], [0, 1], [2], [3], [], []]
  first := #[[], [5, 6], [5, 6], [6], [], [], []]
  nullable := #[false, false, false, false, true, false, false]
  nt := #[false, true, true, true, true, false, false]

theorem valid : Valid G A C := by decide +kernel
theorem notTermOK : ¬ TermOK A := by decide +kernel

-- state 3 on `c`: reduce `B → ε`, goto state 3
theorem step_loop (t : Tree) (st : List (Nat × Tree)) :
    step A [⟨6, 0⟩] ⟨(3, t) :: st, 0⟩ = .next ⟨(3, .node ⟨4, []⟩ []) :: (3, t) :: st, 0⟩ := rfl

theorem runFrom_loop : ∀ (f : Nat) (t : Tree) (st : List (Nat × Tree)),
    runFrom A [⟨6, 0⟩] f ⟨(3, t) :: st, 0⟩ = .outOfFuel
  | 0, _, _ => rfl
  | f + 1, t, st => by rw [runFrom, step_loop]; exact runFrom_loop f _ _

theorem step_init : step A [⟨6, 0⟩] init = .next ⟨[(3, .node ⟨4, []⟩ [])], 0⟩ := rfl

theorem loops : run A 200 [⟨6, 0⟩] = .outOfFuel := by
  rw [run, runFrom, step_init]; exact runFrom_loop 199 _ _

end Emboss.Lr1.TermCex
