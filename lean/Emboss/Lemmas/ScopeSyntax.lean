/-
Helper lemmas for C12, `module_ir`'s placing of inline types: what `build` produces, read the
way the resolver reads it (`flatTypes` / `flatFields`), is what the spec says in closed form
(`placedTypesAll` / `placedFieldsAll`); scopes consist of names of types written as definitions
(`Under`); agreement with the language reference when inline types contain no types
(`shallowAll_doc`); the anonymous-name counter hands out consecutive numbers.
-/
import Emboss.Spec.ScopeSyntax
namespace Emboss.Scope

/-! ### `build` against `placedTypes` / `placedFields` -/

theorem flatTypes_append (scope : Path) (a b : List IRType) :
    flatTypes scope (a ++ b) = flatTypes scope a ++ flatTypes scope b := by
  induction a with
  | nil => simp [flatTypes]
  | cons t ts ih => simp [flatTypes, ih]

theorem flatFields_append (scope : Path) (a b : List IRType) :
    flatFields scope (a ++ b) = flatFields scope a ++ flatFields scope b := by
  induction a with
  | nil => simp [flatFields]
  | cons t ts ih => simp [flatFields, ih]

theorem buildAll_fname (ts : List Syn) : (buildAll ts).map (·.fname) = ts.map fieldName := by
  induction ts with
  | nil => rfl
  | cons t ts ih =>
    simp only [buildAll, List.map_cons, ih, List.cons.injEq, and_true]
    cases t with
    | node tag name num subs fields => cases tag <;> rfl

mutual
theorem build_types (t : Syn) (host : Path) :
    flatTypes host (build t).types = placedTypes host t := by
  match t with
  | .node tag name num subs fields =>
    cases tag <;>
      simp [build, placedTypes, flatTypes, flatType, flatTypes_append,
        buildAll_types subs, buildAll_types fields]
theorem buildAll_types (ts : List Syn) (host : Path) :
    flatTypes host ((buildAll ts).flatMap (·.types)) = placedTypesAll host ts := by
  match ts with
  | [] => simp [buildAll, placedTypesAll, flatTypes]
  | t :: ts =>
    simp [buildAll, placedTypesAll, flatTypes_append, build_types t, buildAll_types ts]
end

mutual
theorem build_fields (t : Syn) (host : Path) :
    flatFields host (build t).types = placedFields host t := by
  match t with
  | .node tag name num subs fields =>
    cases tag <;>
      simp [build, placedFields, flatFields, flatField, flatFields_append,
        buildAll_fields subs, buildAll_fields fields, buildAll_fname]
theorem buildAll_fields (ts : List Syn) (host : Path) :
    flatFields host ((buildAll ts).flatMap (·.types)) = placedFieldsAll host ts := by
  match ts with
  | [] => simp [buildAll, placedFieldsAll, flatFields]
  | t :: ts =>
    simp [buildAll, placedFieldsAll, flatFields_append, build_fields t, buildAll_fields ts]
end

/-! ### Scopes are made of types written as definitions only -/

/-- `x` lives in a scope below `host` whose further components are all among `names` -/
def Under (host : Path) (names : List String) (x : Path × String) : Prop :=
  ∃ es, x.1 = host ++ es ∧ ∀ e ∈ es, e ∈ names

theorem Under.here (host : Path) (names : List String) (n : String) : Under host names (host, n) :=
  ⟨[], (List.append_nil host).symm, fun _ he => nomatch he⟩

theorem Under.append {host : Path} {A B : List String} {l₁ l₂ : List (Path × String)}
    (h₁ : ∀ x ∈ l₁, Under host A x) (h₂ : ∀ x ∈ l₂, Under host B x) :
    ∀ x ∈ l₁ ++ l₂, Under host (A ++ B) x := fun x hx =>
  (List.mem_append.1 hx).elim
    (fun h => let ⟨es, e1, e2⟩ := h₁ x h; ⟨es, e1, fun e he => List.mem_append_left _ (e2 e he)⟩)
    (fun h => let ⟨es, e1, e2⟩ := h₂ x h; ⟨es, e1, fun e he => List.mem_append_right _ (e2 e he)⟩)

theorem Under.push {host : Path} {n : String} {A : List String} {x : Path × String}
    (h : Under (host ++ [n]) A x) : Under host (n :: A) x :=
  let ⟨es, h1, h2⟩ := h
  ⟨n :: es, by rw [h1, List.append_assoc, List.singleton_append], fun e he =>
    (List.mem_cons.1 he).elim (fun h => h ▸ List.mem_cons_self) fun h => List.mem_cons_of_mem _ (h2 e h)⟩

mutual
theorem placedTypes_under (t : Syn) (host : Path) :
    ∀ x ∈ placedTypes host t, Under host (explicitNames t) x := by
  match t with
  | .node tag name num subs fields =>
    have inner (h : Path) :=
      Under.append (placedTypesAll_under subs h) (placedTypesAll_under fields h)
    intro x hx
    cases tag with
    | typeDef =>
      simp only [placedTypes, List.mem_cons] at hx
      rcases hx with rfl | hx
      · exact Under.here ..
      · exact (inner _ x hx).push
    | inline | anon =>
      simp only [placedTypes, List.mem_cons] at hx
      rcases hx with rfl | hx
      · exact Under.here ..
      · exact inner _ x hx
    | plain => simp [placedTypes] at hx
theorem placedTypesAll_under (ts : List Syn) (host : Path) :
    ∀ x ∈ placedTypesAll host ts, Under host (explicitNamesAll ts) x := by
  match ts with
  | [] => intro x hx; simp [placedTypesAll] at hx
  | t :: ts => exact Under.append (placedTypes_under t host) (placedTypesAll_under ts host)
end

/-! ### Agreement with the language reference when inline types contain no types -/

theorem plainAll_none (ts : List Syn) (h : PlainAll ts) (host : Path) :
    placedTypesAll host ts = [] ∧ docTypesAll host ts = [] := by
  induction ts with
  | nil => simp [placedTypesAll, docTypesAll]
  | cons t ts ih =>
    cases t with
    | node tag name num subs fields =>
      simp only [PlainAll] at h
      obtain ⟨rfl, h2⟩ := h
      simp [placedTypesAll, docTypesAll, placedTypes, docTypes, ih h2]

mutual
theorem shallow_doc (t : Syn) (host : Path) (h : Shallow t) :
    placedTypes host t = docTypes host t := by
  match t with
  | .node tag name num subs fields =>
    cases tag with
    | typeDef =>
      simp only [Shallow] at h
      simp only [placedTypes, docTypes, shallowAll_doc subs _ h.1, shallowAll_doc fields _ h.2]
    | inline | anon =>
      simp only [Shallow] at h
      obtain ⟨rfl, h2⟩ := h
      simp [placedTypes, docTypes, placedTypesAll, docTypesAll, plainAll_none fields h2]
    | plain => simp [placedTypes, docTypes]
theorem shallowAll_doc (ts : List Syn) (host : Path) (h : ShallowAll ts) :
    placedTypesAll host ts = docTypesAll host ts := by
  match ts with
  | [] => simp [placedTypesAll, docTypesAll]
  | t :: ts =>
    simp only [ShallowAll] at h
    simp only [placedTypesAll, docTypesAll, shallow_doc t host h.1, shallowAll_doc ts host h.2]
end

/-! ### The anonymous-name counter hands out consecutive numbers -/

/-- two stretches of counting, one after the other -/
theorem count_append {a b c : Nat} {l₁ l₂ : List Nat}
    (h₁ : ∃ k, b = a + k ∧ l₁ = List.range' (a + 1) k)
    (h₂ : ∃ k, c = b + k ∧ l₂ = List.range' (b + 1) k) :
    ∃ k, c = a + k ∧ l₁ ++ l₂ = List.range' (a + 1) k := by
  obtain ⟨m, rfl, rfl⟩ := h₁
  obtain ⟨n, rfl, rfl⟩ := h₂
  exact ⟨m + n, Nat.add_assoc .., by rw [Nat.add_right_comm, List.range'_append_1]⟩

mutual
theorem number_count (t : Syn) (c : Nat) :
    ∃ k, (number t c).2 = c + k ∧ anonNums (number t c).1 = List.range' (c + 1) k := by
  match t with
  | .node tag name num subs fields =>
    have h := count_append (numberAll_count fields c) (numberAll_count subs (numberAll fields c).2)
    cases tag with
    | anon => exact count_append h ⟨1, rfl, rfl⟩
    | _ => exact h
theorem numberAll_count (ts : List Syn) (c : Nat) :
    ∃ k, (numberAll ts c).2 = c + k ∧ anonNumsAll (numberAll ts c).1 = List.range' (c + 1) k := by
  match ts with
  | [] => exact ⟨0, rfl, rfl⟩
  | t :: ts => exact count_append (numberAll_count ts c) (number_count t (numberAll ts c).2)
end

theorem number_nums (t : Syn) (c : Nat) :
    anonNums (number t c).1 = List.range' (c + 1) ((number t c).2 - c) ∧ c ≤ (number t c).2 := by
  obtain ⟨k, h2, h1⟩ := number_count t c
  rw [h2, Nat.add_sub_cancel_left]
  exact ⟨h1, Nat.le_add_right c k⟩

end Emboss.Scope
