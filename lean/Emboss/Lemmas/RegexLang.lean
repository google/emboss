/-
The declarative language of the regex fragment, form by form (C10): what `Lang r p q` says for
each constructor of `r`, for a repeated class, and which characters a match can begin with
(`Heads`); a pattern that is not nullable has no empty match (`lang_ne_nil`), one without `$`
(`noEol`) matches whatever follows (`lang_noEol`).  Facts about the patterns of the tokenizer
table are proved from these, without the matcher.
-/
import Emboss.Lemmas.Regex
namespace Emboss.Regex

theorem lang_eps_iff {p q : List Char} : Lang .eps p q ↔ p = [] :=
  ⟨fun h => by cases h; rfl, fun h => h ▸ .eps q⟩

theorem lang_chr_iff {c : CClass} {p q : List Char} :
    Lang (.chr c) p q ↔ ∃ x, p = [x] ∧ c.mem x = true :=
  ⟨fun h => by cases h with | chr _ x _ hm => exact ⟨x, rfl, hm⟩,
    fun ⟨x, hp, hm⟩ => hp ▸ .chr c x q hm⟩

theorem lang_eol_iff {p q : List Char} : Lang .eol p q ↔ p = [] ∧ atEol q = true :=
  ⟨fun h => by cases h with | eol he => exact ⟨rfl, he⟩, fun ⟨hp, he⟩ => hp ▸ .eol he⟩

theorem lang_seq_iff {a b : Regex} {p q : List Char} :
    Lang (.seq a b) p q ↔ ∃ u v, p = u ++ v ∧ Lang a u (v ++ q) ∧ Lang b v q :=
  ⟨fun h => by cases h with | seq h1 h2 => exact ⟨_, _, rfl, h1, h2⟩,
    fun ⟨_, _, hp, h1, h2⟩ => hp ▸ .seq h1 h2⟩

theorem lang_seq_eps_iff {a : Regex} {p q : List Char} : Lang (.seq a .eps) p q ↔ Lang a p q := by
  rw [lang_seq_iff]
  constructor
  · rintro ⟨u, v, rfl, h1, h2⟩
    rw [lang_eps_iff.mp h2] at h1 ⊢
    rwa [List.append_nil]
  · exact fun h => ⟨p, [], (List.append_nil p).symm, h, .eps q⟩

theorem lang_chr_cons_iff {c : CClass} {R : Regex} {x : Char} {t q : List Char} :
    Lang (.seq (.chr c) R) (x :: t) q ↔ c.mem x = true ∧ Lang R t q := by
  rw [lang_seq_iff]
  constructor
  · rintro ⟨u, v, e, h1, h2⟩
    obtain ⟨y, rfl, hy⟩ := lang_chr_iff.mp h1
    cases e
    exact ⟨hy, h2⟩
  · rintro ⟨hx, ht⟩
    exact ⟨[x], t, rfl, lang_chr_iff.mpr ⟨x, rfl, hx⟩, ht⟩

theorem lang_alt_iff {a b : Regex} {p q : List Char} :
    Lang (.alt a b) p q ↔ Lang a p q ∨ Lang b p q :=
  ⟨fun h => by cases h with | altL h => exact .inl h | altR h => exact .inr h,
    fun h => h.elim .altL .altR⟩

theorem lang_rep_iff {r : Regex} {mn : Nat} {mx : Option Nat} {p q : List Char} :
    Lang (.rep r mn mx) p q ↔ (mn = 0 ∧ p = []) ∨ (mx ≠ some 0 ∧ ∃ u v, p = u ++ v ∧
      Lang r u (v ++ q) ∧ Lang (.rep r (mn - 1) (mx.map (· - 1))) v q) := by
  constructor
  · intro h
    cases h with
    | repStop => exact .inl ⟨rfl, rfl⟩
    | repIter hmx h1 h2 => exact .inr ⟨hmx, _, _, rfl, h1, h2⟩
  · rintro (⟨rfl, rfl⟩ | ⟨hmx, _, _, rfl, h1, h2⟩)
    · exact .repStop
    · exact .repIter hmx h1 h2

theorem Lang.rep_induction {r : Regex} {motive : Nat → Option Nat → List Char → Prop}
    (stop : ∀ mx, motive 0 mx [])
    (iter : ∀ {mn mx u v rest}, mx ≠ some 0 → Lang r u (v ++ rest) →
      motive (mn - 1) (mx.map (· - 1)) v → motive mn mx (u ++ v))
    {mn : Nat} {mx : Option Nat} {pre rest : List Char} (h : Lang (.rep r mn mx) pre rest) :
    motive mn mx pre := by
  generalize e : Regex.rep r mn mx = R at h
  induction h generalizing mn mx with
  | eps | chr | seq | altL | altR | eol => cases e
  | repStop => cases e; exact stop _
  | repIter hmx hu _ _ ihv => cases e; exact iter hmx hu (ihv rfl)

theorem lang_rep_chr_iff {c : CClass} {mn : Nat} {mx : Option Nat} {p q : List Char} :
    Lang (.rep (.chr c) mn mx) p q ↔
      p.all c.mem = true ∧ mn ≤ p.length ∧ ∀ k, mx = some k → p.length ≤ k := by
  constructor
  · refine Lang.rep_induction (motive := fun mn mx p => p.all c.mem = true ∧ mn ≤ p.length ∧
      ∀ k, mx = some k → p.length ≤ k) (fun _ => ⟨rfl, Nat.le_refl _, fun _ _ => Nat.zero_le _⟩) ?_
    rintro mn mx u v rest hmx hu ⟨h1, h2, h3⟩
    obtain ⟨x, rfl, hx⟩ := lang_chr_iff.mp hu
    refine ⟨by rw [List.singleton_append, List.all_cons, hx, h1]; rfl,
      by rw [List.singleton_append, List.length_cons]; omega, ?_⟩
    rintro k rfl
    have := h3 (k - 1) rfl
    have : k ≠ 0 := fun h0 => hmx (by rw [h0])
    rw [List.singleton_append, List.length_cons]; omega
  · induction p generalizing mn mx with
    | nil => rintro ⟨_, h2, _⟩; obtain rfl := Nat.le_zero.mp h2; exact .repStop
    | cons x p ih =>
      rintro ⟨h1, h2, h3⟩
      rw [List.all_cons, Bool.and_eq_true] at h1
      rw [List.length_cons] at h2 h3
      refine .repIter (u := [x]) ?_ (.chr c x _ h1.1) (ih ⟨h1.2, by omega, ?_⟩)
      · rintro rfl; exact absurd (h3 0 rfl) (Nat.not_succ_le_zero _)
      · intro k hk
        cases mx with
        | none => cases hk
        | some k' => obtain rfl := Option.some.inj hk; have := h3 k' rfl; show p.length ≤ k' - 1; omega

theorem lang_seq_assoc {a b c : Regex} {p q : List Char} (h : Lang (.seq (.seq a b) c) p q) :
    Lang (.seq a (.seq b c)) p q := by
  obtain ⟨_, w, rfl, h12, h3⟩ := lang_seq_iff.mp h
  obtain ⟨u, v, rfl, h1, h2⟩ := lang_seq_iff.mp h12
  rw [List.append_assoc]
  exact .seq ((List.append_assoc v w q).symm ▸ h1) (.seq h2 h3)

theorem matchesLen_append_left {r : Regex} {w rest : List Char} :
    MatchesLen r (w ++ rest) w.length ↔ Lang r w rest := by
  rw [MatchesLen, List.take_left' rfl, List.drop_left' rfl]
  exact and_iff_right (by simp)

theorem matchesLen_iff {r : Regex} {s : List Char} {m : Nat} :
    MatchesLen r s m ↔ ∃ p q, s = p ++ q ∧ p.length = m ∧ Lang r p q := by
  constructor
  · rintro ⟨hle, hl⟩
    exact ⟨_, _, (List.take_append_drop m s).symm, List.length_take_of_le hle, hl⟩
  · rintro ⟨p, q, rfl, rfl, hl⟩
    exact matchesLen_append_left.mpr hl

theorem lang_ne_nil {r : Regex} {p q : List Char} (h : Lang r p q) : nullable r = false → p ≠ [] := by
  induction h with
  | eps | eol | repStop => exact fun hn => by simp [nullable] at hn
  | chr => exact fun _ => List.cons_ne_nil _ _
  | seq _ _ iha ihb =>
    intro hn hp
    simp only [nullable, Bool.and_eq_false_iff] at hn
    obtain ⟨hu, hv⟩ := List.append_eq_nil_iff.mp hp
    exact hn.elim (fun h => iha h hu) (fun h => ihb h hv)
  | altL _ ih => exact fun hn => ih (by simp only [nullable, Bool.or_eq_false_iff] at hn; exact hn.1)
  | altR _ ih => exact fun hn => ih (by simp only [nullable, Bool.or_eq_false_iff] at hn; exact hn.2)
  | repIter _ _ _ iha _ =>
    intro hn hp
    simp only [nullable, Bool.or_eq_false_iff] at hn
    exact iha hn.2 (List.append_eq_nil_iff.mp hp).1

/-! ### Patterns without `$` -/

def noEol : Regex → Bool
  | .eps => true
  | .chr _ => true
  | .seq a b => noEol a && noEol b
  | .alt a b => noEol a && noEol b
  | .rep r _ _ => noEol r
  | .eol => false

theorem lang_noEol {r pre rest} (h : Lang r pre rest) : noEol r = true → ∀ rest', Lang r pre rest' := by
  induction h with
  | eps rest => intro _ rest'; exact .eps rest'
  | chr c x rest hm => intro _ rest'; exact .chr c x rest' hm
  | seq _ _ iha ihb =>
    intro hn rest'
    simp only [noEol, Bool.and_eq_true] at hn
    exact .seq (iha hn.1 _) (ihb hn.2 _)
  | altL _ ih =>
    intro hn rest'
    simp only [noEol, Bool.and_eq_true] at hn
    exact .altL (ih hn.1 _)
  | altR _ ih =>
    intro hn rest'
    simp only [noEol, Bool.and_eq_true] at hn
    exact .altR (ih hn.2 _)
  | repStop => intro _ rest'; exact .repStop
  | repIter hmx _ _ iha ihb =>
    intro hn rest'
    simp only [noEol] at hn
    exact .repIter hmx (iha hn _) (ihb (by simpa only [noEol] using hn) _)
  | eol => intro hn; simp [noEol] at hn

/-! ### The first character of a match -/

def Heads (r : Regex) (P : Char → Prop) : Prop := ∀ p q, Lang r p q → ∀ x, p.head? = some x → P x

theorem heads_eps (P : Char → Prop) : Heads .eps P := fun _ _ h x hx => by
  rw [lang_eps_iff.mp h] at hx; cases hx

theorem heads_chr {c : CClass} {P : Char → Prop} (h : ∀ x, c.mem x = true → P x) : Heads (.chr c) P :=
  fun _ _ hl x hx => by
    obtain ⟨y, rfl, hy⟩ := lang_chr_iff.mp hl
    cases hx; exact h _ hy

theorem heads_seq {a b : Regex} {P : Char → Prop} (ha : Heads a P) (hb : nullable a = true → Heads b P) :
    Heads (.seq a b) P := fun _ _ hl x hx => by
  obtain ⟨u, v, rfl, h1, h2⟩ := lang_seq_iff.mp hl
  cases u with
  | nil =>
    cases hn : nullable a with
    | true => exact hb hn _ _ h2 x hx
    | false => exact absurd rfl (lang_ne_nil h1 hn)
  | cons y u => exact ha _ _ h1 x hx

theorem heads_alt {a b : Regex} {P : Char → Prop} (ha : Heads a P) (hb : Heads b P) : Heads (.alt a b) P :=
  fun _ _ hl => (lang_alt_iff.mp hl).elim (ha _ _) (hb _ _)

theorem heads_rep {r : Regex} {P : Char → Prop} (hr : Heads r P) (mn : Nat) (mx : Option Nat) :
    Heads (.rep r mn mx) P := fun p q hl => by
  refine Lang.rep_induction (motive := fun _ _ p => ∀ x, p.head? = some x → P x) (fun _ _ hx => by cases hx)
    ?_ hl
  intro mn mx u v rest _ hu ih x hx
  cases u with
  | nil => exact ih x hx
  | cons y u => exact hr _ _ hu x hx

end Emboss.Regex
