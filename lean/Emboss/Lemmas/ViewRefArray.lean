/-
Arrays of scalars: what the model reports about element counts and elements (`arrCount`,
`arrElem`, Model/ViewObs.lean) vs. the reference's `count` / `elem` facts.
-/
import Emboss.Lemmas.ViewRefComplete
import Emboss.Model.ViewObs
namespace Emboss.ViewRef
open Emboss.View

/-- the `e` units at offset `k` of a sub-storage are the storage's own at offset `s + k` -/
theorem sub_sub (d : Option (List Nat)) (s : Nat) {z k e : Nat} (h : k + e ≤ z) :
    ((Storage.bytes d).sub s z).sub k e = (Storage.bytes d).sub (s + k) e := by
  cases d with
  | none => rfl
  | some d =>
    simp only [Storage.sub, List.drop_take, List.drop_drop, List.take_take,
      Nat.min_eq_left (Nat.le_sub_of_add_le' h)]

theorem size_sub_le (st : Storage) (s z : Nat) : (st.sub s z).size ≤ z := by
  rcases st with (_ | d) | _
  · exact Nat.zero_le _
  · simp only [Storage.sub, Storage.size, List.length_take]
    exact Nat.min_le_left _ _
  · exact Nat.le_refl _

theorem lt_div_iff {i a es : Nat} (hes : 0 < es) : i < a / es ↔ es * i + es ≤ a := by
  rw [Nat.lt_iff_add_one_le, Nat.le_div_iff_mul_le hes, Nat.add_mul, Nat.one_mul, Nat.mul_comm]

section bytes
variable {w : SView} (hwf : viewWF w = true) (hu : w.sd.unit = 8)
include hwf hu

theorem elem_bridge {es bits : Nat} (hes : es * 8 = bits) (hbits : 0 < bits) (bo : ByteOrder)
    (s z k : Nat) (hk : k + es ≤ (w.st.sub s z).size) :
    k + es ≤ z ∧ ((w.st.sub s z).sub k es).adaptFor w.sd.unit 1 bo bits =
      .bits (fieldRaw w.st bo (s + k) es bits) bits := by
  have hz : k + es ≤ z := Nat.le_trans hk (size_sub_le _ s z)
  refine ⟨hz, ?_⟩
  rcases viewWF_unit hwf with ⟨_, d, hd⟩ | ⟨hu', _⟩
  · rw [hd, sub_sub d s hz, Storage.adaptFor, if_pos ⟨hu, by decide⟩,
      adapt_sub_bytes d bo _ es bits hes hbits]
  · exact absurd hu hu'

theorem elem_inside {bo : ByteOrder} {s z k e bits raw : Nat}
    (hraw : fieldRaw w.st bo (s + k) e bits = some raw) (hk : k + e ≤ z) :
    k + e ≤ (w.st.sub s z).size := by
  rcases viewWF_unit hwf with ⟨_, d, hd⟩ | ⟨hu', _⟩
  · rw [hd] at hraw ⊢
    cases d with
    | none => cases hraw
    | some d =>
      simp only [fieldRaw] at hraw
      split at hraw
      · next hc =>
        simp only [Storage.sub, Storage.size, List.length_take, List.length_drop]
        exact Nat.le_min.mpr ⟨hk, Nat.le_sub_of_add_le' (Nat.add_assoc s k e ▸ hc.2)⟩
      · cases hraw
  · exact absurd hu hu'

theorem extentIn_iff {s z : Nat} :
    extentIn w.st s z = true ↔ (w.st.sub s z).ok = true ∧ (w.st.sub s z).size = z := by
  rcases viewWF_unit hwf with ⟨_, d, hd⟩ | ⟨hu', _⟩
  · rw [hd]
    cases d with
    | none => simp only [extentIn, Storage.sub, Storage.ok, Option.isSome_none, Bool.false_eq_true, false_and]
    | some d =>
      simp only [extentIn, decide_eq_true_eq, Storage.sub, Storage.ok, Option.isSome_some,
        Storage.size, List.length_take, List.length_drop, true_and, clamped_eq]
  · exact absurd hu hu'

end bytes

section sound
variable {m : Module} {o : Oracle} {w : SView} (href : refStruct m w.sd = true)
  (hwf : viewWF w = true) (hfacts : FactEnv m w (envOf o w none)) {x : String} {f : Field}
  (hf : w.sd.field x = some f)
include href hwf hfacts hf

theorem arrElem_sound {i : Nat} {v : Val} (h : arrElem o w f i = some v) :
    RFact m w (.elem x i v) := by
  unfold arrElem at h
  split at h
  · next start size k bits req es bo hk =>
    obtain ⟨_, _, _, ⟨⟩, hkk, hfstart, hfsize, hfreq, hbits, hu, hes, hespos⟩ :=
      refField_array (ref_of_field href hf) hk
    split at h
    · next st hst =>
      obtain ⟨off, s, hhas, hsize, hstart, hs0, hoff0, rfl⟩ := physStorage_some hst
      split at h
      · next hi =>
        obtain ⟨hin, hbr⟩ := elem_bridge hwf hu hes hbits bo off.toNat s.toNat (es * i)
          ((lt_div_iff hespos).mp hi.2)
        rw [hbr] at h
        obtain ⟨raw, hraw, _, hdec, hok⟩ := leafRead_bits h
        exact RFact.elem (envOf o w none) hf hk (pres_sound href hfacts hf hhas) hfacts.read hfacts.has
          hfacts.param hfacts.lv (evalR_of_evalInt hfstart hstart) (evalR_of_evalInt hfsize hsize)
          hoff0 hs0 hin hraw (by rw [specDecode_eq k bits _ hkk hbits]; exact hdec)
          (requiresOk_of_valueIsOk hfreq hok)
      · cases h
    · cases h
  · cases h

/-- **Soundness for the element count**: when the accessor's storage was not clamped (the whole
extent is inside the window) the model's `ElementCount()` is R's `count` fact. -/
theorem arrCount_sound {start size : Expr} {k : ScalarKind} {bits : Nat} {req : Option Expr}
    {es : Nat} {bo : ByteOrder} (hk : f.kind = .phys start size (.array (.scalar k bits req) es) bo)
    {c : Nat} (h : arrCount o w f = some c) {st : Storage} {z : Int}
    (hst : physStorage o w f start size = some st) (hz : evalInt (envOf o w none) size = some z)
    (hfull : st.ok = true ∧ st.size = z.toNat) :
    RFact m w (.count x c) := by
  obtain ⟨_, _, _, ⟨⟩, hkk, hfstart, hfsize, hfreq, hbits, hu, hes, hespos⟩ :=
    refField_array (ref_of_field href hf) hk
  simp only [arrCount, hk, hst, Option.some.injEq, if_neg (Nat.ne_of_gt hespos)] at h
  obtain ⟨off, s, hhas, hsize, hstart, hs0, hoff0, rfl⟩ := physStorage_some hst
  cases hz.symm.trans hsize
  rw [← h, hfull.2]
  exact RFact.count (envOf o w none) hf hk (pres_sound href hfacts hf hhas) hfacts.read hfacts.has
    hfacts.param hfacts.lv (evalR_of_evalInt hfstart hstart) (evalR_of_evalInt hfsize hz) hoff0 hs0
    hespos ((extentIn_iff hwf hu).mpr hfull)

end sound

theorem array_complete (m : Module) {P : StructDef → Prop} (hm : Closed m P) (hwfm : moduleWF m = true)
    (n : Nat) (w : SView) (hP : P w.sd) (hwf : viewWF w = true) {x : String} {f : Field}
    (hf : w.sd.field x = some f) (hn : need m (n + 1) w.sd [x] = true) :
    (∀ c, RFact m w (.count x c) → arrCount (G m n) w f = some c) ∧
    (∀ i v, RFact m w (.elem x i v) → arrElem (G m n) w f i = some v) := by
  have href := hm.ref _ hP
  have ho := G_reports m hm hwfm n w hP hwf
  constructor
  · intro c h
    cases h with
    | sub ρ hf' hk hfind hpres hr hh hp hl hs hz hs0 hz0 hargs hsub hout =>
      rename_i inner; cases inner <;> cases hout
    | nullsub hf' hk hfind hsub hout =>
      rename_i inner; cases inner <;> cases hout
    | count ρ hf' hk hpres hr hh hp hl hs hz hs0 hz0 hes hin =>
      cases hf.symm.trans hf'
      obtain ⟨_, _, _, _, _, hfstart, hfsize, _, _, hu, _⟩ := refField_array (ref_of_field href hf) hk
      obtain ⟨_, hst⟩ :=
        physStorage_complete href ho hf hn hk hfstart hfsize hpres ⟨hr, hh, hp, hl⟩ hs hz hs0 hz0
      simp only [arrCount, hk, hst, if_neg (Nat.ne_of_gt hes), ((extentIn_iff hwf hu).mp hin).2]
  · intro i v h
    cases h with
    | sub ρ hf' hk hfind hpres hr hh hp hl hs hz hs0 hz0 hargs hsub hout =>
      rename_i inner; cases inner <;> cases hout
    | nullsub hf' hk hfind hsub hout =>
      rename_i inner; cases inner <;> cases hout
    | elem ρ hf' hk hpres hr hh hp hl hs hz hs0 hz0 hi hraw hv hreq =>
      rename_i f' start size k bits req es bo s z raw
      cases hf.symm.trans hf'
      have E : FactEnv m w ρ := ⟨hr, hh, hp, hl⟩
      obtain ⟨_, _, _, ⟨⟩, hkk, hfstart, hfsize, hfreq, hbits, hu, hes8, hespos⟩ :=
        refField_array (ref_of_field href hf) hk
      have hlf : (optRefs req).isEmpty = true := by
        simpa only [reqLocalField, hk] using reqLocal_of_field (hm.loc _ hP) hf
      obtain ⟨_, hst⟩ := physStorage_complete href ho hf hn hk hfstart hfsize hpres E hs hz hs0 hz0
      have hsz := elem_inside hwf hu hraw hi
      obtain ⟨_, hbr⟩ := elem_bridge hwf hu hes8 hbits bo s.toNat z.toNat (es * i) hsz
      rw [specDecode_eq k bits _ hkk hbits] at hv
      simp only [arrElem, hk, hst]
      rw [if_pos ⟨Nat.ne_of_gt hespos, (lt_div_iff hespos).mpr hsz⟩, hbr, hraw]
      exact leafRead_of (leafSizeOk_self k bits hbits) hv (E.requires hfreq hlf hreq)

end Emboss.ViewRef
