/- Lemmas for C07's `static_assert` / `enable_if` obligations: the classification tables and the keyword list
compared on characters, the template arguments the back end writes, the intermediate type of an operation. -/
import Emboss.Model.StaticAsserts
import Emboss.Lemmas.CppInt
namespace Emboss.StaticAsserts
open Emboss.CppInt

/-! ## tables compared on characters -/

/-- Moves "every entry's condition is a key of the table" from `String` to `List Char`, so that
`decide` evaluates on characters: the kernel decodes a literal's UTF-8 form slowly, whereas
`String.toList_ofList` gives the characters of a literal under `String.toList` by unification. -/
theorem classified_chars {α β : Type} (l : List α) (f : α → String) (t : List (String × β)) :
    l.all (fun a => ((t.find? (fun p => p.1 == f a)).map (·.2)).isSome) =
      (l.map (fun a => (f a).toList)).all (fun c => (t.map (fun p => p.1.toList)).contains c) := by
  rw [Bool.eq_iff_iff]
  simp [List.find?_isSome, ← String.toList_inj]

theorem all_contains_chars (xs ys : List String) :
    xs.all (fun x => ys.contains x) =
      (xs.map String.toList).all (fun c => (ys.map String.toList).contains c) := by
  simp [List.all_map, Function.comp_def, List.contains_eq_mem, String.toList_inj]

/-! ## template arguments -/

theorem gcd_two_pow (k m : Nat) : ∃ j, Nat.gcd (2 ^ k) m = 2 ^ j := by
  induction k generalizing m with
  | zero => exact ⟨0, by simp⟩
  | succ k ih =>
    by_cases hm : 2 ∣ m
    · obtain ⟨m', rfl⟩ := hm
      obtain ⟨j, hj⟩ := ih m'
      exact ⟨j + 1, by rw [Nat.pow_succ, Nat.mul_comm, Nat.gcd_mul_left, hj, Nat.pow_succ, Nat.mul_comm]⟩
    · have h2 : Nat.gcd 2 m = 1 := by
        have : m % 2 = 1 := by omega
        rw [Nat.gcd_rec, this]
        rfl
      exact ⟨0, Nat.Coprime.pow_left (k + 1) h2⟩

/-- `ContiguousBuffer`'s two assertions are invariant under `OffsetStorageType`: starting
from a power-of-two alignment (1 for `Make…View`, the caller's for `MakeAligned…View`), every
buffer type the generated accessors form has a power-of-two alignment and an offset below it. -/
theorem offsetStorage_ok (k off subAl subOff : Nat) :
    (∃ j, (offsetStorage (2 ^ k) off subAl subOff).1 = 2 ^ j) ∧
    (offsetStorage (2 ^ k) off subAl subOff).2 < (offsetStorage (2 ^ k) off subAl subOff).1 := by
  simp only [offsetStorage]
  obtain ⟨j, hj⟩ := gcd_two_pow k subAl
  refine ⟨⟨j, hj⟩, Nat.mod_lt _ ?_⟩
  rw [hj]
  exact Nat.pow_pos (by decide)

theorem leastWidth_ok (b : Nat) (h : b ≤ 64) : ∃ w, leastWidth b = some w ∧ b ≤ w := by
  unfold leastWidth
  split
  · exact ⟨8, rfl, ‹_›⟩
  · split
    · exact ⟨16, rfl, ‹_›⟩
    · split
      · exact ⟨32, rfl, ‹_›⟩
      · exact ⟨64, rfl, h⟩

/-! ## intermediate type of arithmetic / comparison operations -/

theorem hullOf_bounds (cs : List (Int × Int)) (h : Int × Int) (lo hi : Int) :
    lo ≤ (hullOf h cs).1 ∧ (hullOf h cs).2 ≤ hi ↔ ∀ d ∈ h :: cs, lo ≤ d.1 ∧ d.2 ≤ hi := by
  induction cs generalizing h with
  | nil => simp [hullOf]
  | cons c cs ih =>
    simp only [hullOf, ih, List.forall_mem_cons, Int.le_min, Int.max_le]
    rw [and_and_and_comm, and_assoc]

theorem frontAcceptsOp_uniform (cl : List (Int × Int)) (h : frontAcceptsOp cl = true) :
    (∀ c ∈ cl, -9223372036854775808 ≤ c.1 ∧ c.2 ≤ 9223372036854775807) ∨
    (∀ c ∈ cl, 0 ≤ c.1 ∧ c.2 ≤ 18446744073709551615) := by
  simp only [frontAcceptsOp, mixedSignedness, Bool.and_eq_true, List.all_eq_true, Bool.or_eq_true,
    Bool.not_eq_true', Bool.and_eq_false_iff, List.any_eq_false, fitsI64, fitsU64, decide_eq_true_eq,
    decide_eq_false_iff_not] at h
  obtain ⟨hfit, h1 | h2⟩ := h
  · exact .inl fun c hc => by have := h1 c hc; omega
  · exact .inr fun c hc => by have := h2 c hc; have := hfit c hc; omega

end Emboss.StaticAsserts
