/-
Order / gcd lemmas on the extended integers and moduli of Model/Bounds.lean, remainder facts, and
interval multiplication: the product of x ∈ [a,b] and y ∈ [c,d] lies between the minimum and the
maximum of the four corner products computed with `_mul` (∞·0 = 0).  At the end: what `listMax`
(Spec) and `maxInts` (Model) compute.
-/
import Emboss.Spec.Bounds
namespace Emboss.Bounds
open ExtInt

theorem HighOk.mono {e : ExtInt} {v w : Int} (h : HighOk e v) (hw : w ≤ v) : HighOk e w := by
  cases e <;> simp_all [HighOk] ; omega

theorem LowOk.mono {e : ExtInt} {v w : Int} (h : LowOk e v) (hw : v ≤ w) : LowOk e w := by
  cases e <;> simp_all [LowOk] ; omega

theorem toInt?_eq_some {e : ExtInt} {a : Int} (h : e.toInt? = some a) : e = .fin a := by
  cases e <;> cases h; rfl

theorem eq_fin_of_low_high {e : ExtInt} {v : Int} (h1 : LowOk e v) (h2 : HighOk e v) : e = .fin v := by
  cases e with
  | negInf => exact h2.elim
  | posInf => exact h1.elim
  | fin w => exact congrArg ExtInt.fin (Int.le_antisymm h1 h2)

/-! ### `_add` / `_sub` -/

theorem eadd_low {a b c : ExtInt} {x y : Int} (h : eadd a b = some c)
    (ha : LowOk a x) (hb : LowOk b y) : LowOk c (x + y) := by
  cases a <;> cases b <;> cases h <;> simp only [LowOk] at * <;> omega

theorem eadd_high {a b c : ExtInt} {x y : Int} (h : eadd a b = some c)
    (ha : HighOk a x) (hb : HighOk b y) : HighOk c (x + y) := by
  cases a <;> cases b <;> cases h <;> simp only [HighOk] at * <;> omega

theorem neg_low {b : ExtInt} {y : Int} (hb : HighOk b y) : LowOk b.neg (-y) := by
  cases b <;> simp_all [ExtInt.neg, LowOk, HighOk]

theorem neg_high {b : ExtInt} {y : Int} (hb : LowOk b y) : HighOk b.neg (-y) := by
  cases b <;> simp_all [ExtInt.neg, LowOk, HighOk]

theorem esub_low {a b c : ExtInt} {x y : Int} (h : esub a b = some c)
    (ha : LowOk a x) (hb : HighOk b y) : LowOk c (x - y) :=
  Int.sub_eq_add_neg ▸ eadd_low h ha (neg_low hb)

theorem esub_high {a b c : ExtInt} {x y : Int} (h : esub a b = some c)
    (ha : HighOk a x) (hb : LowOk b y) : HighOk c (x - y) :=
  Int.sub_eq_add_neg ▸ eadd_high h ha (neg_high hb)

/-! ### `_max` / `_min`

Both return one of their arguments (`emax2_sel`, `emin2_sel`), so a fold returns its start
value or a member of the list; whatever holds of all of these holds of the result. -/

theorem foldl_sel {α : Type} {f : α → α → α} (hf : ∀ a b, f a b = a ∨ f a b = b) (l : List α)
    (acc : α) : l.foldl f acc = acc ∨ l.foldl f acc ∈ l :=
  l.foldlRecOn (motive := fun b => b = acc ∨ b ∈ l) f (Or.inl rfl) fun b hb a ha =>
    (hf b a).elim (fun h => h.symm ▸ hb) (fun h => Or.inr (h.symm ▸ ha))

/-- once the fold has taken in `x`, `P` holds of the accumulator and stays -/
theorem foldl_of_mem {α : Type} {f : α → α → α} {P : α → Prop}
    (hf : ∀ a b, P a ∨ P b → P (f a b)) {l : List α} (acc : α) {x : α} (hx : x ∈ l) (px : P x) :
    P (l.foldl f acc) := by
  obtain ⟨l₁, l₂, rfl⟩ := List.append_of_mem hx
  rw [List.foldl_append, List.foldl_cons]
  exact l₂.foldlRecOn f (hf _ _ (Or.inr px)) fun _ hb _ _ => hf _ _ (Or.inl hb)

theorem emax2_sel (a b : ExtInt) : emax2 a b = a ∨ emax2 a b = b := by
  cases a <;> cases b <;> simp only [emax2, true_or, or_true]
  split <;> simp

theorem emin2_sel (a b : ExtInt) : emin2 a b = a ∨ emin2 a b = b := by
  cases a <;> cases b <;> simp only [emin2, true_or, or_true]
  split <;> simp

theorem emax2_high_iff {a b : ExtInt} {v : Int} : HighOk (emax2 a b) v ↔ HighOk a v ∨ HighOk b v := by
  cases a <;> cases b <;> simp only [emax2, HighOk, or_true, true_or, or_false, false_or]
  split <;> omega

theorem emin2_low_iff {a b : ExtInt} {v : Int} : LowOk (emin2 a b) v ↔ LowOk a v ∨ LowOk b v := by
  cases a <;> cases b <;> simp only [emin2, LowOk, or_true, true_or, or_false, false_or]
  split <;> omega

theorem emax2_high_left {a b : ExtInt} {v : Int} (h : HighOk a v) : HighOk (emax2 a b) v :=
  emax2_high_iff.mpr (Or.inl h)

theorem emax2_high_right {a b : ExtInt} {v : Int} (h : HighOk b v) : HighOk (emax2 a b) v :=
  emax2_high_iff.mpr (Or.inr h)

theorem emin2_low_left {a b : ExtInt} {v : Int} (h : LowOk a v) : LowOk (emin2 a b) v :=
  emin2_low_iff.mpr (Or.inl h)

theorem emin2_low_right {a b : ExtInt} {v : Int} (h : LowOk b v) : LowOk (emin2 a b) v :=
  emin2_low_iff.mpr (Or.inr h)

theorem emaxL_sel (l : List ExtInt) : emaxL l = .negInf ∨ emaxL l ∈ l := foldl_sel emax2_sel l _

theorem eminL_sel (l : List ExtInt) : eminL l = .posInf ∨ eminL l ∈ l := foldl_sel emin2_sel l _

theorem emaxL_high {l : List ExtInt} {x : ExtInt} {v : Int} (hx : x ∈ l) (h : HighOk x v) :
    HighOk (emaxL l) v :=
  foldl_of_mem (P := (HighOk · v)) (fun _ _ => emax2_high_iff.mpr) _ hx h

theorem emaxL_low {l : List ExtInt} {v : Int} (h : ∀ x ∈ l, LowOk x v) : LowOk (emaxL l) v := by
  rcases emaxL_sel l with e | e
  · rw [e]; trivial
  · exact h _ e

theorem emaxL_eq_fin {l : List ExtInt} {z : Int} (hmem : .fin z ∈ l) (hle : ∀ x ∈ l, LowOk x z) :
    emaxL l = .fin z :=
  eq_fin_of_low_high (emaxL_low hle) (emaxL_high hmem (Int.le_refl z))

theorem emaxL_fins {l : List Int} {m : Int} (h : IsMaxOf l m) : emaxL (l.map .fin) = .fin m :=
  emaxL_eq_fin (List.mem_map.mpr ⟨m, h.1, rfl⟩) (fun x hx => by
    obtain ⟨y, hy, rfl⟩ := List.mem_map.mp hx
    exact h.2 y hy)

theorem eminL_low {l : List ExtInt} {x : ExtInt} {v : Int} (hx : x ∈ l) (h : LowOk x v) :
    LowOk (eminL l) v :=
  foldl_of_mem (P := (LowOk · v)) (fun _ _ => emin2_low_iff.mpr) _ hx h

theorem eminL_high {l : List ExtInt} {v : Int} (h : ∀ x ∈ l, HighOk x v) : HighOk (eminL l) v := by
  rcases eminL_sel l with e | e
  · rw [e]; trivial
  · exact h _ e

theorem emaxL_mem {l : List ExtInt} {e : ExtInt} (h : emaxL l = e) (hne : e ≠ .negInf) : e ∈ l :=
  h ▸ (emaxL_sel l).resolve_left (h ▸ hne)

theorem eminL_mem {l : List ExtInt} {e : ExtInt} (h : eminL l = e) (hne : e ≠ .posInf) : e ∈ l :=
  h ▸ (eminL_sel l).resolve_left (h ▸ hne)

/-! ### `_greatest_common_divisor` is `Nat.gcd` once "infinity" is read as 0 -/

theorem gcdM_toNat (a b : Modulus) : (gcdM a b).toNat = Nat.gcd a.toNat b.toNat := by
  cases a with
  | inf =>
    cases b with
    | inf => simp [gcdM, Modulus.toNat]
    | fin m => cases m <;> simp [gcdM, Modulus.toNat]
  | fin n =>
    cases b with
    | inf => cases n <;> simp [gcdM, Modulus.toNat]
    | fin m => cases n <;> cases m <;> simp [gcdM, Modulus.toNat]

theorem gcdM_eq_fin {a b : Modulus} {g : Nat} (h : gcdM a b = .fin g) :
    g = Nat.gcd a.toNat b.toNat := by
  have := gcdM_toNat a b
  rwa [h] at this

theorem gcdM_dvd_left (a b : Modulus) : (((gcdM a b).toNat : Nat) : Int) ∣ ((a.toNat : Nat) : Int) := by
  rw [gcdM_toNat]; exact Int.ofNat_dvd.mpr (Nat.gcd_dvd_left _ _)

theorem gcdM_dvd_right (a b : Modulus) : (((gcdM a b).toNat : Nat) : Int) ∣ ((b.toNat : Nat) : Int) := by
  rw [gcdM_toNat]; exact Int.ofNat_dvd.mpr (Nat.gcd_dvd_right _ _)

/-! ### remainders -/

/-- the two ways a congruence is written: `CongOk` divides a difference, `invPy` compares remainders -/
theorem emod_eq_iff_dvd_sub {a b k : Int} : a % k = b % k ↔ k ∣ a - b :=
  Int.emod_eq_emod_iff_emod_sub_eq_zero.trans (Int.dvd_iff_emod_eq_zero ..).symm

/-- a congruence may be written with the canonical remainder -/
theorem CongOk.of_dvd {k : Nat} {x c : Int} (h : (k : Int) ∣ x - c) :
    CongOk (.fin k) (.fin (c % k)) x :=
  ⟨_, rfl, emod_eq_iff_dvd_sub.mp ((emod_eq_iff_dvd_sub.mpr h).trans (Int.emod_emod c k).symm)⟩

/-- congruent modulo "infinity" is equal -/
theorem eq_of_inf_dvd {m : Modulus} {x c : Int} (hm : m = .inf) (h : ((m.toNat : Nat) : Int) ∣ x - c) :
    x = c := by
  subst hm
  simpa only [Modulus.toNat, Int.natCast_zero, Int.emod_zero] using emod_eq_iff_dvd_sub.mpr h

theorem emod_canon (u : Int) {k : Nat} (hk : 0 < k) : 0 ≤ u % (k : Int) ∧ u % (k : Int) < (k : Int) :=
  ⟨Int.emod_nonneg _ (by omega), Int.emod_lt_of_pos _ (by omega)⟩

theorem emod_gap {m : Nat} {x y : Int} (h : x % (m : Int) = y % (m : Int)) (hlt : x < y) : x + m ≤ y := by
  have := Int.le_of_dvd (by omega) (emod_eq_iff_dvd_sub.mp h.symm)
  omega

theorem CongOk.weaken {m m' : Modulus} {c : Int} {v : Int}
    (hd : ((m'.toNat : Nat) : Int) ∣ ((m.toNat : Nat) : Int)) (h : CongOk m (.fin c) v) :
    CongOk m' (.fin c) v := by
  obtain ⟨c', hc, hdv⟩ := h
  exact ⟨c', hc, Int.dvd_trans hd hdv⟩

/-! ### `_mul` -/

theorem emul_comm (a b : ExtInt) : emul a b = emul b a := by
  cases a <;> cases b <;> simp only [emul, Int.mul_comm]

theorem emul_zero_left (e : ExtInt) : emul (.fin 0) e = .fin 0 := by
  cases e <;> simp [emul, esign]

theorem emul_zero_right (e : ExtInt) : emul e (.fin 0) = .fin 0 := by
  rw [emul_comm]; exact emul_zero_left e

/-- what `_mul` returns when a factor is infinite, from the product of the signs -/
def sgnInf (s : Int) : ExtInt := if s > 0 then .posInf else if s < 0 then .negInf else .fin 0

theorem emul_posInf (t : ExtInt) : emul .posInf t = sgnInf (esign t) := by
  cases t <;> simp only [emul, esign, Int.one_mul] <;> rfl

theorem emul_negInf (t : ExtInt) : emul .negInf t = sgnInf (- esign t) := by
  cases t <;> simp only [emul, esign, Int.neg_one_mul] <;> rfl

theorem emul_inf_right (e : ExtInt) :
    emul e .posInf = sgnInf (esign e) ∧ emul e .negInf = sgnInf (- esign e) := by
  rw [emul_comm, emul_comm e, emul_posInf, emul_negInf]; exact ⟨rfl, rfl⟩

theorem sgnInf_pos {s : Int} (h : 0 < s) : sgnInf s = .posInf := if_pos h

theorem sgnInf_neg {s : Int} (h : s < 0) : sgnInf s = .negInf := by
  rw [sgnInf, if_neg (by omega), if_pos h]

theorem sgnInf_eq_fin {s z : Int} (h : sgnInf s = .fin z) : s = 0 ∧ z = 0 := by
  unfold sgnInf at h
  split at h
  · cases h
  · split at h <;> cases h
    omega

theorem sgnInf_mono {s s' : Int} (h : s ≤ s') (w : Int) :
    (HighOk (sgnInf s) w → HighOk (sgnInf s') w) ∧ (LowOk (sgnInf s') w → LowOk (sgnInf s) w) := by
  rcases Int.lt_trichotomy s' 0 with h' | rfl | h'
  · rw [sgnInf_neg h', sgnInf_neg (Int.lt_of_le_of_lt h h')]; exact ⟨id, id⟩
  · rcases Int.lt_or_eq_of_le h with h | rfl
    · rw [sgnInf_neg h]; exact ⟨nofun, fun _ => trivial⟩
    · exact ⟨id, id⟩
  · rw [sgnInf_pos h']; exact ⟨fun _ => trivial, nofun⟩

theorem esign_fin (y : Int) :
    (0 < y ∧ esign (.fin y) = 1) ∨ (y = 0 ∧ esign (.fin y) = 0) ∨ (y < 0 ∧ esign (.fin y) = -1) := by
  rcases Int.lt_trichotomy y 0 with h | rfl | h
  · exact .inr (.inr ⟨h, by rw [esign, if_neg (by omega), if_pos h]⟩)
  · exact .inr (.inl ⟨rfl, rfl⟩)
  · exact .inl ⟨h, if_pos h⟩

theorem emul_fin_inf {x z : Int} {e : ExtInt} (he : e.isInf = true) (h : emul (.fin x) e = .fin z) :
    x = 0 ∧ z = 0 := by
  have hs : esign (.fin x) = 0 ∧ z = 0 := by
    cases e with
    | fin y => cases he
    | posInf => rw [(emul_inf_right _).1] at h; exact sgnInf_eq_fin h
    | negInf => rw [(emul_inf_right _).2] at h; have := sgnInf_eq_fin h; omega
  have := esign_fin x
  omega

theorem emul_inf_inf {e1 e2 : ExtInt} {z : Int} (h1 : e1.isInf = true) (h2 : e2.isInf = true) :
    emul e1 e2 ≠ .fin z := by
  cases e1 <;> cases e2 <;> simp [ExtInt.isInf] at h1 h2 <;> simp [emul, esign]

theorem fin_or_inf (e : ExtInt) : (∃ x, e = .fin x) ∨ e.isInf = true := by
  cases e <;> simp [ExtInt.isInf]

theorem esign_le_of_high {d : ExtInt} {y : Int} (h : HighOk d y) : esign (.fin y) ≤ esign d := by
  have := esign_fin y
  cases d with
  | negInf => exact h.elim
  | posInf => simp only [esign]; omega
  | fin d' => have := esign_fin d'; simp only [HighOk] at h; omega

theorem esign_le_of_low {c : ExtInt} {y : Int} (h : LowOk c y) : esign c ≤ esign (.fin y) := by
  have := esign_fin y
  cases c with
  | posInf => exact h.elim
  | negInf => simp only [esign]; omega
  | fin c' => have := esign_fin c'; simp only [LowOk] at h; omega

/-- `_mul e` is monotone or antitone according to the sign of `e`, so on `c ≤ y ≤ d` it is at most
    its value at one of the ends; for an infinite `e` this is monotonicity of the sign -/
theorem emul_high_ends {e c d : ExtInt} {y w : Int} (hc : LowOk c y) (hd : HighOk d y)
    (h : HighOk (emul e (.fin y)) w) : HighOk (emul e c) w ∨ HighOk (emul e d) w := by
  cases e with
  | posInf =>
    rw [emul_posInf] at h ⊢
    exact .inr (emul_posInf d ▸ (sgnInf_mono (esign_le_of_high hd) w).1 h)
  | negInf =>
    rw [emul_negInf] at h ⊢
    exact .inl ((sgnInf_mono (Int.neg_le_neg (esign_le_of_low hc)) w).1 h)
  | fin x =>
    simp only [emul, HighOk] at h
    rcases esign_fin x with ⟨hx, ex⟩ | ⟨rfl, -⟩ | ⟨hx, ex⟩
    · right
      cases d with
      | negInf => exact hd.elim
      | posInf => rw [(emul_inf_right _).1, sgnInf_pos (ex ▸ Int.one_pos)]; trivial
      | fin d' => exact Int.le_trans h (Int.mul_le_mul_of_nonneg_left hd (Int.le_of_lt hx))
    · left
      rw [emul_zero_left]
      rwa [Int.zero_mul] at h
    · left
      cases c with
      | posInf => exact hc.elim
      | negInf => rw [(emul_inf_right _).2, sgnInf_pos (ex ▸ Int.one_pos)]; trivial
      | fin c' => exact Int.le_trans h (Int.mul_le_mul_of_nonpos_left (Int.le_of_lt hx) hc)

theorem emul_low_ends {e c d : ExtInt} {y w : Int} (hc : LowOk c y) (hd : HighOk d y)
    (h : LowOk (emul e (.fin y)) w) : LowOk (emul e c) w ∨ LowOk (emul e d) w := by
  cases e with
  | posInf =>
    rw [emul_posInf] at h ⊢
    exact .inl ((sgnInf_mono (esign_le_of_low hc) w).2 h)
  | negInf =>
    rw [emul_negInf] at h ⊢
    exact .inr (emul_negInf d ▸ (sgnInf_mono (Int.neg_le_neg (esign_le_of_high hd)) w).2 h)
  | fin x =>
    simp only [emul, LowOk] at h
    rcases esign_fin x with ⟨hx, ex⟩ | ⟨rfl, -⟩ | ⟨hx, ex⟩
    · left
      cases c with
      | posInf => exact hc.elim
      | negInf => rw [(emul_inf_right _).2, sgnInf_neg (by omega)]; trivial
      | fin c' => exact Int.le_trans (Int.mul_le_mul_of_nonneg_left hc (Int.le_of_lt hx)) h
    · left
      rw [emul_zero_left]
      rwa [Int.zero_mul] at h
    · right
      cases d with
      | negInf => exact hd.elim
      | posInf => rw [(emul_inf_right _).1, sgnInf_neg (by omega)]; trivial
      | fin d' => exact Int.le_trans (Int.mul_le_mul_of_nonpos_left (Int.le_of_lt hx) hd) h

/-- move `x` to an end of `[a,b]` with `y` fixed, then `y` to an end of `[c,d]` -/
theorem mul_corners_high {a b c d : ExtInt} {x y : Int}
    (ha : LowOk a x) (hb : HighOk b x) (hc : LowOk c y) (hd : HighOk d y) :
    HighOk (emaxL [emul b d, emul a d, emul b c, emul a c]) (x * y) := by
  have h0 : HighOk (emul (.fin y) (.fin x)) (x * y) := Int.le_of_eq (Int.mul_comm x y)
  rcases emul_high_ends ha hb h0 with h | h <;> rw [emul_comm] at h <;>
    rcases emul_high_ends hc hd h with h' | h'
  · exact emaxL_high (x := emul a c) (by simp) h'
  · exact emaxL_high (x := emul a d) (by simp) h'
  · exact emaxL_high (x := emul b c) (by simp) h'
  · exact emaxL_high (x := emul b d) (by simp) h'

theorem mul_corners_low {a b c d : ExtInt} {x y : Int}
    (ha : LowOk a x) (hb : HighOk b x) (hc : LowOk c y) (hd : HighOk d y) :
    LowOk (eminL [emul b d, emul a d, emul b c, emul a c]) (x * y) := by
  have h0 : LowOk (emul (.fin y) (.fin x)) (x * y) := Int.le_of_eq (Int.mul_comm y x)
  rcases emul_low_ends ha hb h0 with h | h <;> rw [emul_comm] at h <;>
    rcases emul_low_ends hc hd h with h' | h'
  · exact eminL_low (x := emul a c) (by simp) h'
  · exact eminL_low (x := emul a d) (by simp) h'
  · exact eminL_low (x := emul b c) (by simp) h'
  · exact eminL_low (x := emul b d) (by simp) h'

/-! ### maxima of integer lists: `listMax` (Spec) and `maxInts` (Model) are core's `List.max?` -/

theorem maxInts_eq_max? (l : List Int) : maxInts l = l.max? := by cases l <;> rfl

theorem listMax_eq_max? : ∀ l : List Int, listMax l = l.max?
  | [] => rfl
  | [_] => rfl
  | a :: b :: r => by
    rw [listMax, listMax_eq_max? (b :: r), List.max?_cons (xs := b :: r), List.max?_cons']; rfl

theorem listMax_some {l : List Int} (h : l ≠ []) : ∃ m, listMax l = some m :=
  listMax_eq_max? l ▸ Option.isSome_iff_exists.mp (List.isSome_max?_of_ne_nil h)

theorem listMax_eq_maxInts (l : List Int) : listMax l = maxInts l :=
  (listMax_eq_max? l).trans (maxInts_eq_max? l).symm

theorem listMax_isMax {l : List Int} {m : Int} (h : listMax l = some m) : IsMaxOf l m :=
  List.max?_eq_some_iff.mp (listMax_eq_max? l ▸ h)

end Emboss.Bounds
