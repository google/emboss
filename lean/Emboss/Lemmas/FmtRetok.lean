/-
The formatter's renderer (`_render_rows_to_text`) composed with the tokenizer model (C10):
`LineToks s L`, the token sequence `expectLeaves` of a list of rows (`tokenize_renderRows`), the
same with the hypothesis in front of `_module`'s passes (`tokenize_moduleRows`), and soundness of
the evaluated form `retokExpect` / `retokTree`.
-/
import Emboss.Spec.FmtRetok
import Emboss.Lemmas.TokBlankJoin
import Emboss.Lemmas.TokSplit
import Emboss.Lemmas.FmtTree
namespace Emboss.FmtTok
open Emboss.Tok Emboss.Generated

theorem map_leafOf_shift (k : Nat) (ts : List Token) :
    (ts.map (Token.shift k)).map leafOf = ts.map leafOf := by
  simp only [List.map_map]; rfl

/-- The content `s` of a rendered line tokenizes to the leaves `L`: it neither starts nor
ends with a blank, contains no line terminator, and `_tokenize_line` cuts it into tokens
with these symbols and texts (on any line number). -/
structure LineToks (s : List Char) (L : List Leaf) : Prop where
  head : ∀ y, s.head? = some y → isSpaceChar y = false
  last : ∀ y, s.getLast? = some y → isSpaceChar y = false
  nobreak : ∀ c ∈ s, isBreakChar c = false
  toks : ∀ ln, ∃ ts, tokLine tokTable.pats ln s.length s 0 = .ok ts ∧ ts.map leafOf = L

theorem LineToks.nil : LineToks [] [] :=
  ⟨(by intro y h; cases h), (by intro y h; cases h), (by intro c h; cases h), fun _ => ⟨[], rfl, rfl⟩⟩

theorem space_blank : isSpaceChar ' ' = true := by decide

theorem spaces_all_blank (n : Nat) : (Fmt.spaces n).all isSpaceChar = true := by
  simp only [Fmt.spaces, List.all_replicate, space_blank]
  simp

theorem spaces_succ (n : Nat) : Fmt.spaces (n + 1) = ' ' :: Fmt.spaces n := by
  simp [Fmt.spaces, List.replicate_succ]

theorem tokLine_indented (ln : Nat) {w s : List Char} {ts : List Token} (hw : w.all isSpaceChar = true)
    (hs : ∀ y, s.head? = some y → isSpaceChar y = false)
    (h : tokLine tokTable.pats ln s.length s 0 = .ok ts) :
    tokLine tokTable.pats ln (w ++ s).length (w ++ s) 0 = .ok (ts.map (Token.shift w.length)) := by
  cases w with
  | nil => simpa [show Token.shift 0 = id from funext Token.shift_zero] using h
  | cons c ws => exact (tokLine_blank_prefix ln hw hs).1 ts h

theorem leadingWs_indented (n : Nat) {s : List Char}
    (hs : ∀ y, s.head? = some y → isSpaceChar y = false) :
    leadingWs (Fmt.spaces n ++ s) = Fmt.spaces n := by
  unfold leadingWs
  rw [List.takeWhile_append_of_pos (by simp [Fmt.spaces, space_blank])]
  cases s with
  | nil => exact List.append_nil _
  | cons y t => rw [List.takeWhile_cons, hs y rfl]; simp

def stackOf (iw top : Nat) (below : List Nat) : IStack :=
  ⟨Fmt.spaces (iw * top), below.map (fun j => Fmt.spaces (iw * j))⟩

theorem level_inj {iw a b : Nat} (hiw : 0 < iw) : Fmt.spaces (iw * a) = Fmt.spaces (iw * b) ↔ a = b := by
  simp only [Fmt.spaces, List.replicate_inj, or_true, and_true]
  exact ⟨Nat.eq_of_mul_eq_mul_left hiw, congrArg _⟩

theorem dedentTo_levels (iw : Nat) (hiw : 0 < iw) (j : Nat) : ∀ (below : List Nat) (k : Nat),
    dedentTo (Fmt.spaces (iw * j)) (below.map (fun t => Fmt.spaces (iw * t))) k =
      (dedentLv j below k).map (fun r => (r.1, stackOf iw r.2.1 r.2.2)) := by
  intro below
  induction below with
  | nil => intro k; rfl
  | cons t below ih =>
    intro k
    simp only [List.map_cons, dedentTo, dedentLv, level_inj hiw]
    by_cases h : j = t
    · simp only [h, if_true, Option.map_some]; rfl
    · simp only [h, if_false]; exact ih (k + 1)

theorem spaces_prefix {a b : Nat} : (Fmt.spaces a).isPrefixOf (Fmt.spaces b) = decide (a ≤ b) := by
  simp [Fmt.spaces, List.isPrefixOf_replicate]

theorem all_comment_leaves (ts : List Token) :
    ts.all (fun t => t.sym == "Comment") = allComment (ts.map leafOf) := by
  simp only [allComment, List.all_map]; rfl

theorem map_leafOf_replicate (k : Nat) (ln c : Nat) :
    (List.replicate k (dedentTok ln c)).map leafOf = List.replicate k dedentLeaf := by
  simp only [List.map_replicate]; rfl

/-- What a row at level `j` with leaves `L` does to the open levels `top :: below`: the layout
leaves in front of its own, and the levels open after it (`none`: "Bad indentation"). -/
def rowLayout (iw j top : Nat) (below : List Nat) (L : List Leaf) : Option (List Leaf × Nat × List Nat) :=
  if allComment L = true ∨ j = top then some ([], top, below)
  else if top < j then some ([("Indent", Fmt.spaces (iw * (j - top)))], j, top :: below)
  else (dedentLv j below 1).map fun r => (List.replicate r.1 dedentLeaf, r.2.1, r.2.2)

theorem expectLeaves_cons (iw top : Nat) (below : List Nat) (j : Nat) (L : List Leaf)
    (rest : List (Nat × List Leaf)) :
    expectLeaves iw top below ((j, L) :: rest) =
      (rowLayout iw j top below L).bind fun r =>
        (expectLeaves iw r.2.1 r.2.2 rest).map fun x => r.1 ++ (L ++ nlLeaf :: x) := by
  unfold rowLayout
  rw [expectLeaves]
  by_cases hc : allComment L = true
  · simp only [hc, if_true, true_or, Option.bind_some, List.nil_append]
  · by_cases hj : j = top
    · simp only [hc, hj, if_true, or_true, Bool.false_eq_true, if_false, Option.bind_some, List.nil_append]
    · simp only [hc, hj, or_self, Bool.false_eq_true, if_false]
      split
      · rfl
      · cases dedentLv j below 1 <;> rfl

theorem lineStep_row (iw : Nat) (hiw : 0 < iw) (ln j top : Nat) (below : List Nat)
    {s : List Char} {L : List Leaf} (h : LineToks s L) {pre : List Leaf} {t : Nat} {b : List Nat}
    (hl : rowLayout iw j top below L = some (pre, t, b)) :
    ∃ em : List Token, em.map leafOf = pre ++ (L ++ [nlLeaf]) ∧
      lineStep tokTable.pats ln (lineText iw j s) (stackOf iw top below) = .ok em (stackOf iw t b) := by
  obtain ⟨ts, hts, hL⟩ := h.toks ln
  unfold rowLayout at hl
  by_cases hs : s = []
  · -- an empty row: only the end-of-line token
    subst hs
    simp only [tokLine] at hts
    cases hts
    cases hL
    simp only [allComment] at hl
    obtain ⟨rfl, rfl, rfl⟩ := hl
    refine ⟨[newlineTok ln 0], rfl, ?_⟩
    simp [lineText, lineStep, tokLine]
  · have htl := tokLine_indented ln (spaces_all_blank (iw * j)) h.head hts
    have hlw := leadingWs_indented (iw * j) h.head
    simp only [lineText, hs, if_false]
    simp only [lineStep, htl, hlw]
    rw [all_comment_leaves, map_leafOf_shift, hL]
    have hlts : (ts.map (Token.shift (Fmt.spaces (iw * j)).length) ++ [newlineTok ln (Fmt.spaces (iw * j) ++ s).length]).map leafOf =
        L ++ [nlLeaf] := by
      rw [List.map_append, map_leafOf_shift, hL]; rfl
    by_cases hc : allComment L = true
    · -- comments only: the levels stay
      simp only [hc, true_or, if_true, Option.some.injEq, Prod.mk.injEq] at hl ⊢
      obtain ⟨rfl, rfl, rfl⟩ := hl
      exact ⟨_, hlts, rfl⟩
    · simp only [hc, Bool.false_eq_true, if_false, false_or] at hl ⊢
      simp only [stackOf, level_inj hiw]
      by_cases hj : j = top
      · subst hj
        simp only [if_true, Option.some.injEq, Prod.mk.injEq] at hl ⊢
        obtain ⟨rfl, rfl, rfl⟩ := hl
        exact ⟨_, hlts, rfl⟩
      · simp only [hj, if_false, spaces_prefix, decide_eq_true_eq] at hl ⊢
        by_cases hlt : top < j
        · -- deeper: an Indent token carrying the added blanks
          have hle : iw * top ≤ iw * j := Nat.mul_le_mul_left iw (Nat.le_of_lt hlt)
          simp only [hlt, hle, if_true, Option.some.injEq, Prod.mk.injEq] at hl ⊢
          obtain ⟨rfl, rfl, rfl⟩ := hl
          refine ⟨_, ?_, rfl⟩
          rw [List.map_cons, hlts]
          simp only [leafOf, Fmt.spaces, List.length_replicate, List.drop_replicate, Nat.mul_sub]
          rfl
        · -- shallower: Dedent tokens down to an open level
          have hnle : ¬ iw * top ≤ iw * j := by
            intro hle
            have := Nat.le_of_mul_le_mul_left hle hiw
            omega
          simp only [hlt, hnle, if_false] at hl ⊢
          obtain ⟨r, hd, hl⟩ := Option.map_eq_some_iff.mp hl
          cases hl
          rw [dedentTo_levels iw hiw, hd]
          exact ⟨_, by rw [List.map_append, map_leafOf_replicate, hlts], rfl⟩

theorem tokLines_rows (iw : Nat) (hiw : 0 < iw) :
    ∀ (rows : List (Fmt.Row × List Leaf)), (∀ x ∈ rows, LineToks (rowText x.1) x.2) →
    ∀ (ln top : Nat) (below : List Nat) (E : List Leaf),
      expectLeaves iw top below (rows.map (fun x => (x.1.indent, x.2))) = some E →
      ∃ toks, tokLines tokTable.pats (rows.map (fun x => lineText iw x.1.indent (rowText x.1))) ln
          (stackOf iw top below) = .ok toks ∧ toks.map leafOf = E := by
  intro rows
  induction rows with
  | nil =>
    intro _ ln top below E hE
    simp only [List.map_nil, expectLeaves, Option.some.injEq] at hE
    subst hE
    refine ⟨_, rfl, ?_⟩
    simp only [IStack.depth, stackOf, List.length_map, map_leafOf_replicate]
  | cons x rest ih =>
    intro hok ln top below E hE
    obtain ⟨r, L⟩ := x
    rw [List.map_cons, expectLeaves_cons, Option.bind_eq_some_iff] at hE
    obtain ⟨⟨pre, t, b⟩, hl, hE⟩ := hE
    obtain ⟨E', hr, rfl⟩ := Option.map_eq_some_iff.mp hE
    obtain ⟨em, hem, hstep⟩ := lineStep_row iw hiw ln r.indent top below (hok (r, L) List.mem_cons_self) hl
    obtain ⟨toks, ht, hl'⟩ := ih (fun y hy => hok y (List.mem_cons_of_mem _ hy)) (ln + 1) t b E' hr
    refine ⟨em ++ toks, ?_, ?_⟩
    · simp only [List.map_cons, tokLines, hstep, ht, TokRes.prepend]
    · simp only [List.map_append, hem, hl', List.append_assoc, List.singleton_append]

theorem splitLinesAux_line (l : List Char) : ∀ (cur rest : List Char),
    (∀ c ∈ l, isBreakChar c = false) →
    splitLinesAux cur (l ++ '\n' :: rest) = (cur.reverse ++ l) :: splitLinesAux [] rest := by
  induction l with
  | nil =>
    intro cur rest _
    rw [List.nil_append, splitLinesAux_cons]
    simp [isLineBreakNat]
  | cons c l ih =>
    intro cur rest h
    have hc : isBreakChar c = false := h c (by simp)
    have h13 : (c.toNat == 13) = false := by
      cases h13 : (c.toNat == 13) with
      | false => rfl
      | true => rw [cr_is_break h13] at hc; cases hc
    rw [List.cons_append, splitLinesAux_cons]
    simp only [h13, Bool.false_eq_true, if_false]
    simp only [isBreakChar] at hc
    simp only [hc, Bool.false_eq_true, if_false]
    rw [ih (c :: cur) rest (fun y hy => h y (by simp [hy]))]
    simp

theorem splitLines_lines : ∀ (lines : List (List Char)),
    (∀ l ∈ lines, ∀ c ∈ l, isBreakChar c = false) →
    splitLines (lines.map (fun l => l ++ ['\n'])).flatten = lines := by
  intro lines
  induction lines with
  | nil => intro _; simp [splitLines, splitLinesAux_nil]
  | cons l rest ih =>
    intro h
    simp only [splitLines, List.map_cons, List.flatten_cons, List.append_assoc, List.singleton_append] at ih ⊢
    rw [splitLinesAux_line l [] _ (h l (by simp))]
    simp only [List.reverse_nil, List.nil_append, List.cons.injEq, true_and]
    exact ih (fun l' hl' => h l' (by simp [hl']))

theorem rstrip_indent (n : Nat) (c : List Char) :
    Fmt.rstrip (Fmt.spaces n ++ c) = if Fmt.rstrip c = [] then [] else Fmt.spaces n ++ Fmt.rstrip c := by
  rw [Fmt.rstrip_append, rstrip_spaces]

theorem renderRow_lineText (iw : Nat) (r : Fmt.Row) (h : r.columns.length < 2) :
    Fmt.renderRow iw r = some (lineText iw r.indent (rowText r)) := by
  simp only [Fmt.renderRow, h, if_true, rstrip_indent, lineText, rowText]
  congr

theorem renderRows_lines (iw : Nat) : ∀ (rows : List Fmt.Row), (∀ r ∈ rows, r.columns.length < 2) →
    Fmt.renderRows iw rows =
      some ((rows.map (fun r => lineText iw r.indent (rowText r))).map (fun l => l ++ ['\n'])).flatten := by
  intro rows
  induction rows with
  | nil => intro _; rfl
  | cons r rest ih =>
    intro h
    simp only [Fmt.renderRows, renderRow_lineText iw r (h r (by simp)),
      ih (fun r' hr' => h r' (by simp [hr'])), Option.pure_def, Option.bind_eq_bind, Option.bind_some,
      List.map_cons, List.flatten_cons, List.append_assoc, List.singleton_append]

theorem space_not_break : isBreakChar ' ' = false := by decide

theorem lineText_nobreak (iw j : Nat) {s : List Char} (h : ∀ c ∈ s, isBreakChar c = false) :
    ∀ c ∈ lineText iw j s, isBreakChar c = false := by
  intro c hc
  simp only [lineText] at hc
  split at hc
  · cases hc
  · rcases List.mem_append.mp hc with hc | hc
    · simp only [Fmt.spaces, List.mem_replicate] at hc
      rw [hc.2]; exact space_not_break
    · exact h c hc

/-- The renderer composed with the tokenizer: `C11_retokenize_partial`. -/
theorem tokenize_renderRows (iw : Nat) (hiw : 0 < iw) (rows : List (Fmt.Row × List Leaf))
    (hr : ∀ x ∈ rows, x.1.columns.length < 2 ∧ LineToks (rowText x.1) x.2) (E : List Leaf)
    (hE : expectLeaves iw 0 [] (rows.map (fun x => (x.1.indent, x.2))) = some E) :
    ∃ text toks, Fmt.renderRows iw (rows.map Prod.fst) = some text ∧
      tokenize tokTable.pats text = .ok toks ∧ toks.map leafOf = E := by
  have hrender := renderRows_lines iw (rows.map Prod.fst)
    (List.forall_mem_map.mpr fun x hx => (hr x hx).1)
  obtain ⟨toks, htoks, hleaves⟩ := tokLines_rows iw hiw rows (fun x hx => (hr x hx).2) 1 0 [] E hE
  refine ⟨_, toks, hrender, ?_, hleaves⟩
  rw [tokenize, splitLines_lines, List.map_map]
  · exact htoks
  · intro l hl c hc
    rw [List.map_map] at hl
    obtain ⟨x, hx, rfl⟩ := List.mem_map.mp hl
    exact lineText_nobreak iw _ (hr x hx).2.nobreak c hc

theorem hModule_eq (iw : Nat) {vc vd vi va vty : Fmt.Fmt} {c d i a : List Fmt.Row} {ty : List (List Fmt.Row)}
    (h1 : Fmt.asRows vc = some c) (h2 : Fmt.asRows vd = some d) (h3 : Fmt.asRows vi = some i)
    (h4 : Fmt.asRows va = some a) (h5 : Fmt.asSections vty = some ty) :
    Fmt.Handler.run iw .module [vc, vd, vi, va, vty] =
      (Fmt.renderRows iw (moduleRows c d i a ty)).map Fmt.Fmt.str := by
  simp only [Fmt.Handler.run, Fmt.hModule, h1, h2, h3, h4, h5, Option.pure_def,
    Option.bind_eq_bind, Option.bind_some, moduleRows]
  cases Fmt.renderRows iw _ <;> rfl

theorem moduleRows_columns (c d i a : List Fmt.Row) (ty : List (List Fmt.Row)) :
    ∀ r ∈ moduleRows c d i a ty, r.columns = [] ∨
      ∃ r' ∈ c ++ d ++ i ++ a ++ ty.flatten, r'.columns = r.columns := by
  intro r hr
  by_cases h0 : r.columns = []
  · exact Or.inl h0
  · have hc : r.columns ∈ Fmt.cols (moduleRows c d i a ty) := Fmt.mem_cols.2 ⟨h0, r, hr, rfl⟩
    rw [moduleRows, Fmt.cols_modulePasses, ← Fmt.cols_flatten] at hc
    obtain ⟨-, r', hr', he⟩ := Fmt.mem_cols.1 hc
    exact Or.inr ⟨r', by simpa using hr', he⟩

theorem tokenize_moduleRows (iw : Nat) (hiw : 0 < iw) (c d i a : List Fmt.Row) (ty : List (List Fmt.Row))
    (lv : List Fmt.Str → List Leaf) (hnil : lv [] = [])
    (hin : ∀ r ∈ c ++ d ++ i ++ a ++ ty.flatten, r.columns.length < 2 ∧ LineToks (rowText r) (lv r.columns))
    (E : List Leaf)
    (hE : expectLeaves iw 0 [] ((moduleRows c d i a ty).map (fun r => (r.indent, lv r.columns))) = some E) :
    ∃ text toks, Fmt.Handler.run iw .module [.rows c, .rows d, .rows i, .rows a, .sections ty] =
        some (.str text) ∧
      tokenize tokTable.pats text = .ok toks ∧ toks.map leafOf = E := by
  have hrows : ∀ x ∈ (moduleRows c d i a ty).map (fun r => (r, lv r.columns)),
      x.1.columns.length < 2 ∧ LineToks (rowText x.1) x.2 := by
    intro x hx
    obtain ⟨r, hr, rfl⟩ := List.mem_map.mp hx
    rcases moduleRows_columns c d i a ty r hr with h | ⟨r', hr', hcols⟩
    · simp only [h, List.length_nil, hnil, rowText, List.flatten_nil]
      exact ⟨by decide, LineToks.nil⟩
    · simpa only [rowText, hcols] using hin r' hr'
  obtain ⟨text, toks, h1, h2, h3⟩ := tokenize_renderRows iw hiw _ hrows E (by
    simpa [List.map_map, Function.comp_def] using hE)
  refine ⟨text, toks, ?_, h2, h3⟩
  rw [hModule_eq iw rfl rfl rfl rfl rfl]
  simp only [List.map_map, Function.comp_def, List.map_id'] at h1
  rw [h1]; rfl

/-- The line number occurs in a cover only inside the tokens. -/
theorem covers_ln {pats : List Pat} {ln s off segs} (ln' : Nat) (h : Covers pats ln s off segs) :
    ∃ segs', Covers pats ln' s off segs' ∧ (tokensOf segs').map leafOf = (tokensOf segs).map leafOf := by
  induction h with
  | nil off => exact ⟨[], .nil off, rfl⟩
  | tok hn hle hb _ ih =>
    obtain ⟨segs', h', e⟩ := ih
    exact ⟨_, .tok hn hle hb h', congrArg (List.cons _) e⟩
  | gap hn hle hb _ ih =>
    obtain ⟨segs', h', e⟩ := ih
    exact ⟨_, .gap hn hle hb h', e⟩

/-- One evaluation of the tokenizer model, at line number 0, is enough. -/
theorem LineToks.of_evalLeaves {s : List Char} {L : List Leaf}
    (hh : headOK s = true) (hl : lastOK s = true) (hb : s.all (fun c => !isBreakChar c) = true)
    (ht : evalLeaves s = some L) : LineToks s L := by
  simp only [evalLeaves] at ht
  split at ht
  · rename_i ts hts
    cases ht
    obtain ⟨segs, hc, rfl⟩ := tokLine_covers hts
    refine ⟨fun y hy => by simpa [headOK, hy] using hh, fun y hy => by simpa [lastOK, hy] using hl,
      fun c hc => by simpa using List.all_eq_true.mp hb c hc, fun ln => ?_⟩
    obtain ⟨segs', hc', e⟩ := covers_ln ln hc
    exact ⟨_, hc'.tokLine_eq _ (Nat.le_refl _), e⟩
  · cases ht

/-- The hypotheses of `LineToks s L`, by evaluation. -/
def lineCheck (s : List Char) (L : List Leaf) : Bool :=
  headOK s && lastOK s && s.all (fun c => !isBreakChar c) && evalLeaves s == some L

theorem LineToks.of_check {s : List Char} {L : List Leaf} (h : lineCheck s L = true) : LineToks s L := by
  simp only [lineCheck, Bool.and_eq_true, beq_iff_eq] at h
  exact LineToks.of_evalLeaves h.1.1.1 h.1.1.2 h.1.2 h.2

theorem rowCheck_sound {r : Fmt.Row} {x : Nat × List Leaf} (h : rowCheck r = some x) :
    r.columns.length < 2 ∧ x.1 = r.indent ∧ LineToks (rowText r) x.2 := by
  simp only [rowCheck, Option.ite_none_right_eq_some, Option.map_eq_some_iff, Bool.and_eq_true] at h
  obtain ⟨hlen, hc, L, he, rfl⟩ := h
  exact ⟨hlen, rfl, LineToks.of_evalLeaves hc.1.1 hc.1.2 hc.2 he⟩

theorem rowsCheck_sound : ∀ (rows : List Fmt.Row) (xs : List (Nat × List Leaf)), rowsCheck rows = some xs →
    ∃ pairs : List (Fmt.Row × List Leaf), pairs.map Prod.fst = rows ∧
      (∀ x ∈ pairs, x.1.columns.length < 2 ∧ LineToks (rowText x.1) x.2) ∧
      pairs.map (fun x => (x.1.indent, x.2)) = xs := by
  intro rows
  induction rows with
  | nil =>
    intro xs h
    simp only [rowsCheck, Option.some.injEq] at h
    subst h
    exact ⟨[], rfl, (by intro x hx; cases hx), rfl⟩
  | cons r rest ih =>
    intro xs h
    simp only [rowsCheck] at h
    split at h
    · rename_i x xr hx hxr
      cases h
      obtain ⟨pairs, hp1, hp2, hp3⟩ := ih xr hxr
      obtain ⟨h1, h2, h3⟩ := rowCheck_sound hx
      refine ⟨(r, x.2) :: pairs, by simp [hp1], ?_, ?_⟩
      · intro y hy
        rcases List.mem_cons.mp hy with rfl | hy
        · exact ⟨h1, h3⟩
        · exact hp2 y hy
      · simp only [List.map_cons, hp3, ← h2]
    · cases h

theorem retokExpect_sound (iw : Nat) (hiw : 0 < iw) (c d i a : List Fmt.Row) (ty : List (List Fmt.Row))
    (E : List Leaf) (h : retokExpect iw c d i a ty = some E) :
    ∃ text toks, Fmt.renderRows iw (moduleRows c d i a ty) = some text ∧
      tokenize tokTable.pats text = .ok toks ∧ toks.map leafOf = E := by
  simp only [retokExpect] at h
  split at h
  · rename_i xs hxs
    obtain ⟨pairs, hp1, hp2, hp3⟩ := rowsCheck_sound _ xs hxs
    exact hp1 ▸ tokenize_renderRows iw hiw pairs hp2 E (by rw [hp3]; exact h)
  · cases h

theorem retokTree_sound (iw : Nat) (hiw : 0 < iw) (t : Fmt.Tree) (E : List Leaf)
    (h : retokTree iw t = some E) :
    ∃ text toks, Fmt.formatTree iw t = some (.str text) ∧
      tokenize tokTable.pats text = .ok toks ∧ toks.map leafOf = E := by
  cases t with
  | tok s x => simp [retokTree] at h
  | node p cs =>
    simp only [retokTree] at h
    split at h
    · rename_i hp
      split at h
      · rename_i vc vd vi va vty hargs
        split at h
        · rename_i c d i a ty h1 h2 h3 h4 h5
          obtain ⟨text, toks, hm, h2', h3'⟩ := retokExpect_sound iw hiw c d i a ty E h
          refine ⟨text, toks, ?_, h2', h3'⟩
          rw [Fmt.formatTree, Fmt.handlerAt_fold hp, hargs, Option.bind_some,
            hModule_eq iw h1 h2 h3 h4 h5, hm]
          rfl
        · cases h
      · cases h
    · cases h

end Emboss.FmtTok
