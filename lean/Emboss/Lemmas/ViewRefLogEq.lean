/-
C20: the generated `Equals` is the recursive logical equality `LogEq` of the reference semantics
(structures whose fields are scalars or structures / `bits`, nested at any depth).
-/
import Emboss.Lemmas.ViewRefComplete
import Emboss.Lemmas.Equals
namespace Emboss.ViewRef
open Emboss.View

theorem paramsAgree_iff (wa wb : SView) :
    (wa.sd.params.isEmpty ||
      (match wa.params, wb.params with
       | some pa, some pb => pa == pb
       | none, none => true
       | _, _ => false)) = true ↔ ParamsAgree wa wb := by
  unfold ParamsAgree
  simp only [Bool.or_eq_true, List.isEmpty_iff]
  refine or_congr Iff.rfl ?_
  cases wa.params <;> cases wb.params <;> simp

/-- the shape of a per-field clause of `Equals`: both presences known and equal, and if present
the comparison `X` of the field views -/
theorem clause_iff {ha hb : Option Bool} {X : Bool} {A B : Bool → Prop} {Y : Prop}
    (hA : ∀ c, ha = some c ↔ A c) (hB : ∀ c, hb = some c ↔ B c)
    (hX : ha = some true → hb = some true → (X = true ↔ Y)) :
    (match (generalizing := false) ha, hb with
     | some a, some b => a == b && (!a || X)
     | _, _ => false) = true ↔ ∃ c, A c ∧ B c ∧ (c = true → Y) := by
  constructor
  · intro h
    cases ha with
    | none => cases h
    | some a =>
      cases hb with
      | none => cases h
      | some b =>
        simp only [Bool.and_eq_true, beq_iff_eq, Bool.or_eq_true, Bool.not_eq_true'] at h
        obtain ⟨rfl, hx⟩ := h
        refine ⟨a, (hA a).mp rfl, (hB a).mp rfl, ?_⟩
        rintro rfl
        exact (hX rfl rfl).mp (hx.resolve_left Bool.noConfusion)
  · rintro ⟨c, ac, bc, hy⟩
    obtain rfl := (hA c).mpr ac
    obtain rfl := (hB c).mpr bc
    cases c with
    | false => rfl
    | true => simp only [(hX rfl rfl).mpr (hy rfl), beq_self_eq_true, Bool.or_true, Bool.and_self]

theorem both_eq_iff {ra rb : Option Val} {A B : Val → Prop}
    (hA : ∀ v, ra = some v ↔ A v) (hB : ∀ v, rb = some v ↔ B v) :
    (match (generalizing := false) ra, rb with
     | some x, some y => x == y
     | _, _ => false) = true ↔ ∃ v, A v ∧ B v := by
  constructor
  · intro h
    cases ra with
    | none => cases h
    | some x =>
      cases rb with
      | none => cases h
      | some y => exact ⟨x, (hA x).mp rfl, (hB x).mp (by rw [eq_of_beq h])⟩
  · rintro ⟨v, av, bv⟩
    obtain rfl := (hA v).mpr av
    obtain rfl := (hB v).mpr bv
    exact beq_self_eq_true v

/-- `Equals` one level down: the parameters, then the clause of every physical field -/
theorem viewEquals_succ_iff {o : Oracle} {m : Module} {k : Nat} {wa wb : SView} {Q : Field → Prop}
    (h : ∀ f ∈ wa.sd.fields, ∀ start size ty bo, f.kind = .phys start size ty bo →
      (fieldEquals o m (viewEquals o m k) wa wb f = true ↔ Q f)) :
    viewEquals o m (k + 1) wa wb = true ↔
      ParamsAgree wa wb ∧ ∀ f ∈ wa.sd.fields, isPhys f = true → Q f := by
  simp only [viewEquals, Bool.and_eq_true, List.all_eq_true]
  refine and_congr (paramsAgree_iff wa wb) (forall_congr' fun f => forall_congr' fun hfm => ?_)
  cases hk : f.kind with
  | alias t => simp only [fieldEquals, hk, isPhys, Bool.false_eq_true, false_implies]
  | virt v r => simp only [fieldEquals, hk, isPhys, Bool.false_eq_true, false_implies]
  | phys start size ty bo =>
    simp only [isPhys, hk, forall_const]
    exact h f hfm start size ty bo hk

section clauses
variable (m : Module) {P : StructDef → Prop} (hm : Closed m P) (hwfm : moduleWF m = true)
  (n : Nat) (wa wb : SView) (hsd : wb.sd = wa.sd) (hP : P wa.sd)
  (hwa : viewWF wa = true) (hwb : viewWF wb = true) {f : Field}
  (hf : wa.sd.field f.name = some f)
include hm hwfm hsd hP hwa hwb hf

theorem scalarClause_iff {start size : Expr} {k : ScalarKind} {bits : Nat}
    {req : Option Expr} {bo : ByteOrder} (hk : f.kind = .phys start size (.scalar k bits req) bo)
    (hn : need m (n + 1) wa.sd [f.name] = true) {eqv : SView → SView → Bool} :
    fieldEquals (G m n) m eqv wa wb f = true ↔
      ∃ c, RFact m wa (.pres [f.name] c) ∧ RFact m wb (.pres [f.name] c) ∧
        (c = true → ∃ v, RFact m wa (.val [f.name] v) ∧ RFact m wb (.val [f.name] v)) := by
  obtain ⟨hRA, hHA⟩ := G_iff m hm hwfm (n + 1) wa hP hwa hn
  obtain ⟨hRB, hHB⟩ := G_iff m hm hwfm (n + 1) wb (hsd ▸ hP) hwb (hsd ▸ hn)
  rw [fieldEquals_scalar m n wa wb hsd _ hf hk]
  exact clause_iff hHA hHB fun _ _ => both_eq_iff hRA hRB

theorem structClause_iff {start size : Expr} {name : String} {bits : Nat} {args : Exprs}
    {bo : ByteOrder} (hk : f.kind = .phys start size (.struct name bits args) bo)
    (hn : need m (n + 1) wa.sd [f.name] = true) {eqv : SView → SView → Bool}
    {Q : SView → SView → Prop}
    (ih : ∀ wa' wb', P wa'.sd → wb'.sd = wa'.sd → viewWF wa' = true → viewWF wb' = true →
      (eqv wa' wb' = true ↔ Q wa' wb')) :
    fieldEquals (G m n) m eqv wa wb f = true ↔
      ∃ c, RFact m wa (.pres [f.name] c) ∧ RFact m wb (.pres [f.name] c) ∧
        (c = true → ∃ wa' wb', SubViewR m wa f.name wa' ∧ SubViewR m wb f.name wb' ∧ Q wa' wb') := by
  have hPb : P wb.sd := hsd ▸ hP
  have hnb : need m (n + 1) wb.sd [f.name] = true := hsd ▸ hn
  have hfb : wb.sd.field f.name = some f := hsd ▸ hf
  have FA := G_sound m hm n wa hP hwa
  have FB := G_sound m hm n wb hPb hwb
  have RA := G_reports m hm hwfm n wa hP hwa
  have RB := G_reports m hm hwfm n wb hPb hwb
  have hra := hm.ref _ hP
  have hrb := hm.ref _ hPb
  have hHA : ∀ c, hasField (G m n) wa f = some c ↔ RFact m wa (.pres [f.name] c) := fun c =>
    ⟨pres_sound hra FA hf, hasField_complete hra RA hf hn⟩
  have hHB : ∀ c, hasField (G m n) wb f = some c ↔ RFact m wb (.pres [f.name] c) := fun c =>
    ⟨pres_sound hrb FB hfb, hasField_complete hrb RB hfb hnb⟩
  -- Both directions go through `hsubs`: what the accessors return over real storage are R's
  -- `SubViewR` views (`realSub_sound`), and any `SubViewR` view is what the accessor returns
  -- (`realSub_complete`).
  have hsubs : ∀ wa' wb', realSub (G m n) m wa f start size name bits args bo = some wa' →
      realSub (G m n) m wb f start size name bits args bo = some wb' →
      SubViewR m wa f.name wa' ∧ SubViewR m wb f.name wb' ∧ (eqv wa' wb' = true ↔ Q wa' wb') := by
    intro wa' wb' ha hb
    obtain ⟨sa, _, wfa, fda, pa⟩ := realSub_sound hm hP hwa FA hf hk ha
    obtain ⟨sb, _, wfb, fdb, _⟩ := realSub_sound hm hPb hwb FB hfb hk hb
    exact ⟨sa, sb, ih wa' wb' pa (Option.some.inj (fda.symm.trans fdb)).symm wfa wfb⟩
  rw [fieldEquals_struct _ _ _ _ _ _ hk]
  refine clause_iff hHA hHB fun ha hb => ⟨fun hX => ?_, fun ⟨wa', wb', sa, sb, hQ⟩ => ?_⟩
  · split at hX
    · next wa' wb' hRA hRB =>
      obtain ⟨sa, sb, hiff⟩ := hsubs wa' wb' hRA hRB
      exact ⟨wa', wb', sa, sb, hiff.mp hX⟩
    · cases hX
  · obtain ⟨hRA, _⟩ := realSub_complete hra RA hf hn hwa hk ((hHA true).mp ha) sa
    obtain ⟨hRB, _⟩ := realSub_complete hrb RB hfb hnb hwb hk ((hHB true).mp hb) sb
    rw [hRA, hRB]
    exact (hsubs wa' wb' hRA hRB).2.2.mpr hQ

end clauses

theorem namesUnique_of_nodup {sd : StructDef} (h : (sd.fields.map Field.name).Nodup) :
    namesUnique sd := by
  unfold namesUnique StructDef.field
  generalize sd.fields = fs at h
  induction fs with
  | nil => intro f hf; cases hf
  | cons g gs ih =>
    rw [List.map_cons, List.nodup_cons] at h
    intro f hf
    rcases List.mem_cons.mp hf with rfl | hf'
    · simp only [List.find?_cons, beq_self_eq_true]
    · have hne : (g.name == f.name) = false :=
        beq_eq_false_iff_ne.mpr fun heq => h.1 (heq ▸ List.mem_map_of_mem hf')
      simp only [List.find?_cons, hne]
      exact ih h.2 f hf'

/-- side conditions of `viewEquals_iff_logEq`, for a family `P` of structures closed under "type
of a field" (`Closed`): the decidable per-structure hypotheses of the refinement, plus unique
field names, no array fields, and fuel covering every field.  Instances: all structures of a
module (`closed_of_refModule`; `exNest2_ok` in Properties/C20.lean is built so), or the structures
reachable from one structure (`closed_reach`). -/
structure ModOK (m : Module) (n : Nat) (P : StructDef → Prop) : Prop where
  closed : Closed m P
  wf : moduleWF m = true
  uniq : ∀ sd, P sd → namesUnique sd
  noarr : ∀ sd, P sd → noArrayFields sd = true
  fuel : ∀ sd, P sd → ∀ f ∈ sd.fields, need m (n + 1) sd [f.name] = true

theorem viewEquals_iff_logEq (m : Module) (n : Nat) {P : StructDef → Prop} (h : ModOK m n P) :
    ∀ (k : Nat) (wa wb : SView), P wa.sd → wb.sd = wa.sd → viewWF wa = true →
      viewWF wb = true → (viewEquals (G m n) m k wa wb = true ↔ LogEq m k wa wb)
  | 0, wa, wb, _, _, _, _ => by simp [viewEquals, LogEq]
  | k + 1, wa, wb, hP, hsd, hwa, hwb => by
    have ih := viewEquals_iff_logEq m n h k
    refine viewEquals_succ_iff fun f hfm start size ty bo hk => ?_
    have hf := h.uniq _ hP f hfm
    have hn := h.fuel _ hP f hfm
    rw [hk]
    cases ty with
    | array el es =>
      have := List.all_eq_true.mp (h.noarr _ hP) f hfm
      rw [hk] at this
      cases this
    | scalar kk bits req =>
      exact scalarClause_iff m h.closed h.wf n wa wb hsd hP hwa hwb hf hk hn
    | struct name bits args =>
      exact structClause_iff m h.closed h.wf n wa wb hsd hP hwa hwb hf hk hn ih

end Emboss.ViewRef
