/-
When does leftmost-greedy backtracking return the *longest* match of the pattern's language
(C10)?  Whenever every choice the matcher prefers loses nothing against the one it defers
(`Compat`): the preferred branch, if it leads to a match at all, leads to one at least as
long (`NoLoss`).  Proved once, by induction on the regex with the rest of the pattern as a
parameter (`dominates_seq`); the rows of the tokenizer table then need facts about their
languages only.  Last, for a pattern with that property (`PriorityIsLongest`): when appending
text to the input does not change the answer (`matchLen_congr`, `matchLen_append_local`).
-/
import Emboss.Lemmas.RegexLang
namespace Emboss.Regex

/-- One step of a repetition whose body is not nullable: the progress check never fires. -/
theorem matchK_seq_rep {r : Regex} (hr : nullable r = false) (mn : Nat) (mx : Option Nat)
    (R : Regex) (s : List Char) (k : List Char → MRes) :
    matchK (.seq (.rep r mn mx) R) s k =
      if mx = some 0 then (if mn = 0 then matchK R s k else .fail)
      else
        match matchK (.seq r (.seq (.rep r (mn - 1) (mx.map (· - 1))) R)) s k with
        | .fail => if mn = 0 then matchK R s k else .fail
        | x => x := by
  rw [matchK_seq, matchK_rep]
  congr 2
  refine matchK_congr r s _ _ fun p t hs hl => if_pos ?_
  rw [hs, List.length_append]
  exact Nat.lt_add_of_pos_left (List.length_pos_iff.mpr (lang_ne_nil hl hr))

/-! ### Backtracking against the longest match -/

/-- The matcher's answer on `s` ends no earlier than any match of `r`'s language.  `s` is what
is left of a text of length `N`, and the continuation is `matchLen`'s for the whole text: so
`matchK (.seq a R) s k` unfolds with `k` unchanged, and lengths count from the start. -/
def Dominates (N : Nat) (r : Regex) (s : List Char) : Prop :=
  ∀ p q, s = p ++ q → Lang r p q →
    ∃ n, matchK r s (fun rest => .ok (N - rest.length)) = .ok n ∧ N - q.length ≤ n

def NoLoss (A B : Regex) : Prop :=
  ∀ p q p' q', p ++ q = p' ++ q' → Lang A p q → Lang B p' q' →
    ∃ p'' q'', p'' ++ q'' = p ++ q ∧ Lang A p'' q'' ∧ p'.length ≤ p''.length

/-- `r` followed by `R`: every choice inside `r` prefers a branch that loses nothing.  An
alternation tries the left side first; a repetition (body not nullable) tries one more
iteration before it stops. -/
def Compat : Regex → Regex → Prop
  | .eps, _ | .chr _, _ | .eol, _ => True
  | .seq a b, R => Compat b R ∧ Compat a (.seq b R)
  | .alt a b, R => Compat a R ∧ Compat b R ∧ NoLoss (.seq a R) (.seq b R)
  | .rep r _ _, R => nullable r = false ∧ (∀ mn mx, Compat r (.seq (.rep r mn mx) R)) ∧
      ∀ mx, NoLoss (.seq r (.seq (.rep r 0 mx) R)) R

theorem dominates_orElse {N : Nat} {A B C : Regex} {s : List Char}
    (hval : ∀ k, matchK C s k = match matchK A s k with | .fail => matchK B s k | x => x)
    (hlang : ∀ p q, Lang C p q → Lang A p q ∨ Lang B p q)
    (hA : Dominates N A s) (hB : Dominates N B s) (hno : NoLoss A B) : Dominates N C s := by
  intro p q hs hl
  rcases hlang p q hl with hl | hl
  · obtain ⟨n, hn, hle⟩ := hA p q hs hl
    exact ⟨n, by rw [hval, hn], hle⟩
  · obtain ⟨nB, hnB, hle⟩ := hB p q hs hl
    cases hmA : matchK A s (fun rest => .ok (N - rest.length)) with
    | fail => exact ⟨nB, by rw [hval, hmA, hnB], hle⟩
    | fuel =>
      obtain ⟨_, _, _, _, hk⟩ := matchK_handsOn hmA MRes.noConfusion
      cases hk
    | ok n =>
      refine ⟨n, by rw [hval, hmA], ?_⟩
      -- `A` has a match at all, so it has one as long as `p`, which the answer `n` dominates
      obtain ⟨pA, qA, hsA, hlA, _⟩ := matchK_handsOn hmA MRes.noConfusion
      obtain ⟨p'', q'', hs'', hl'', hle''⟩ := hno pA qA p q (hsA.symm.trans hs) hlA hl
      obtain ⟨n'', hn'', hle'⟩ := hA p'' q'' (hs''.trans hsA.symm).symm hl''
      rw [hmA] at hn''
      cases hn''
      -- `p''` is at least as long as `p`, so `q''` is no longer than `q`
      have hq : q''.length ≤ q.length := by
        have := congrArg List.length (hs''.trans (hsA.symm.trans hs))
        simp only [List.length_append] at this
        omega
      exact Nat.le_trans (Nat.sub_le_sub_left hq N) hle'

theorem dominates_seq {N : Nat} (r : Regex) : ∀ (R : Regex) (s : List Char), Compat r R →
    (∀ p t, s = p ++ t → Lang r p t → Dominates N R t) → Dominates N (.seq r R) s := by
  induction r with
  | eps =>
    intro R s _ hR p q hs hl
    obtain ⟨u, v, rfl, h1, h2⟩ := lang_seq_iff.mp hl
    obtain rfl := lang_eps_iff.mp h1
    exact hR [] s rfl (.eps s) v q hs h2
  | chr c =>
    intro R s _ hR p q hs hl
    obtain ⟨u, v, rfl, h1, h2⟩ := lang_seq_iff.mp hl
    obtain ⟨x, rfl, hx⟩ := lang_chr_iff.mp h1
    obtain rfl : s = x :: (v ++ q) := hs
    obtain ⟨n, hn, hle⟩ := hR [x] (v ++ q) rfl h1 v q rfl h2
    exact ⟨n, (if_pos hx).trans hn, hle⟩
  | eol =>
    intro R s _ hR p q hs hl
    obtain ⟨u, v, rfl, h1, h2⟩ := lang_seq_iff.mp hl
    obtain ⟨rfl, he⟩ := lang_eol_iff.mp h1
    obtain rfl : s = v ++ q := hs
    obtain ⟨n, hn, hle⟩ := hR [] _ rfl h1 v q rfl h2
    exact ⟨n, (if_pos he).trans hn, hle⟩
  | seq a b iha ihb =>
    intro R s hc hR p q hs hl
    exact iha (.seq b R) s hc.2 (fun p1 t hs1 h1 => ihb R t hc.1 fun p2 u hs2 h2 =>
      hR (p1 ++ p2) u (by rw [hs1, hs2, List.append_assoc]) (.seq (hs2 ▸ h1) h2)) p q hs (lang_seq_assoc hl)
  | alt a b iha ihb =>
    intro R s hc hR
    refine dominates_orElse (A := .seq a R) (B := .seq b R) (fun _ => rfl) ?_
      (iha R s hc.1 fun p t hs h => hR p t hs (.altL h))
      (ihb R s hc.2.1 fun p t hs h => hR p t hs (.altR h)) hc.2.2
    intro p q hl
    obtain ⟨u, v, rfl, h1, h2⟩ := lang_seq_iff.mp hl
    exact (lang_alt_iff.mp h1).imp (fun h => .seq h h2) (fun h => .seq h h2)
  | rep r mn mx ih =>
    intro R s hc
    obtain ⟨hr, hcr, hno⟩ := hc
    generalize hL : s.length = L
    induction L using Nat.strongRecOn generalizing s mn mx with
    | _ L ihL =>
      intro hR
      by_cases hmx : mx = some 0
      · intro p q hs hl
        obtain ⟨u, v, rfl, h1, h2⟩ := lang_seq_iff.mp hl
        rcases lang_rep_iff.mp h1 with ⟨rfl, rfl⟩ | ⟨h, _⟩
        · rw [matchK_seq_rep hr, if_pos hmx, if_pos rfl]
          exact hR [] s rfl .repStop v q hs h2
        · exact absurd hmx h
      · have hval := fun k => (matchK_seq_rep hr mn mx R s k).trans (if_neg hmx)
        -- after one iteration of a body that is not nullable the text is strictly shorter
        have hiter : Dominates N (.seq r (.seq (.rep r (mn - 1) (mx.map (· - 1))) R)) s := by
          refine ih _ s (hcr _ _) fun p t hs hl => ?_
          refine ihL t.length ?_ _ _ t rfl fun p' u hs' hl' =>
            hR (p ++ p') u (by rw [hs, hs', List.append_assoc]) (.repIter hmx (hs' ▸ hl) hl')
          rw [← hL, hs, List.length_append]
          exact Nat.lt_add_of_pos_left (List.length_pos_iff.mpr (lang_ne_nil hl hr))
        by_cases hmn : mn = 0
        · subst hmn
          refine dominates_orElse hval ?_ hiter (hR [] s rfl .repStop) (hno _)
          intro p q hl
          obtain ⟨u, v, rfl, h1, h2⟩ := lang_seq_iff.mp hl
          rcases lang_rep_iff.mp h1 with ⟨_, rfl⟩ | ⟨_, u1, u2, rfl, h3, h4⟩
          · exact .inr h2
          · rw [List.append_assoc]
            exact .inl (.seq ((List.append_assoc u2 v q).symm ▸ h3) (.seq h4 h2))
        · intro p q hs hl
          obtain ⟨u, v, rfl, h1, h2⟩ := lang_seq_iff.mp hl
          rcases lang_rep_iff.mp h1 with ⟨h, _⟩ | ⟨_, u1, u2, rfl, h3, h4⟩
          · exact absurd h hmn
          · rw [List.append_assoc u1 u2 v] at hs
            obtain ⟨n, hn, hle⟩ := hiter _ q hs (.seq ((List.append_assoc u2 v q).symm ▸ h3) (.seq h4 h2))
            exact ⟨n, by rw [hval, hn], hle⟩

/-! ### Ways to see that a choice loses nothing -/

theorem noLoss_of_excl {A B : Regex}
    (h : ∀ p q p' q', p ++ q = p' ++ q' → Lang A p q → Lang B p' q' → p' = []) : NoLoss A B :=
  fun p q p' q' hs hA hB => ⟨p, q, rfl, hA, by rw [h p q p' q' hs hA hB]; exact Nat.zero_le _⟩

theorem noLoss_of_heads {A B : Regex} {P Q : Char → Prop} (hn : nullable A = false) (hA : Heads A P)
    (hB : Heads B Q) (hPQ : ∀ x, P x → Q x → False) : NoLoss A B := by
  refine noLoss_of_excl fun p q p' q' hs hlA hlB => ?_
  cases p with
  | nil => exact absurd rfl (lang_ne_nil hlA hn)
  | cons x p =>
    cases p' with
    | nil => rfl
    | cons y p' =>
      obtain ⟨rfl, _⟩ := List.cons.inj hs
      exact (hPQ x (hA _ _ hlA x rfl) (hB _ _ hlB x rfl)).elim

def Extends (A : Regex) (c : CClass) : Prop :=
  ∀ p e q, Lang A p (e ++ q) → e.all c.mem = true → Lang A (p ++ e) q

theorem extends_star (c : CClass) (mn : Nat) : Extends (.rep (.chr c) mn none) c := fun p e q hl he => by
  obtain ⟨h1, h2, _⟩ := lang_rep_chr_iff.mp hl
  exact lang_rep_chr_iff.mpr ⟨by rw [List.all_append, h1, he]; rfl,
    by rw [List.length_append]; omega, nofun⟩

theorem extends_seq {a b : Regex} {c : CClass} (hb : Extends b c) : Extends (.seq a b) c :=
  fun _ e q hl he => by
    obtain ⟨u, v, rfl, h1, h2⟩ := lang_seq_iff.mp hl
    rw [List.append_assoc]
    exact .seq ((List.append_assoc v e q).symm ▸ h1) (hb v e q h2 he)

theorem extends_seq_eps {a : Regex} {c : CClass} (ha : Extends a c) : Extends (.seq a .eps) c :=
  fun p e q hl he => lang_seq_eps_iff.mpr (ha p e q (lang_seq_eps_iff.mp hl) he)

/-- `A` ends in `c*` and `B` matches characters of `c` only: where a match of `A` is shorter than
one of `B`, it can be prolonged to the same length. -/
theorem noLoss_of_extends {A B : Regex} {c : CClass} (hA : Extends A c)
    (hB : ∀ p q, Lang B p q → p.all c.mem = true) : NoLoss A B := by
  intro p q p' q' hs hlA hlB
  by_cases hle : p'.length ≤ p.length
  · exact ⟨p, q, rfl, hlA, hle⟩
  · obtain ⟨e, rfl⟩ : p <+: p' :=
      List.prefix_of_prefix_length_le (List.prefix_append p q) (hs ▸ List.prefix_append p' q')
        (Nat.le_of_not_le hle)
    rw [List.append_assoc] at hs
    obtain rfl := List.append_cancel_left hs
    have he := hB _ _ hlB
    rw [List.all_append, Bool.and_eq_true] at he
    exact ⟨p ++ e, q', List.append_assoc .., hA p e q' hlA he.2, Nat.le_refl _⟩

/-! ### `Compat`, rule by rule -/

theorem Compat.seq {a b R : Regex} (hb : Compat b R) (ha : Compat a (.seq b R)) : Compat (.seq a b) R :=
  ⟨hb, ha⟩

theorem Compat.chr_seq {c : CClass} {b R : Regex} (hb : Compat b R) : Compat (.seq (.chr c) b) R :=
  ⟨hb, trivial⟩

theorem Compat.alt {a b R : Regex} (ha : Compat a R) (hb : Compat b R)
    (hno : NoLoss (.seq a R) (.seq b R)) : Compat (.alt a b) R :=
  ⟨ha, hb, hno⟩

theorem Compat.rep {r R : Regex} {mn : Nat} {mx : Option Nat} (hr : nullable r = false)
    (hc : ∀ mn mx, Compat r (.seq (.rep r mn mx) R))
    (hno : ∀ mx, NoLoss (.seq r (.seq (.rep r 0 mx) R)) R) : Compat (.rep r mn mx) R :=
  ⟨hr, hc, hno⟩

theorem Compat.rep_chr {c : CClass} {R : Regex} {mn : Nat} {mx : Option Nat}
    (hno : ∀ mx, NoLoss (.seq (.chr c) (.seq (.rep (.chr c) 0 mx) R)) R) : Compat (.rep (.chr c) mn mx) R :=
  .rep rfl (fun _ _ => trivial) hno

/-- At the end of the pattern stopping gives the empty match, which loses against anything. -/
theorem noLoss_eps (A : Regex) : NoLoss A .eps :=
  noLoss_of_excl fun _ _ _ _ _ _ h => lang_eps_iff.mp h

theorem compat_rep_chr_tail (c : CClass) (mn : Nat) (mx : Option Nat) : Compat (.rep (.chr c) mn mx) .eps :=
  .rep_chr fun _ => noLoss_eps _

/-! ### The matcher's answer against the language's longest match -/

/-- Python's leftmost-greedy-backtracking answer is the longest match: it is no shorter than any
match of the language (that it is itself a match, and never `fuel`, holds of every pattern). -/
def PriorityIsLongest (r : Regex) : Prop :=
  ∀ s m, MatchesLen r s m → ∃ n, matchLen r s = .ok n ∧ m ≤ n

theorem PriorityIsLongest.bound {r : Regex} {s : List Char} {m : Nat} (h : PriorityIsLongest r)
    (hm : MatchesLen r s m) : ∃ n, matchLen r s = .ok n ∧ m ≤ n :=
  h s m hm

theorem PriorityIsLongest.ok_iff {r : Regex} {s : List Char} {n : Nat} (h : PriorityIsLongest r) :
    matchLen r s = .ok n ↔ (MatchesLen r s n ∧ ∀ m, MatchesLen r s m → m ≤ n) := by
  constructor
  · intro hn
    refine ⟨matchLen_sound r s n hn, fun m hm => ?_⟩
    obtain ⟨n', hn', hle⟩ := h s m hm
    rw [hn] at hn'; cases hn'; exact hle
  · intro ⟨h1, h2⟩
    obtain ⟨n', hn', hle⟩ := h s n h1
    rw [hn', Nat.le_antisymm (h2 n' (matchLen_sound r s n' hn')) hle]

theorem PriorityIsLongest.fail_iff {r : Regex} {s : List Char} (h : PriorityIsLongest r) :
    matchLen r s = .fail ↔ ∀ m, ¬ MatchesLen r s m := by
  constructor
  · intro hf m hm
    obtain ⟨n, hn, _⟩ := h s m hm
    rw [hf] at hn; cases hn
  · intro hno
    cases hr : matchLen r s with
    | ok n => exact absurd (matchLen_sound r s n hr) (hno n)
    | fail => rfl
    | fuel => exact absurd hr (matchLen_no_fuel r s)

theorem longest_of_compat {r : Regex} (h : Compat r .eps) : PriorityIsLongest r := fun s m hm => by
  obtain ⟨p, q, hs, rfl, hl⟩ := matchesLen_iff.mp hm
  obtain ⟨n, hn, hle⟩ := dominates_seq (N := s.length) r .eps s h
    (fun _ t _ _ p q ht hl => ⟨_, rfl, by rw [ht, lang_eps_iff.mp hl]; exact Nat.le_refl _⟩)
    p q hs (lang_seq_eps_iff.mpr hl)
  refine ⟨n, hn, ?_⟩
  rw [hs, List.length_append, Nat.add_sub_cancel] at hle
  exact hle

/-! ### When appending text does not change the answer -/

theorem matchLen_congr {r : Regex} {s s' : List Char} (h : PriorityIsLongest r)
    (e : ∀ m, MatchesLen r s m ↔ MatchesLen r s' m) : matchLen r s' = matchLen r s := by
  cases hr : matchLen r s with
  | ok n =>
    obtain ⟨h1, h2⟩ := (PriorityIsLongest.ok_iff h).mp hr
    exact (PriorityIsLongest.ok_iff h).mpr ⟨(e n).mp h1, fun m hm => h2 m ((e m).mpr hm)⟩
  | fail =>
    exact (PriorityIsLongest.fail_iff h).mpr fun m hm => (PriorityIsLongest.fail_iff h).mp hr m ((e m).mpr hm)
  | fuel => exact absurd hr (matchLen_no_fuel _ _)

theorem matchLen_both_fail {r : Regex} {s s' : List Char} (h : PriorityIsLongest r)
    (h1 : ∀ m, ¬ MatchesLen r s m) (h2 : ∀ m, ¬ MatchesLen r s' m) : matchLen r s' = matchLen r s :=
  matchLen_congr h (fun m => ⟨fun x => absurd x (h1 m), fun x => absurd x (h2 m)⟩)

theorem matchesLen_append {r : Regex} {u : List Char} (v : List Char) {m : Nat} (hn : noEol r = true)
    (hle : m ≤ u.length) : MatchesLen r (u ++ v) m ↔ MatchesLen r u m := by
  simp only [MatchesLen, List.take_append_of_le_length hle, List.length_append]
  exact ⟨fun h => ⟨hle, lang_noEol h.2 hn _⟩, fun h => ⟨Nat.le_add_right_of_le hle, lang_noEol h.2 hn _⟩⟩

theorem matchLen_append_local {r : Regex} {u v : List Char} (hn : noEol r = true)
    (h : PriorityIsLongest r) (hx : ∀ m, u.length < m → ¬ MatchesLen r (u ++ v) m) :
    matchLen r (u ++ v) = matchLen r u := by
  refine matchLen_congr h fun m => ?_
  by_cases hlt : u.length < m
  · exact ⟨fun hm => absurd hm.1 (Nat.not_le.mpr hlt), fun hm => absurd hm (hx m hlt)⟩
  · exact (matchesLen_append v hn (Nat.le_of_not_lt hlt)).symm

end Emboss.Regex
