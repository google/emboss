/-
Helper lemmas for C06 (reader ∘ writer): a *cursor* `At r k ps` says that the reader, positioned
at the character list `r`, sees exactly the well separated piece list `ps` (written after a piece
of kind `k`) — up to the white space and comments `DiscardWhitespace` drops.  Every entry point
of the reader model (`readToken`, the peeks of `readElems`) starts with `discardWs false`, so
a cursor is all a reader function needs to know.  Step lemmas: skipping non-token pieces,
reading a word, reading a punctuation character.  The steps run over a whole piece list give the
tokenizer's half of `C06_tokens_roundtrip` (`tokens_at`, `tokens_of_wellSep`).
-/
import Emboss.Lemmas.TextWrite
namespace Emboss.Text

structure At (r : List Char) (k : Kind) (ps : List Piece) : Prop where
  ws : WellSep k ps
  sees : discardWs false r = discardWs (decide (k = .comment)) (render ps)

theorem At.of_peek {r r' : List Char} {k : Kind} {ps : List Piece} (h : At r k ps)
    (hr : discardWs false r = r') : At r' k ps :=
  ⟨h.ws, by rw [← hr, discardWs_idem]; exact h.sees⟩

theorem At.start {k : Kind} {ps : List Piece} (h : WellSep k ps) (hk : k ≠ .comment) :
    At (render ps) k ps := ⟨h, by simp [hk]⟩

theorem At.skip_space {r : List Char} {k : Kind} {s : List Char} {ps : List Piece}
    (h : At r k (.space s :: ps)) : At r .other ps := by
  obtain ⟨⟨hv, hok, hrest⟩, hs⟩ := h
  exact ⟨hrest, hs.trans (discardWs_space_piece k s (render ps) hv hok)⟩

theorem At.skip_comment {r : List Char} {k : Kind} {b : List Char} {ps : List Piece}
    (h : At r k (.comment b :: ps)) : At r .comment ps := by
  obtain ⟨⟨hv, hok, hrest⟩, hs⟩ := h
  refine ⟨hrest, ?_⟩
  rw [hs, decide_eq_false (ne_comment_of_okAfter hok (fun _ h => nomatch h))]
  exact discardWs_comment b (render ps) hv

theorem At.skip {r : List Char} : ∀ {a : List Piece} {k : Kind} {ps : List Piece}, toks a = [] →
    At r k (a ++ ps) → At r (lastKind k a) ps := by
  intro a
  induction a with
  | nil => intro k ps _ h; exact h
  | cons p a ih =>
    intro k ps ht h
    cases p with
    | word w => simp [toks] at ht
    | punct c => simp [toks] at ht
    | space s =>
      have := ih (k := .other) (ps := ps) (by simpa [toks] using ht) h.skip_space
      simpa [lastKind, Piece.kind] using this
    | comment b =>
      have := ih (k := .comment) (ps := ps) (by simpa [toks] using ht) h.skip_comment
      simpa [lastKind, Piece.kind] using this

theorem At.punct {r : List Char} {k : Kind} {c : Char} {ps : List Piece}
    (h : At r k (.punct c :: ps)) :
    readToken r = ([c], render ps) ∧ discardWs false r = c :: render ps ∧ At (render ps) .other ps := by
  obtain ⟨⟨hv, hok, hrest⟩, hs⟩ := h
  rw [decide_eq_false (ne_comment_of_okAfter hok (fun _ h => nomatch h))] at hs
  have hpeek := hs.trans (discardWs_punct c _ hv)
  exact ⟨readToken_punct c _ hv hpeek, hpeek, At.start hrest (by simp)⟩

theorem At.word {r : List Char} {k : Kind} {w : List Char} {ps : List Piece}
    (h : At r k (.word w :: ps)) :
    readToken r = (w, render ps) ∧ discardWs false r = w ++ render ps ∧ At (render ps) .word ps := by
  obtain ⟨⟨hv, hok, hrest⟩, hs⟩ := h
  rw [decide_eq_false (ne_comment_of_okAfter hok (fun _ h => nomatch h))] at hs
  have hpeek := hs.trans (discardWs_word w _ hv)
  exact ⟨readToken_word w ps hv hrest hpeek, hpeek, At.start hrest (by simp)⟩

theorem At.ws_left {r : List Char} {k : Kind} {a b : List Piece} (h : At r k (a ++ b)) :
    WellSep k a ∧ WellSep (lastKind k a) b := (wellSep_append a b k).mp h.ws

theorem tokens_at : ∀ (ps : List Piece) {r : List Char} {k : Kind} (fuel : Nat), At r k ps →
    (toks ps).length < fuel → tokensAuxFrom false fuel r = some (toks ps) := by
  intro ps
  induction ps with
  | nil =>
    intro r k fuel h hf
    cases fuel with
    | zero => exact absurd hf (Nat.not_lt_zero _)
    | succ n =>
      have : discardWs false r = [] := h.sees
      simp [tokensAuxFrom, readTokenFrom, this, toks]
  | cons p ps ih =>
    intro r k fuel h hf
    cases fuel with
    | zero => exact absurd hf (Nat.not_lt_zero _)
    | succ n =>
      cases p with
      | space s => exact ih (n + 1) h.skip_space hf
      | comment b => exact ih (n + 1) h.skip_comment hf
      | word w =>
        obtain ⟨hr, _, h1⟩ := h.word
        cases w with
        | nil => exact absurd rfl h.ws.1.1
        | cons c w =>
          rw [tokensAuxFrom, ← readToken, hr]
          exact congrArg (Option.map _) (ih n h1 (Nat.lt_of_succ_lt_succ hf))
      | punct c =>
        obtain ⟨hr, _, h1⟩ := h.punct
        rw [tokensAuxFrom, ← readToken, hr]
        exact congrArg (Option.map _) (ih n h1 (Nat.lt_of_succ_lt_succ hf))

/-- A token piece renders to at least one character. -/
theorem toks_length_le : ∀ {ps : List Piece} {k : Kind}, WellSep k ps → (toks ps).length ≤ (render ps).length
  | [], _, _ => Nat.le_refl 0
  | p :: ps, _, ⟨hv, _, h⟩ => by
    have ih := toks_length_le h
    rw [render, List.length_append, Nat.add_comm]
    cases p with
    | space s => exact Nat.le_add_right_of_le ih
    | comment b => exact Nat.le_add_right_of_le ih
    | punct c => exact Nat.add_le_add ih (Nat.le_refl 1)
    | word w => exact Nat.add_le_add ih (List.length_pos_iff.mpr hv.1)

/-- A well separated piece list is read back token for token (first half of
`C06_tokens_roundtrip`; the other half is `wellSep_val`). -/
theorem tokens_of_wellSep (ps : List Piece) (k : Kind) (fuel : Nat) (h : WellSep k ps)
    (hf : (render ps).length < fuel) :
    tokensAuxFrom (decide (k = .comment)) fuel (render ps) = some (toks ps) := by
  rw [tokensAuxFrom_congr _ false fuel _ _ (discardWs_idem _ _).symm]
  exact tokens_at ps fuel ⟨h, discardWs_idem _ _⟩ (Nat.lt_of_le_of_lt (toks_length_le h) hf)

end Emboss.Text
