/-
Level B: the lookup arrays and the FIRST / nullable table of the generator model
(`Gen.tables`, Model/Lr1Gen.lean) — everything `Valid` asks of the certificate's tables
(`VWf`'s array conditions, `VFirst`), plus soundness of `prodsOf` and "FIRST sets contain
terminals only", which the item invariants (`ItemOK`, Lr1GenBfs) need.
-/
import Emboss.Model.Lr1Gen
import Emboss.Lemmas.Lr1Basic
namespace Emboss.Lr1
namespace Gen

/-- `l.foldl max m` is core's `(m :: l).max?` -/
theorem le_foldl_max {l : List Nat} {m x : Nat} (h : x ∈ m :: l) : x ≤ l.foldl max m :=
  (List.max?_le_iff List.max?_cons').mp (Nat.le_refl _) x h

theorem eoi_lt_nsym (G : Grammar) : G.eoi < nsym G :=
  Nat.lt_succ_of_le (Nat.le_trans (Nat.le_max_left _ _) (le_foldl_max List.mem_cons_self))

theorem lt_nsym {G : Grammar} {p : Rule} (hp : p ∈ G.all) {x : Nat} (hx : x ∈ p.lhs :: p.rhs) : x < nsym G :=
  Nat.lt_succ_of_le (le_foldl_max (List.mem_cons_of_mem _ (List.mem_flatMap.mpr ⟨p, hp, hx⟩)))

theorem lhs_lt_nsym {G : Grammar} {p : Rule} (hp : p ∈ G.all) : p.lhs < nsym G :=
  lt_nsym hp List.mem_cons_self

theorem tab_get {α} (f : Nat → α) (n x : Nat) :
    ((List.range n).map f).toArray[x]? = if x < n then some (f x) else none := by
  by_cases h : x < n
  · simp [h]
  · simp [h]

theorem mem_unionL {z : Nat} {add : List Nat} : ∀ {l : List Nat}, z ∈ unionL l add ↔ z ∈ l ∨ z ∈ add := by
  induction add with
  | nil => simp [unionL]
  | cons a add ih =>
    intro l
    rw [unionL, List.foldl_cons, ← unionL, ih, List.mem_cons]
    split
    · next hc =>
      have ha : a ∈ l := by simpa using hc
      refine ⟨Or.imp_right Or.inr, ?_⟩
      rintro (h | rfl | h)
      · exact .inl h
      · exact .inl ha
      · exact .inr h
    · rw [List.mem_append, List.mem_singleton, or_assoc]

theorem mem_firstSeq {C : Cert} {c : Nat} {β : List Nat} : ∀ {t : List Nat}, c ∈ C.firstSeq β t →
    c ∈ t ∨ ∃ x ∈ β, c ∈ C.firstOf x := by
  induction β with
  | nil => exact fun h => Or.inl h
  | cons x β ih =>
    intro t h
    simp only [Cert.firstSeq, List.mem_append] at h
    rcases h with h | h
    · exact Or.inr ⟨x, List.mem_cons_self, h⟩
    · split at h
      · rcases ih h with h | ⟨y, hy, h⟩
        · exact Or.inl h
        · exact Or.inr ⟨y, List.mem_cons_of_mem _ hy, h⟩
      · cases h

/-- the same lookup arrays (everything but FIRST / nullable) -/
def SameTabs (C C' : Cert) : Prop :=
  C'.rules = C.rules ∧ C'.prodsOf = C.prodsOf ∧ C'.nt = C.nt ∧ C'.items = C.items

/-- FIRST sets contain terminals only -/
def FirstTerm (C : Cert) : Prop := ∀ x : Nat, ∀ c ∈ (C.first[x]?).getD [], C.isNT c = false

theorem firstSeq_all {C : Cert} {P : Nat → Prop} (h : ∀ x : Nat, ∀ c ∈ (C.first[x]?).getD [], P c)
    {β t : List Nat} {c : Nat} (hc : c ∈ C.firstSeq β t)
    (hβ : ∀ x ∈ β, C.isNT x = false → P x) (ht : ∀ a ∈ t, P a) : P c := by
  rcases mem_firstSeq hc with h1 | ⟨x, hx, h1⟩
  · exact ht c h1
  · unfold Cert.firstOf at h1
    split at h1
    · exact h x c h1
    · next hn =>
      rw [List.mem_singleton.mp h1]
      exact hβ x hx (Bool.eq_false_iff.mpr hn)

theorem FirstTerm.firstSeq {C : Cert} (h : FirstTerm C) {β t : List Nat} {c : Nat}
    (hc : c ∈ C.firstSeq β t) (ht : ∀ a ∈ t, C.isNT a = false) : C.isNT c = false :=
  firstSeq_all h hc (fun _ _ hn => hn) ht

theorem firstRound_same (C : Cert) : SameTabs C (firstRound C) := ⟨rfl, rfl, rfl, rfl⟩

theorem SameTabs.trans {C C' C'' : Cert} (h : SameTabs C C') (h' : SameTabs C' C'') : SameTabs C C'' :=
  ⟨h'.1.trans h.1, h'.2.1.trans h.2.1, h'.2.2.1.trans h.2.2.1, h'.2.2.2.trans h.2.2.2⟩

theorem first_round (C : Cert) (x : Nat) : (firstRound C).first[x]? =
    if x < C.nt.size then some (unionL ((C.first[x]?).getD [])
      ((C.rules.toList.filter fun p => p.lhs == x).flatMap fun p => C.firstSeq p.rhs [])) else none := by
  simp only [firstRound, tab_get]

theorem nullable_round (C : Cert) (x : Nat) : (firstRound C).nullable[x]? =
    if x < C.nt.size then some ((C.nullable[x]?).getD false ||
      C.rules.toList.any fun p => p.lhs == x && p.rhs.all C.nullableOf) else none := by
  simp only [firstRound, tab_get]

theorem firstRound_first {C : Cert} {P : Nat → Prop} (h : ∀ x : Nat, ∀ c ∈ (C.first[x]?).getD [], P c)
    (hβ : ∀ p ∈ C.rules.toList, ∀ x ∈ p.rhs, C.isNT x = false → P x) :
    ∀ x : Nat, ∀ c ∈ ((firstRound C).first[x]?).getD [], P c := by
  intro x c hc
  rw [first_round] at hc
  split at hc
  · simp only [Option.getD_some, mem_unionL, List.mem_flatMap, List.mem_filter] at hc
    rcases hc with hc | ⟨p, ⟨hp, _⟩, hc⟩
    · exact h x c hc
    · exact firstSeq_all h hc (hβ p hp) (by simp)
  · simp at hc

theorem firstRound_firstTerm {C : Cert} (h : FirstTerm C) : FirstTerm (firstRound C) :=
  firstRound_first (P := fun c => C.isNT c = false) h fun _ _ _ _ hn => hn

theorem tables0_first (G : Grammar) {P : Nat → Prop} (x : Nat) : ∀ c ∈ ((tables0 G).first[x]?).getD [], P c := by
  simp only [tables0, tab_get]
  split <;> exact List.forall_mem_nil _

theorem tables0_ntSize (G : Grammar) : (tables0 G).nt.size = nsym G := by simp [tables0]

theorem firstFix_induct {P : Cert → Prop} (step : ∀ C, P C → P (firstRound C)) {f : Nat}
    {C C' : Cert} : firstFix f C = some C' → P C → P C' ∧ VFirst C' := by
  fun_induction firstFix f C with
  | case1 => nofun
  | case2 f C hv => rintro ⟨⟩ hP; exact ⟨hP, hv⟩
  | case3 f C hv ih => exact fun h hP => ih h (step C hP)

/-- What the rest of the proof needs of the generator's tables. -/
structure TabOK (G : Grammar) (C : Cert) : Prop where
  rules : C.rules.toList = G.all
  prodsC : ∀ qj ∈ G.all.zipIdx, qj.2 ∈ C.prodsFor qj.1.lhs
  prodsS : ∀ x j, j ∈ C.prodsFor x → ∃ p, C.ruleAt j = some p ∧ p.lhs = x
  ntC : ∀ p ∈ G.all, C.isNT p.lhs = true
  ntS : ∀ x, C.isNT x = true → G.isNT x = true
  vfirst : VFirst C
  fterm : FirstTerm C
  ntSize : C.nt.size = nsym G

theorem tables_ok {G : Grammar} {C : Cert} (h : tables G = some C) : TabOK G C := by
  unfold tables at h
  obtain ⟨⟨s1, s2, s3, _⟩, hv⟩ :=
    firstFix_induct (P := SameTabs (tables0 G)) (fun C h => h.trans (firstRound_same C)) h ⟨rfl, rfl, rfl, rfl⟩
  have ht := fun h0 => (firstFix_induct (P := FirstTerm) (fun _ => firstRound_firstTerm) h h0).1
  have hrule : ∀ j, C.ruleAt j = G.all[j]? := by
    intro j
    simp [Cert.ruleAt, s1, tables0]
  have hprods : ∀ x, C.prodsFor x =
      if x < nsym G then (G.all.zipIdx.filter fun q => q.1.lhs == x).map (·.2) else [] := by
    intro x
    simp only [Cert.prodsFor, s2, tables0, tab_get]
    split <;> rfl
  have hnt : ∀ x, C.isNT x = if x < nsym G then G.all.any (fun p => p.lhs == x) else false := by
    intro x
    simp only [Cert.isNT, s3, tables0, tab_get]
    split <;> rfl
  refine ⟨by simp [s1, tables0], ?_, ?_, ?_, ?_, hv, ht (tables0_first G), s3 ▸ tables0_ntSize G⟩
  · intro qj hq
    have hm : qj.1 ∈ G.all := by
      obtain ⟨q, j⟩ := qj
      exact List.mem_of_getElem? (List.mem_zipIdx_iff_getElem?.mp hq)
    rw [hprods, if_pos (lhs_lt_nsym hm)]
    exact List.mem_map.mpr ⟨qj, List.mem_filter.mpr ⟨hq, by simp⟩, rfl⟩
  · intro x j hj
    rw [hprods] at hj
    split at hj
    · obtain ⟨q, hq, rfl⟩ := List.mem_map.mp hj
      obtain ⟨hq1, hq2⟩ := List.mem_filter.mp hq
      obtain ⟨p, j⟩ := q
      exact ⟨p, by rw [hrule]; exact List.mem_zipIdx_iff_getElem?.mp hq1, by simpa using hq2⟩
    · cases hj
  · intro p hp
    rw [hnt, if_pos (lhs_lt_nsym hp)]
    exact List.any_eq_true.mpr ⟨p, hp, by simp⟩
  · intro x hx
    rw [hnt] at hx
    split at hx
    · exact hx
    · cases hx

end Gen
end Emboss.Lr1
