/-
`mark_error` only *adds* `Error` entries and default error codes (`ErrExt`): the marked parser
takes the same steps as the unmarked one on every input, up to the error code it reports.
Hence the place where an example's code goes (`slotOf`) is the same on the unmarked table and
on any table marked so far, and the loop over the examples is a plain sequence of table writes
`putAll` of (slot, code) pairs that depend only on the unmarked table.
-/
import Emboss.Model.Merr
import Emboss.Lemmas.Lr1Basic
namespace Emboss.Lr1

/-- `B` is `A` plus `Error` entries / default error codes -/
structure ErrExt (A B : Automaton) : Prop where
  prods : B.prods = A.prods
  goto : B.goto = A.goto
  eoi : B.eoi = A.eoi
  strict : B.strict = A.strict
  entry : ∀ s a x, A.entry s a = some x → B.entry s a = some x
  entryNew : ∀ s a x, A.entry s a = none → B.entry s a = some x → x.isError = true
  row : ∀ s, (A.row s).isSome = true → (B.row s).isSome = true
  rowStrict : A.strict = true → ∀ s, (B.row s).isSome = true → (A.row s).isSome = true

theorem ErrExt.refl (A : Automaton) : ErrExt A A where
  prods := rfl
  goto := rfl
  eoi := rfl
  strict := rfl
  entry := fun _ _ _ h => h
  entryNew := fun _ _ _ h1 h2 => by rw [h1] at h2; cases h2
  row := fun _ h => h
  rowStrict := fun _ _ h => h

theorem ErrExt.trans {A B D : Automaton} (h1 : ErrExt A B) (h2 : ErrExt B D) : ErrExt A D where
  prods := h2.prods.trans h1.prods
  goto := h2.goto.trans h1.goto
  eoi := h2.eoi.trans h1.eoi
  strict := h2.strict.trans h1.strict
  entry := fun s a x h => h2.entry s a x (h1.entry s a x h)
  entryNew := fun s a x hn hd => by
    cases hb : B.entry s a with
    | none => exact h2.entryNew s a x hb hd
    | some y =>
      have := h2.entry s a y hb
      rw [hd] at this; cases this
      exact h1.entryNew s a x hn hb
  row := fun s h => h2.row s (h1.row s h)
  rowStrict := fun hs s h => h1.rowStrict hs s (h2.rowStrict (by rw [h1.strict]; exact hs) s h)

/-- results equal up to the error code and the order of the expected list -/
def RunSame : Result → Result → Prop
  | .accept t, .accept t' => t = t'
  | .error _ i s e, .error _ i' s' e' => i = i' ∧ s = s' ∧ ∀ x, x ∈ e ↔ x ∈ e'
  | .internal m, .internal m' => m = m'
  | .outOfFuel, .outOfFuel => True
  | _, _ => False

def StepSame : StepOut → StepOut → Prop := StepLift Eq RunSame

theorem RunSame.refl : ∀ r, RunSame r r
  | .accept _ => rfl
  | .error _ _ _ _ => ⟨rfl, rfl, fun _ => Iff.rfl⟩
  | .internal _ => rfl
  | .outOfFuel => trivial

theorem StepSame.refl : ∀ r, StepSame r r
  | .next _ => rfl
  | .done r => RunSame.refl r

section
variable {A B : Automaton}

theorem ErrExt.gotoOf_eq (h : ErrExt A B) (s x : Nat) : B.gotoOf s x = A.gotoOf s x := by
  unfold Automaton.gotoOf; rw [h.goto]

theorem ErrExt.entry_iff (h : ErrExt A B) {s a : Nat} {x : Action} (hne : x.isError = false) :
    A.entry s a = some x ↔ B.entry s a = some x := by
  refine ⟨h.entry s a x, fun hb => ?_⟩
  cases ha : A.entry s a with
  | none => have := h.entryNew _ _ _ ha hb; rw [hne] at this; cases this
  | some z => rw [← hb, h.entry _ _ _ ha]

theorem ErrExt.next_iff (h : ErrExt A B) {w : List Token} {s i : Nat} {x : Action}
    (hne : x.isError = false) : nextAction A w s i = x ↔ nextAction B w s i = x := by
  constructor
  · intro hx
    obtain ⟨hc, he⟩ := nextAction_nonerror hx hne
    exact nextAction_of_entry (by rw [clientEoi_congr h.eoi, hc]) (lookahead_congr h.eoi w i) ((h.entry_iff hne).mp he)
  · intro hy
    obtain ⟨hc, he⟩ := nextAction_nonerror hy hne
    rw [clientEoi_congr h.eoi] at hc
    rw [lookahead_congr h.eoi] at he
    exact nextAction_of_entry hc rfl ((h.entry_iff hne).mpr he)

theorem ErrExt.next_error (h : ErrExt A B) {w : List Token} {s i : Nat} {c : Option Nat}
    (hx : nextAction A w s i = .error c) : ∃ c', nextAction B w s i = .error c' := by
  cases hy : nextAction B w s i with
  | error c' => exact ⟨c', rfl⟩
  | shift _ | reduce _ | accept =>
    have := (h.next_iff rfl).mpr hy
    rw [hx] at this
    cases this

theorem ErrExt.expected (h : ErrExt A B) (s x : Nat) : x ∈ A.expectedOf s ↔ x ∈ B.expectedOf s := by
  rw [mem_expectedOf, mem_expectedOf]
  exact exists_congr fun a => and_congr_left fun hne => h.entry_iff hne

theorem ext_step (h : ErrExt A B) (w : List Token) (c : Config) : StepSame (step A w c) (step B w c) := by
  cases hx : nextAction A w (topState c.stack) c.cursor with
  | shift s' =>
    rw [step_shift hx, step_shift ((h.next_iff rfl).mp hx)]
    exact StepSame.refl _
  | accept =>
    rw [step_accept hx, step_accept ((h.next_iff rfl).mp hx), lookahead_congr h.eoi, h.eoi]
    exact StepSame.refl _
  | reduce pi =>
    rw [step_reduce hx, step_reduce ((h.next_iff rfl).mp hx), h.prods]
    simp only [h.gotoOf_eq]
    exact StepSame.refl _
  | error code =>
    obtain ⟨code', hb⟩ := h.next_error hx
    -- `mark_error` adds entries to rows a plain-dict table has, it creates no row
    have hrow : (A.strict = true → (B.row (topState c.stack)).isSome = true) ↔
        (A.strict = true → (A.row (topState c.stack)).isSome = true) :=
      imp_congr_right fun hs => ⟨h.rowStrict hs _, h.row _⟩
    rw [step_error hx, step_error hb, h.strict]
    simp only [hrow]
    split
    · exact ⟨rfl, rfl, h.expected _⟩
    · exact rfl

theorem ext_runFrom (h : ErrExt A B) (w : List Token) (f : Nat) (c : Config) :
    RunSame (runFrom A w f c) (runFrom B w f c) :=
  runFrom_lift (R := Eq) trivial (fun c _ hc => hc ▸ ext_step h w c) f rfl

theorem ext_slotOf (h : ErrExt A B) (fuel : Nat) (e : ErrExample) : slotOf B fuel e = slotOf A fuel e := by
  have hr := ext_runFrom h e.tokens fuel init
  unfold slotOf run
  generalize runFrom A e.tokens fuel init = r₁ at hr
  generalize runFrom B e.tokens fuel init = r₂ at hr
  -- only error/error remains
  cases r₁ <;> cases r₂ <;> first | rfl | exact hr.elim | skip
  obtain ⟨rfl, rfl, _⟩ := hr
  simp only [lookahead_congr h.eoi, h.eoi]

end

/-! ### what `put` does -/

/-- what is stored at a slot, as an action -/
def val (A : Automaton) : Slot → Option Action
  | .dflt s => (A.defaultErrors.lookup s).map fun c => .error (some c)
  | .entry s a => A.entry s a

/-- `put A sl c` succeeds: the slot is empty and writable (a plain-dict table has its row), or holds
the code `c` already -/
def Free (A : Automaton) (sl : Slot) (c : Nat) : Prop :=
  (val A sl = none ∧ ∀ s a, sl = .entry s a → A.strict = true → (A.row s).isSome = true) ∨
    val A sl = some (.error (some c))

/-- the successful writes `ps`, in terms of `val`: what is stored has only grown, by the codes of `ps`,
each at a slot that was free on `A` -/
structure PutSpec (A B : Automaton) (ps : List (Slot × Nat)) : Prop where
  free : ∀ sl c, (sl, c) ∈ ps → Free A sl c
  prods : B.prods = A.prods
  goto : B.goto = A.goto
  eoi : B.eoi = A.eoi
  strict : B.strict = A.strict
  valOf : ∀ sl x, val B sl = some x ↔ val A sl = some x ∨ ∃ c, (sl, c) ∈ ps ∧ x = .error (some c)
  row : ∀ s, (B.row s).isSome = true ↔ (A.row s).isSome = true ∨ ∃ a c, (Slot.entry s a, c) ∈ ps

theorem Free.row {A : Automaton} {s a c : Nat} (h : Free A (.entry s a) c) (hst : A.strict = true) :
    (A.row s).isSome = true :=
  h.elim (fun h => h.2 s a rfl hst) entry_some_row

section
variable {A A1 B : Automaton} {ps qs : List (Slot × Nat)} {sl : Slot} {c : Nat}

-- a new row is the row of a slot of `ps`, which was free
theorem PutSpec.row_strict (S : PutSpec A B ps) (hst : A.strict = true) {s : Nat}
    (hs : (B.row s).isSome = true) : (A.row s).isSome = true :=
  ((S.row s).mp hs).elim id fun ⟨_, _, h⟩ => (S.free _ _ h).row hst

theorem PutSpec.free_before (S : PutSpec A B ps) (f : Free B sl c) : Free A sl c := by
  rcases f with ⟨hn, hso⟩ | hv
  · refine .inl ⟨?_, ?_⟩
    · cases hA : val A sl with
      | none => rfl
      | some x => rw [(S.valOf sl x).mpr (.inl hA)] at hn; cases hn
    · exact fun s a e hst => S.row_strict hst (hso s a e (S.strict ▸ hst))
  · obtain h | ⟨c', hm, e⟩ := (S.valOf _ _).mp hv
    · exact .inr h
    · cases e; exact S.free _ _ hm

theorem PutSpec.free_after (S : PutSpec A B ps) (f : Free A sl c) (hc : ∀ c', (sl, c') ∈ ps → c' = c) :
    Free B sl c := by
  rcases f with ⟨hn, hso⟩ | hv
  · cases hB : val B sl with
    | none =>
      exact .inl ⟨hB, fun s a e hst => (S.row s).mpr (.inl (hso s a e (S.strict ▸ hst)))⟩
    | some x =>
      obtain h | ⟨c', hm, rfl⟩ := (S.valOf _ _).mp hB
      · rw [hn] at h; cases h
      · exact .inr (hc c' hm ▸ hB)
  · exact .inr ((S.valOf _ _).mpr (.inl hv))

theorem PutSpec.refl (h : ∀ sl c, (sl, c) ∈ ps → val A sl = some (.error (some c))) : PutSpec A A ps :=
  ⟨fun sl c hm => .inr (h sl c hm), rfl, rfl, rfl, rfl,
    fun _ _ => ⟨.inl, fun h' => h'.elim id fun ⟨c, hm, e⟩ => e ▸ h _ c hm⟩,
    fun _ => ⟨.inl, fun h' => h'.elim id fun ⟨_, _, hm⟩ => entry_some_row (h _ _ hm)⟩⟩

theorem PutSpec.append (S : PutSpec A A1 ps) (T : PutSpec A1 B qs) : PutSpec A B (ps ++ qs) where
  free := fun sl c h => (List.mem_append.mp h).elim (S.free sl c) fun h => S.free_before (T.free sl c h)
  prods := T.prods.trans S.prods
  goto := T.goto.trans S.goto
  eoi := T.eoi.trans S.eoi
  strict := T.strict.trans S.strict
  valOf := fun sl x => by
    rw [T.valOf, S.valOf, or_assoc]
    simp only [List.mem_append, or_and_right, exists_or]
  row := fun s => by
    rw [T.row, S.row, or_assoc]
    simp only [List.mem_append, exists_or]

theorem PutSpec.errExt (S : PutSpec A B ps) : ErrExt A B where
  prods := S.prods
  goto := S.goto
  eoi := S.eoi
  strict := S.strict
  entry := fun s a x hx => (S.valOf (.entry s a) x).mpr (.inl hx)
  entryNew := fun s a x hn hx => by
    obtain h | ⟨_, _, rfl⟩ := (S.valOf (.entry s a) x).mp hx
    · rw [show val A (.entry s a) = none from hn] at h; cases h
    · rfl
  row := fun s hs => (S.row s).mpr (.inl hs)
  rowStrict := fun hst _ => S.row_strict hst

end

theorem row_setEntry (rows : Array (Option Row)) (s : Nat) (e : Nat × Action) (s' : Nat) :
    ((setEntry rows s e)[s']?).join =
      if s' = s then some (((rows[s]?).join).getD [] ++ [e]) else (rows[s']?).join := by
  unfold setEntry
  rw [Array.getElem?_ofFn]
  by_cases hlt : s' < max rows.size (s + 1)
  · simp only [hlt, dite_true, Option.join_some]
    by_cases hs : s' = s <;> simp [hs]
  · simp only [hlt, dite_false, Option.join_none]
    have h1 : rows.size ≤ s' := by omega
    have h2 : s' ≠ s := by omega
    simp [h2, Array.getElem?_eq_none h1]

theorem entry_setEntry (A : Automaton) (s a : Nat) (x : Action) (s' a' : Nat) :
    ({ A with action := setEntry A.action s (a, x) } : Automaton).entry s' a' =
      if s' = s then (A.entry s a').or (if a' = a then some x else none) else A.entry s' a' := by
  unfold Automaton.entry Automaton.row
  rw [row_setEntry]
  by_cases hs : s' = s
  · simp only [hs, if_true, List.lookup_append, lookup_singleton]
    cases (A.action[s]?).join <;> rfl
  · simp only [hs, if_false]

theorem put_spec {A B : Automaton} {sl : Slot} {c : Nat} (h : put A sl c = some B) : PutSpec A B [(sl, c)] := by
  unfold put at h
  cases sl with
  | dflt s =>
    dsimp only at h
    cases hl : A.defaultErrors.lookup s with
    | some c0 =>
      rw [hl] at h
      dsimp only at h
      split at h
      · next hc => cases h; exact .refl fun _ _ h => by cases List.mem_singleton.mp h; rw [val, hl, hc]; rfl
      · cases h
    | none =>
      rw [hl] at h
      cases h
      refine ⟨fun sl' c' h => ?_, rfl, rfl, rfl, rfl, fun sl' x => ?_, fun s' => by simp [Automaton.row]⟩
      · cases List.mem_singleton.mp h; exact .inl ⟨by rw [val, hl]; rfl, nofun⟩
      · cases sl' with
        | entry s' a' => simp [val, Automaton.entry, Automaton.row]
        | dflt s' =>
          simp only [val, List.lookup_append, lookup_singleton, List.mem_singleton, Prod.mk.injEq, Slot.dflt.injEq]
          by_cases hs : s' = s
          · subst hs; simp [hl, eq_comm]
          · cases A.defaultErrors.lookup s' <;> simp [hs]
  | entry s a =>
    dsimp only at h
    cases he : A.entry s a with
    | some x =>
      rw [he] at h
      cases x with
      | error c0 =>
        dsimp only at h
        split at h
        · next hc => cases h; exact .refl fun _ _ h => by cases List.mem_singleton.mp h; rw [val, he, hc]
        · cases h
      | shift _ | reduce _ | accept => cases h
    | none =>
      rw [he] at h
      dsimp only at h
      split at h
      · cases h
      · next hst =>
        cases h
        refine ⟨fun sl' c' h => ?_, rfl, rfl, rfl, rfl, fun sl' x => ?_, fun s' => ?_⟩
        · cases List.mem_singleton.mp h
          refine .inl ⟨he, fun _ _ e hs => ?_⟩
          cases e
          cases hr : A.row s with
          | some _ => rfl
          | none => simp [hs, hr] at hst
        · cases sl' with
          | dflt s' => simp [val]
          | entry s' a' =>
            simp only [val, entry_setEntry, List.mem_singleton, Prod.mk.injEq, Slot.entry.injEq]
            by_cases hs : s' = s
            · subst hs
              by_cases ha : a' = a
              · subst ha; simp [he, eq_comm]
              · simp [ha]
            · simp [hs]
        · show ((setEntry A.action s _)[s']?).join.isSome = true ↔ _
          rw [row_setEntry]
          by_cases hs : s' = s
          · simp [hs]
          · simp [hs, Automaton.row]

theorem put_ext {A B : Automaton} {sl : Slot} {code : Nat} (h : put A sl code = some B) : ErrExt A B :=
  (put_spec h).errExt

/-! ### the loop over the examples -/

theorem markAll_eq_putAll {A0 : Automaton} (fuel : Nat) : ∀ (es : List ErrExample) (A : Automaton),
    ErrExt A0 A → markAll A fuel es = (slotsOf A0 fuel es).bind (putAll A)
  | [], A, _ => by simp [markAll, slotsOf, putAll]
  | e :: es, A, hA => by
    simp only [markAll, markError, slotsOf, ext_slotOf hA]
    cases hs : slotOf A0 fuel e with
    | none => simp
    | some sl =>
      simp only [Option.bind_some]
      cases hp : put A sl e.code with
      | none =>
        cases slotsOf A0 fuel es <;> simp [putAll, hp]
      | some B =>
        have ih := markAll_eq_putAll fuel es B (hA.trans (put_ext hp))
        simp only [Option.bind_some, ih]
        cases slotsOf A0 fuel es <;> simp [putAll, hp]

theorem putAll_spec : ∀ (ps : List (Slot × Nat)) {A B : Automaton}, putAll A ps = some B → PutSpec A B ps
  | [], A, B, h => by cases h; exact .refl nofun
  | p :: ps, A, B, h => by
    obtain ⟨A1, h1, h⟩ := Option.bind_eq_some_iff.mp h
    exact (put_spec h1).append (putAll_spec ps h)

theorem markAll_ext {fuel : Nat} {es : List ErrExample} {A B : Automaton} (h : markAll A fuel es = some B) :
    ErrExt A B := by
  rw [markAll_eq_putAll fuel es A (ErrExt.refl A)] at h
  obtain ⟨ps, _, h⟩ := Option.bind_eq_some_iff.mp h
  exact (putAll_spec ps h).errExt

end Emboss.Lr1
