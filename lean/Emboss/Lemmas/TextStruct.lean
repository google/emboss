/-
Helper lemmas for C06: structure round trip over the abstract buffer model (`update_roundtrip`,
`depOk_loc`), and what a dependency-respecting order (`TopoFrom`, C15) gives for the emission
order (`topoFrom_split`, `topoFrom_transitive`).
-/
import Emboss.Spec.TextStruct
import Emboss.Spec.Deps
namespace Emboss.Text
open Emboss.Deps

theorem lookup_zip_map (f : Nat → Bool) (l : List Nat) (a : Nat) :
    (l.zip (l.map f)).lookup a = if a ∈ l then some (f a) else none := by
  induction l with
  | nil => simp
  | cons x l ih =>
    simp only [List.map_cons, List.zip_cons_cons, List.lookup_cons]
    by_cases h : a = x
    · subst h; simp
    · have : (a == x) = false := by simpa using h
      simp [this, ih, h]

theorem writeAt_self (b b0 : Buf) (l : List Nat) (a : Nat) :
    writeAt b0 l (l.map b) a = if a ∈ l then b a else b0 a := by
  unfold writeAt
  rw [lookup_zip_map]
  by_cases h : a ∈ l <;> simp [h]

theorem update_roundtrip : ∀ (rest pre : List FieldSem) (b b0 : Buf), DepOk pre rest →
    AgreeOn pre b b0 →
    ∃ b1, update b0 (writeText rest b) = some b1 ∧ AgreeOn (pre ++ rest) b b1 := by
  intro rest
  induction rest with
  | nil =>
    intro pre b b0 _ hag
    exact ⟨b0, rfl, by simpa using hag⟩
  | cons f rest ih =>
    intro pre b b0 hdep hag
    obtain ⟨hf, hrest⟩ := hdep
    suffices h : ∃ b0', update b0 (writeText (f :: rest) b) = update b0' (writeText rest b) ∧
        AgreeOn (pre ++ [f]) b b0' by
      obtain ⟨b0', hu, hag'⟩ := h
      obtain ⟨b1, h1, h2⟩ := ih (pre ++ [f]) b b0' hrest hag'
      exact ⟨b1, hu ▸ h1, by simpa using h2⟩
    by_cases hem : f.emitted = true
    · cases hl : f.loc b with
      | none =>
        exact ⟨b0, by simp [writeText, hem, hl], List.forall_mem_append.mpr ⟨hag,
          List.forall_mem_singleton.mpr fun _ l hgl => by rw [hl] at hgl; cases hgl⟩⟩
      | some l =>
        have hloc0 : f.loc b0 = some l := by rw [hf hem b b0 hag, hl]
        refine ⟨writeAt b0 l (l.map b), ?_, List.forall_mem_append.mpr ⟨?_, List.forall_mem_singleton.mpr ?_⟩⟩
        · have : writeText (f :: rest) b = (f, l.map b) :: writeText rest b := by
            simp [writeText, hem, hl]
          simp only [this, update, updateOne, hloc0, List.length_map, if_true, Option.bind_some]
        · intro g hg hge lg hgl a ha
          rw [writeAt_self]
          split
          · rfl
          · exact hag g hg hge lg hgl a ha
        · intro _ l' hl' a ha
          cases hl.symm.trans hl'
          rw [writeAt_self, if_pos ha]
    · exact ⟨b0, by simp [writeText, hem], List.forall_mem_append.mpr ⟨hag,
        List.forall_mem_singleton.mpr fun h => absurd h hem⟩⟩

theorem depOk_loc : ∀ (rest pre : List FieldSem), DepOk pre rest → ∀ f ∈ rest, f.emitted = true →
    ∀ b b', AgreeOn (pre ++ rest) b b' → f.loc b' = f.loc b := by
  intro rest
  induction rest with
  | nil => intro pre _ f hf; cases hf
  | cons g rest ih =>
    intro pre hdep f hf hem b b' hag
    obtain ⟨hg, hrest⟩ := hdep
    rcases List.mem_cons.mp hf with rfl | hf
    · exact hg hem b b' (List.forall_mem_append.mp hag).1
    · exact ih (pre ++ [g]) hrest f hf hem b b' (by simpa using hag)

theorem topoFrom_append (deps : DepFn) : ∀ (l1 added l2 : List Nat),
    TopoFrom deps added (l1 ++ l2) → TopoFrom deps (l1.reverse ++ added) l2 := by
  intro l1
  induction l1 with
  | nil => intro added l2 h; simpa using h
  | cons x l1 ih =>
    intro added l2 h
    have := ih (x :: added) l2 h.2
    simpa using this

theorem topoFrom_split (deps : DepFn) (l1 added : List Nat) (f : Nat) (l2 : List Nat)
    (h : TopoFrom deps added (l1 ++ f :: l2)) : ∀ d ∈ deps f, d ∈ added ∨ d ∈ l1 := fun d hd =>
  (List.mem_append.mp ((topoFrom_append deps l1 added _ h).1 d hd)).symm.imp_right List.mem_reverse.mp

/-- In a dependency-respecting order every *transitive* dependency of a field is a runtime
parameter or stands earlier (parameters have no dependencies of their own). -/
theorem topoFrom_transitive (deps : DepFn) (params : List Nat) (hp : ∀ p ∈ params, deps p = [])
    {f d : Nat} (hd : DependsOn deps f d) : ∀ (l1 l2 : List Nat),
    TopoFrom deps params (l1 ++ f :: l2) → d ∈ params ∨ d ∈ l1 := by
  induction hd with
  | direct h => intro l1 l2 ht; exact topoFrom_split deps l1 params _ l2 ht _ h
  | @step f m d hm _ ih =>
    intro l1 l2 ht
    rcases topoFrom_split deps l1 params f l2 ht m hm with hmp | hml
    · -- a parameter has no dependencies
      rename_i hmd
      have := hp m hmp
      cases hmd with
      | direct h => rw [this] at h; cases h
      | step h _ => rw [this] at h; cases h
    · obtain ⟨a, b, rfl⟩ := List.append_of_mem hml
      have ht' : TopoFrom deps params (a ++ m :: (b ++ f :: l2)) := by simpa using ht
      rcases ih a (b ++ f :: l2) ht' with h | h
      · exact Or.inl h
      · exact Or.inr (by simp [h])

theorem FieldDecl.hasWriteClause_iff (d : FieldDecl) :
    d.hasWriteClause = true ↔ d.textOutput = none ∨ d.textOutput = some "Emit" := by
  unfold FieldDecl.hasWriteClause
  cases d.textOutput <;> simp

end Emboss.Text
