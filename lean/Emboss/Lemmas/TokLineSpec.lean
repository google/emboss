/-
C10: the model's `_tokenize_line` (`tokLine`) *equals* the declarative maximal-munch
specification: success ⇔ the (unique) cover, "Unrecognized token" at `k` ⇔ the stuck
position; and, for pattern lists whose backtracking match is the longest match of the
pattern language (true of the regenerated table: `priority_is_longest_all`), the same with
the specification phrased through the languages only.  With fuel enough the answer does not
depend on the fuel (`tokLine_fuel_irrel`), and it shifts with the offset (`tokLine_shift`).
-/
import Emboss.Lemmas.TokFile
import Emboss.Lemmas.RegexLongest
namespace Emboss.Tok
open Emboss.Regex

theorem IsBest.bestMatch_eq {pats s n sy} (h : IsBest pats s n sy) (hn : 0 < n) :
    bestMatch pats s 0 none = some (n, sy) := by
  obtain ⟨p, hp, hm, _⟩ := h.winner
  obtain ⟨n', sy', hb, hbest, _⟩ := bestMatch_of_match hp hm hn
  obtain ⟨e1, e2⟩ := hbest.unique h
  rw [hb, e1, e2]

theorem NoMatch.bestMatch_eq {pats s} (h : NoMatch pats s) :
    ∃ sy, bestMatch pats s 0 none = some (0, sy) := by
  rcases bestMatch_cases pats s with ⟨sy, hb, _⟩ | ⟨n, sy, _, hbest⟩
  · exact ⟨sy, hb⟩
  · obtain ⟨p, hp, hm, _⟩ := hbest.winner
    exact absurd (h p hp _ hm) (Nat.succ_ne_zero n)

def LineRes.prepend (ts : List Token) : LineRes → LineRes
  | .ok us => .ok (ts ++ us)
  | e => e

theorem LineRes.prepend_prepend (a b : List Token) (r : LineRes) :
    (r.prepend b).prepend a = r.prepend (a ++ b) := by
  cases r with
  | ok us => exact congrArg LineRes.ok (List.append_assoc a b us).symm
  | _ => rfl

theorem IsBest.tokLine_succ {pats s n sy} (h : IsBest pats s n sy) (hn : 0 < n) {ln off fuel : Nat}
    (hf : s.length ≤ fuel) :
    tokLine pats ln fuel s off =
      (tokLine pats ln (fuel - 1) (s.drop n) (off + n)).prepend (match (generalizing := false) sy with
        | some name => [⟨name, s.take n, ln, off + 1, ln, off + n + 1⟩]
        | none => []) := by
  have hle := h.le_length
  cases s with
  | nil => simp at hle; omega
  | cons c cs =>
    obtain ⟨k, rfl⟩ : ∃ k, n = k + 1 := ⟨n - 1, by omega⟩
    cases fuel with
    | zero => exact absurd hf (Nat.not_succ_le_zero _)
    | succ f =>
      simp only [tokLine, h.bestMatch_eq hn, Nat.add_sub_cancel]
      cases tokLine pats ln f ((c :: cs).drop (k + 1)) (off + (k + 1)) <;> cases sy <;> rfl

/-- A cover is what `tokLine` computes (completeness; soundness is `tokLine_covers`). -/
theorem Covers.tokLine_eq {pats ln s off segs} (h : Covers pats ln s off segs) :
    ∀ fuel, s.length ≤ fuel → tokLine pats ln fuel s off = .ok (tokensOf segs) := by
  induction h with
  | nil off => intro fuel _; cases fuel <;> simp [tokLine]
  | @tok s off n name segs hn hle hb hc ih =>
    intro fuel hf
    rw [hb.tokLine_succ hn hf, ih _ (by simp only [List.length_drop]; omega)]
    rfl
  | @gap s off n segs hn hle hb hc ih =>
    intro fuel hf
    rw [hb.tokLine_succ hn hf, ih _ (by simp only [List.length_drop]; omega)]
    rfl

theorem StuckAt.tokLine_eq {pats s off k} (h : StuckAt pats s off k) (ln : Nat) :
    ∀ fuel, s.length ≤ fuel → tokLine pats ln fuel s off = .err k := by
  induction h with
  | @here s off hne hno =>
    intro fuel hf
    cases s with
    | nil => exact absurd rfl hne
    | cons c cs =>
      cases fuel with
      | zero => simp at hf
      | succ f =>
        obtain ⟨sy, hbm⟩ := hno.bestMatch_eq
        simp only [tokLine, hbm]
  | @step s off n sy k hn hb _ ih =>
    intro fuel hf
    rw [hb.tokLine_succ hn hf, ih _ (by simp only [List.length_drop]; omega)]
    rfl

theorem tokLine_fuel_irrel {pats : List Pat} {ln : Nat} {f f' : Nat} {s : List Char} (off : Nat)
    (hf : s.length ≤ f) (hf' : s.length ≤ f') : tokLine pats ln f s off = tokLine pats ln f' s off := by
  cases h : tokLine pats ln f s off with
  | fuel => exact absurd h (tokLine_no_fuel hf)
  | err k => exact ((tokLine_err_stuck h).tokLine_eq ln f' hf').symm
  | ok ts =>
    obtain ⟨segs, hc, rfl⟩ := tokLine_covers h
    exact (hc.tokLine_eq f' hf').symm

theorem Covers.unique {pats ln s off segs₁ segs₂} (h₁ : Covers pats ln s off segs₁)
    (h₂ : Covers pats ln s off segs₂) : segs₁ = segs₂ := by
  induction h₁ generalizing segs₂ with
  | nil off => cases h₂ with
    | nil => rfl
    | tok hn hle => simp at hle; omega
    | gap hn hle => simp at hle; omega
  | @tok s off n name segs hn hle hb hc ih =>
    cases h₂ with
    | nil => simp at hle; omega
    | @tok _ _ n' name' segs' hn' hle' hb' hc' =>
      obtain ⟨e1, e2⟩ := hb.unique hb'
      subst e1
      cases e2
      rw [ih hc']
    | @gap _ _ n' segs' hn' hle' hb' hc' =>
      obtain ⟨_, e2⟩ := hb.unique hb'
      cases e2
  | @gap s off n segs hn hle hb hc ih =>
    cases h₂ with
    | nil => simp at hle; omega
    | @tok _ _ n' name' segs' hn' hle' hb' hc' =>
      obtain ⟨_, e2⟩ := hb.unique hb'
      cases e2
    | @gap _ _ n' segs' hn' hle' hb' hc' =>
      obtain ⟨e1, _⟩ := hb.unique hb'
      subst e1
      rw [ih hc']

/-! ### Shifting the columns -/

def Token.shift (k : Nat) (t : Token) : Token := { t with sc := t.sc + k, ec := t.ec + k }

theorem Token.shift_shift (a b : Nat) (t : Token) : (t.shift a).shift b = t.shift (a + b) := by
  simp only [Token.shift, Token.mk.injEq, true_and]; omega

theorem Token.shift_zero (t : Token) : t.shift 0 = t := by
  simp [Token.shift]

def LineRes.shift (k : Nat) : LineRes → LineRes
  | .fuel => .fuel
  | .err o => .err (o + k)
  | .ok ts => .ok (ts.map (Token.shift k))

theorem tokLine_shift (pats : List Pat) (ln k : Nat) :
    ∀ fuel s off, tokLine pats ln fuel s (off + k) = (tokLine pats ln fuel s off).shift k := by
  intro fuel
  induction fuel with
  | zero => intro s off; cases s <;> simp [tokLine, LineRes.shift]
  | succ f ih =>
    intro s off
    cases s with
    | nil => simp [tokLine, LineRes.shift]
    | cons c cs =>
      simp only [tokLine]
      split
      · rfl
      · rfl
      · rename_i n sy hb
        rw [show off + k + (n + 1) = off + (n + 1) + k by omega, ih]
        cases hrec : tokLine pats ln f (List.drop (n + 1) (c :: cs)) (off + (n + 1)) with
        | fuel => rfl
        | err o => rfl
        | ok ts =>
          cases sy with
          | none => rfl
          | some name =>
            simp only [LineRes.shift, List.map_cons, Token.shift, LineRes.ok.injEq, List.cons.injEq,
              Token.mk.injEq, true_and, and_true]
            omega

/-! ### Language level -/

section
variable {pats : List Pat} (hpl : ∀ p ∈ pats, PriorityIsLongest p.re)
include hpl

theorem IsBest.lang_le {s : List Char} {n : Nat} {sy : Option String} (h : IsBest pats s n sy) :
    ∀ q ∈ pats, ∀ m, MatchesLen q.re s m → m ≤ n := fun q hq _ hmq =>
  let ⟨n', hn', hle⟩ := PriorityIsLongest.bound (hpl q hq) hmq
  Nat.le_trans hle (h.max q hq n' hn')

theorem isBest_iff_lang {s : List Char} {n : Nat} {sy : Option String} :
    IsBest pats s n sy ↔ IsBestLang pats s n sy := by
  constructor
  · intro h
    have hall := h.lang_le hpl
    obtain ⟨pre, p, post, hp, hm, hs, hpre, _⟩ := h
    refine ⟨pre, p, post, hp, matchLen_sound _ _ _ hm, hs, fun q hq m hmq => ?_, hall⟩
    obtain ⟨n', hn', hle⟩ := PriorityIsLongest.bound (hpl q (by rw [hp]; simp [hq])) hmq
    exact Nat.lt_of_le_of_lt hle (hpre q hq n' hn')
  · rintro ⟨pre, p, post, hp, hM, hs, hpre, hall⟩
    have hpm : p ∈ pats := by rw [hp]; simp
    refine ⟨pre, p, post, hp, (PriorityIsLongest.ok_iff (hpl p hpm)).mpr ⟨hM, hall p hpm⟩, hs, ?_, ?_⟩
    · intro q hq m hm
      exact hpre q hq m (matchLen_sound _ _ _ hm)
    · intro q hq m hm
      exact hall q (by rw [hp]; simp [hq]) m (matchLen_sound _ _ _ hm)

theorem noMatch_iff_lang {s : List Char} : NoMatch pats s ↔ NoMatchLang pats s := by
  constructor
  · intro h q hq m hm
    obtain ⟨n', hn', hle⟩ := PriorityIsLongest.bound (hpl q hq) hm
    have := h q hq n' hn'
    omega
  · intro h q hq m hm
    exact h q hq m (matchLen_sound _ _ _ hm)

theorem covers_iff_munch {ln : Nat} {s : List Char} {off : Nat} {segs : List Seg} :
    Covers pats ln s off segs ↔ MunchCovers pats ln s off segs := by
  constructor
  · intro h
    induction h with
    | nil off => exact .nil off
    | tok hn hle hb _ ih => exact .tok hn hle ((isBest_iff_lang hpl).mp hb) ih
    | gap hn hle hb _ ih => exact .gap hn hle ((isBest_iff_lang hpl).mp hb) ih
  · intro h
    induction h with
    | nil off => exact .nil off
    | tok hn hle hb _ ih => exact .tok hn hle ((isBest_iff_lang hpl).mpr hb) ih
    | gap hn hle hb _ ih => exact .gap hn hle ((isBest_iff_lang hpl).mpr hb) ih

theorem stuck_iff_munch {s : List Char} {off k : Nat} :
    StuckAt pats s off k ↔ MunchStuck pats s off k := by
  constructor
  · intro h
    induction h with
    | here hne hno => exact .here hne ((noMatch_iff_lang hpl).mp hno)
    | step hn hb _ ih => exact .step hn ((isBest_iff_lang hpl).mp hb) ih
  · intro h
    induction h with
    | here hne hno => exact .here hne ((noMatch_iff_lang hpl).mpr hno)
    | step hn hb _ ih => exact .step hn ((isBest_iff_lang hpl).mpr hb) ih

end

end Emboss.Tok
