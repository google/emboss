/- Lemmas for C07 (naming half): the `EmbossReserved…` helper type names of two fields collide
only through equal CamelCase forms; `clean`, declaratively;
the declarations every class / namespace scope of a given shape contains, and the clash classes
they give rise to; `checkLoop` (first-seen dictionary, as the back end is written) decides
exactly `clean`. -/
import Emboss.Lemmas.EnumDistinct
import Emboss.Model.NamesCheck
namespace Emboss.Names
open Emboss.Enum (snakeToCamel distinctLoop distinctLoop_iff)

theorem pairwise_mem_ne {α : Type} {R : α → α → Prop} (hs : ∀ {a b}, R a b → R b a) {l : List α}
    (h : l.Pairwise R) {a b : α} (ha : a ∈ l) (hb : b ∈ l) (hne : a ≠ b) : R a b := by
  induction l with
  | nil => cases ha
  | cons x xs ih =>
    rw [List.pairwise_cons] at h
    rcases List.mem_cons.mp ha with rfl | ha' <;> rcases List.mem_cons.mp hb with rfl | hb'
    · exact absurd rfl hne
    · exact h.1 b hb'
    · exact hs (h.1 a ha')
    · exact ih h.2 ha' hb'

/-! ## the `EmbossReserved…` helper type names -/

/-- `if n = k₁ then some v₁ else if n = k₂ then some v₂ else … else none`. -/
def chain (n : Name) : List (Name × Name) → Option Name
  | [] => none
  | (k, v) :: t => if n = k then some v else chain n t

theorem chain_some {n x : Name} {t : List (Name × Name)} (h : chain n t = some x) : (n, x) ∈ t := by
  induction t with
  | nil => cases h
  | cons p t ih =>
    simp only [chain] at h
    split at h
    · rename_i e
      rw [e, ← Option.some.inj h]
      exact List.mem_cons_self ..
    · exact List.mem_cons_of_mem _ (ih h)

/-- `_cpp_field_name` on the `$`-names. -/
def dollarNames : List (Name × Name) :=
  [(s "$size_in_bits", s "IntrinsicSizeInBits"), (s "$size_in_bytes", s "IntrinsicSizeInBytes"),
   (s "$max_size_in_bits", s "MaxSizeInBits"), (s "$min_size_in_bits", s "MinSizeInBits"),
   (s "$max_size_in_bytes", s "MaxSizeInBytes"), (s "$min_size_in_bytes", s "MinSizeInBytes")]

theorem cppFieldName_eq (n : Name) :
    cppFieldName n = if isDollar n then chain n dollarNames else some n := by
  -- by the small `match` first: splitting the one of `cppFieldName` with its branches is slow
  unfold isDollar
  split
  · rfl
  · unfold cppFieldName
    split <;> simp_all

theorem cppFieldName_dollar_inj (a b c : Name) (ha : isDollar a = true) (hb : isDollar b = true)
    (h1 : cppFieldName a = some c) (h2 : cppFieldName b = some c) : a = b := by
  rw [cppFieldName_eq, if_pos ha] at h1
  rw [cppFieldName_eq, if_pos hb] at h2
  have hn : dollarNames.Pairwise (fun p q => p.2 ≠ q.2) := by
    -- evaluation on characters, see `classified_chars` in Emboss/Lemmas/StaticAsserts.lean
    simp -index only [dollarNames, s, String.toList_ofList]
    decide +kernel
  -- two rows of the table with the same right column are the same row
  apply Decidable.byContradiction
  intro hne
  exact pairwise_mem_ne Ne.symm hn (chain_some h1) (chain_some h2)
    (fun e => hne (congrArg Prod.fst e)) rfl

theorem reserved_prefixes (x y : Name) :
    s "EmbossReservedVirtual" ++ x ≠ s "EmbossReservedDollarVirtual" ++ y ∧
    s "EmbossReservedVirtual" ++ x ≠ s "EmbossReservedValidatorFor" ++ y ∧
    s "EmbossReservedDollarVirtual" ++ x ≠ s "EmbossReservedValidatorFor" ++ y := by
  -- on characters the prefixes differ at `V`/`D` (15th) and at `i`/`a` (16th)
  simp -index only [s, String.toList_ofList]
  simp

theorem virtualViewName_eq_some (n v : Name) : virtualViewName n = some v ↔
    if isDollar n then ∃ c, cppFieldName n = some c ∧ s "EmbossReservedDollarVirtual" ++ (c ++ s "View") = v
    else s "EmbossReservedVirtual" ++ (snakeToCamel n ++ s "View") = v := by
  unfold virtualViewName isDollar
  split <;> simp

theorem virtualViewName_inj (a b v : Name) (ha : virtualViewName a = some v)
    (hb : virtualViewName b = some v) :
    a = b ∨ (isDollar a = false ∧ isDollar b = false ∧ snakeToCamel a = snakeToCamel b) := by
  rw [virtualViewName_eq_some] at ha hb
  cases hda : isDollar a <;> cases hdb : isDollar b <;>
    simp only [hda, hdb, if_true, if_false, Bool.false_eq_true] at ha hb
  · exact .inr ⟨rfl, rfl, List.append_cancel_right (List.append_cancel_left (ha.trans hb.symm))⟩
  · obtain ⟨c, _, rfl⟩ := hb
    exact absurd ha (reserved_prefixes _ _).1
  · obtain ⟨c, _, rfl⟩ := ha
    exact absurd hb (reserved_prefixes _ _).1
  · obtain ⟨ca, hca, rfl⟩ := ha
    obtain ⟨cb, hcb, e⟩ := hb
    rw [List.append_cancel_right (List.append_cancel_left e)] at hcb
    exact .inl (cppFieldName_dollar_inj a b ca hda hdb hca hcb)

theorem virtualViewName_ne_validatorName (n m : Name) : virtualViewName n ≠ some (validatorName m) := by
  rw [Ne, virtualViewName_eq_some]
  split
  · rintro ⟨c, _, e⟩
    exact (reserved_prefixes _ _).2.2 e
  · exact (reserved_prefixes _ _).2.1

theorem fieldNamesDistinct_iff (fs : List Field) : fieldNamesDistinct fs = true ↔
    (fs.filter (fun f => f.ownView && !isDollar f.name)).Pairwise
      (fun a b => snakeToCamel a.name ≠ snakeToCamel b.name) ∧
    (fs.filter (fun f => f.validator && !isDollar f.name)).Pairwise
      (fun a b => snakeToCamel a.name ≠ snakeToCamel b.name) := by
  simp only [fieldNamesDistinct, Bool.and_eq_true, distinctLoop_iff, List.not_mem_nil, not_false_eq_true,
    implies_true, and_true, checkedVirtualNames, checkedValidatorNames, validatorName, List.Nodup,
    List.pairwise_map, ne_eq, List.append_cancel_left_eq, List.append_cancel_right_eq]

/-! ## the clash relation, declaratively -/

theorem compatible_iff (a b : Decl) : compatible a b = true ↔
    (a.ident = b.ident → ∃ g, a.group = some g ∧ b.group = some g) := by
  unfold compatible
  cases a.group <;> cases b.group <;> simp [Decidable.imp_iff_not_or, @eq_comm Nat]

theorem compatible_symm {a b : Decl} (h : compatible a b = true) : compatible b a = true := by
  rw [compatible_iff] at *
  exact fun e => (h e.symm).imp fun g hg => hg.symm

theorem clean_iff (ds : List Decl) :
    clean ds = true ↔ ds.Pairwise (fun a b => compatible a b = true) := by
  unfold clean
  rw [List.isEmpty_iff]
  induction ds with
  | nil => simp [clashes]
  | cons d ds ih =>
    simp only [clashes, List.append_eq_nil_iff, List.map_eq_nil_iff, List.filter_eq_nil_iff,
      List.pairwise_cons, ih, Bool.not_eq_true', Bool.not_eq_false]

theorem not_clean_of_mem {ds : List Decl} (a b : Decl) (ha : a ∈ ds) (hb : b ∈ ds)
    (hw : a.what ≠ b.what) (hi : a.ident = b.ident) (hg : a.group = none) : clean ds = false := by
  rw [Bool.eq_false_iff, Ne, clean_iff]
  intro hp
  obtain ⟨g, h1, _⟩ := (compatible_iff a b).mp
    (pairwise_mem_ne compatible_symm hp ha hb (fun e => hw (e ▸ rfl))) hi
  rw [hg] at h1
  cases h1

/-! ## the class scope: members; a parameter whose data member is named like a fixed member -/

theorem fixed_mem (st : Struct) (n : Name) (h : n ∈ fixedMembers st) :
    ({ ident := n, what := "fixed member" } : Decl) ∈ classScope st :=
  List.mem_append_left _ (List.mem_append_left _ (List.mem_append_left _ (List.mem_map.mpr ⟨n, h, rfl⟩)))

theorem param_member_mem (st : Struct) (p : Name) (hp : p ∈ st.params) :
    ({ ident := p ++ s "_", what := "parameter member" } : Decl) ∈ classScope st :=
  List.mem_append_left _ (List.mem_append_left _ (List.mem_append_right _
    (List.mem_flatMap.mpr ⟨p, hp, by simp⟩)))

theorem accessor_mem (st : Struct) (f : Field) (hf : f ∈ st.fields) (hd : isDollar f.name = false) :
    ({ ident := f.name, what := "field accessor" } : Decl) ∈ classScope st ∧
    ({ ident := s "has_" ++ f.name, what := "field has_" } : Decl) ∈ classScope st := by
  constructor <;>
    exact List.mem_append_left _ (List.mem_append_right _
      (List.mem_flatMap.mpr ⟨f, hf, by simp [cppFieldName_eq, hd]⟩))

theorem nested_enum_mem (st : Struct) (e : Name) (he : e ∈ st.nestedEnums) :
    ({ ident := e, what := "using <enum>" } : Decl) ∈ classScope st :=
  List.mem_append_right _ (List.mem_map.mpr ⟨e, he, rfl⟩)

theorem param_named_like_member (st : Struct) (p : Name) (hp : p ∈ st.params)
    (hm : p ++ s "_" ∈ fixedMembers st) : clean (classScope st) = false :=
  not_clean_of_mem _ _ (fixed_mem st _ hm) (param_member_mem st p hp) (by simp) rfl rfl

/-! ## the namespace scope: members and clashes -/

theorem mem_zipIdx {α : Type} (l : List α) (a : α) (h : a ∈ l) : ∃ i, (a, i) ∈ zipIdx l := by
  unfold zipIdx
  obtain ⟨k, hk, rfl⟩ := List.mem_iff_getElem.mp h
  refine ⟨k, ?_⟩
  rw [List.mem_iff_getElem]
  exact ⟨k, by simpa using hk, by simp⟩

theorem structDecl_mem (sc : Scope) (n : Name) (hn : n ∈ sc.structs) :
    ∃ i, ∀ d ∈ structDecls n i, d ∈ namespaceScope sc := by
  obtain ⟨i, hi⟩ := mem_zipIdx sc.structs n hn
  refine ⟨i, fun d hd => ?_⟩
  unfold namespaceScope
  exact List.mem_append_left _ (List.mem_append_left _ (List.mem_append_left _ (List.mem_flatMap.mpr ⟨(n, i), hi, hd⟩)))

theorem enumDecl_mem (sc : Scope) (e : Name) (he : e ∈ sc.enums) :
    ∀ d ∈ enumDecls e sc.traits, d ∈ namespaceScope sc := by
  intro d hd
  unfold namespaceScope
  exact List.mem_append_left _ (List.mem_append_left _ (List.mem_append_right _ (List.mem_flatMap.mpr ⟨e, he, hd⟩)))

theorem constant_fn_mem (sc : Scope) (st : Struct) (f : Field) (c : Name) (ho : sc.owner = some st)
    (hf : f ∈ st.fields) (hc : f.constant = true) (hcpp : cppFieldName f.name = some c) :
    ({ ident := c, what := "constant function" } : Decl) ∈ namespaceScope sc := by
  unfold namespaceScope
  rw [ho]
  exact List.mem_append_left _ (List.mem_append_right _ (List.mem_flatMap.mpr ⟨f, hf, by simp [hc, hcpp]⟩))

theorem enum_clash (sc : Scope) (e : Name) (he : e ∈ sc.enums) (d : Decl) (hd : d ∈ namespaceScope sc)
    (hi : d.ident = e) (hw : d.what ≠ "enum") : clean (namespaceScope sc) = false :=
  not_clean_of_mem { ident := e, what := "enum" } d (enumDecl_mem sc e he _ (by simp [enumDecls])) hd hw.symm
    hi.symm rfl

/-- An enum named like one of the identifiers a structure of the same scope gives rise to (the
`EmbossReservedInternalIsGeneric…` trait apart). -/
theorem struct_enum_clash (sc : Scope) (n e : Name) (hn : n ∈ sc.structs) (he : e ∈ sc.enums)
    (hx : e ∈ [n ++ s "View", n ++ s "Writer", s "Generic" ++ n ++ s "View", s "Make" ++ n ++ s "View",
      s "MakeAligned" ++ n ++ s "View", n]) : clean (namespaceScope sc) = false := by
  obtain ⟨i, hS⟩ := structDecl_mem sc n hn
  -- for the whole list at once: each unfolding of `structDecls` compares the `what` strings
  obtain ⟨d, hd, hi, hw⟩ :=
    (show ∀ x ∈ _, ∃ d ∈ structDecls n i, d.ident = x ∧ d.what ≠ "enum" by simp [structDecls]) e hx
  exact enum_clash sc e he d (hS d hd) hi hw

theorem struct_and_enum_of_one_name (sc : Scope) (n : Name) (hs : n ∈ sc.structs) (he : n ∈ sc.enums) :
    clean (namespaceScope sc) = false :=
  struct_enum_clash sc n n hs he (by simp)

theorem enum_helper_clash (sc : Scope) (e : Name) (ht : sc.traits = true) (he : e ∈ sc.enums)
    (hx : e ∈ [s "EnumTraits", s "TryToGetEnumFromName", s "TryToGetNameFromEnum", s "EnumIsKnown"]) :
    clean (namespaceScope sc) = false := by
  obtain ⟨d, hd, hi, hw⟩ :=
    (show ∀ x ∈ _, ∃ d ∈ enumDecls e true, d.ident = x ∧ d.what ≠ "enum" by simp [enumDecls]) e hx
  exact enum_clash sc e he d (enumDecl_mem sc e he d (ht ▸ hd)) hi hw

/-! ## clashes in the scopes a structure's `<Struct>::…` references are looked up in -/

theorem struct_named_storage (st : Struct) (h : st.name = s "Storage") : clean (typeRefScope st) = false :=
  not_clean_of_mem { ident := st.name, what := "own namespace reference" }
    { ident := s "Storage", what := "captures reference" } (by simp [typeRefScope]) (by simp [typeRefScope])
    (by simp) h rfl

theorem struct_named_valuetype (st : Struct) (h : st.name = s "ValueType") : clean (nestedRefScope st) = false :=
  not_clean_of_mem { ident := st.name, what := "own namespace reference" }
    { ident := s "ValueType", what := "captures reference" } (by simp [nestedRefScope]) (by simp [nestedRefScope])
    (by simp) h rfl

theorem nested_enum_named_like_struct (st : Struct) (h : st.name ∈ st.nestedEnums) :
    clean (typeRefScope st) = false :=
  not_clean_of_mem { ident := st.name, what := "own namespace reference" }
    { ident := st.name, what := "using <enum>" } (by simp [typeRefScope])
    (List.mem_append_right _ (List.mem_map.mpr ⟨_, h, rfl⟩)) (by simp) rfl rfl

/-! ## the back end's loop -/

/-- Two declarations compatible with the first declaration of their identifier are compatible
with each other (they are in its overload set). -/
theorem compatible_trans_ident (e d x : Decl) (hed : compatible e d = true) (hi : e.ident = d.ident)
    (hex : compatible e x = true) : compatible d x = true := by
  rw [compatible_iff] at *
  intro hx
  obtain ⟨g, hg, hd⟩ := hed hi
  obtain ⟨g', hg', hx'⟩ := hex (hi.trans hx)
  rw [hg] at hg'
  cases hg'
  exact ⟨g, hd, hx'⟩

theorem compatible_of_ne (a b : Decl) (h : a.ident ≠ b.ident) : compatible a b = true :=
  (compatible_iff a b).mpr fun e => absurd e h

theorem checkLoop_iff (ds : List Decl) : ∀ seen : List Decl,
    seen.Pairwise (fun a b => a.ident ≠ b.ident) →
    (checkLoop seen ds = true ↔ (seen ++ ds).Pairwise (fun a b => compatible a b = true)) := by
  induction ds with
  | nil => intro seen hs; simpa [checkLoop] using hs.imp (compatible_of_ne _ _)
  | cons d ds ih =>
    intro seen hs
    unfold checkLoop
    cases hf : seen.find? (fun e => e.ident == d.ident) with
    | none =>
      have hne : ∀ e ∈ seen, e.ident ≠ d.ident := fun e he => by
        simpa using List.find?_eq_none.mp hf e he
      have hs' : (seen ++ [d]).Pairwise (fun a b => a.ident ≠ b.ident) :=
        List.pairwise_append.mpr ⟨hs, List.pairwise_singleton _ _,
          fun a ha b hb => List.mem_singleton.mp hb ▸ hne a ha⟩
      simp only []
      rw [ih _ hs', List.append_assoc, List.singleton_append]
    | some e =>
      have hem : e ∈ seen ++ ds := List.mem_append_left _ (List.mem_of_find?_eq_some hf)
      have hei : e.ident = d.ident := by simpa using List.find?_some hf
      -- the order within a scope does not matter: move `d` to the front; it is compatible with
      -- everything iff it is with the first declaration `e` of its identifier
      simp only [Bool.and_eq_true]
      rw [ih _ hs, List.pairwise_middle compatible_symm, List.pairwise_cons]
      refine and_congr_left fun hp => ⟨fun hed x hx => ?_, fun h => compatible_symm (h e hem)⟩
      by_cases h : e = x
      · exact h ▸ compatible_symm hed
      · exact compatible_trans_ident e d x hed hei
          (pairwise_mem_ne compatible_symm hp hem hx h)

theorem checkLoop_eq_clean (ds : List Decl) : checkLoop [] ds = clean ds := by
  rw [Bool.eq_iff_iff, checkLoop_iff ds [] .nil, clean_iff, List.nil_append]

theorem identifiersDistinct_iff (scopes : List (List Decl)) :
    identifiersDistinct scopes = true ↔ ∀ sc ∈ scopes, clean sc = true := by
  simp only [identifiersDistinct, List.all_eq_true, checkLoop_eq_clean]

end Emboss.Names
