/-
What the model returns (C01/C20): the lookups `Module.find`, `StructDef.field`, `constInt?`; what
`moduleWF` (split as the driver prints it, `fieldWF_eq_and`) and `moduleNoArrays` say of one
structure or field; the equations of `step` by component and shape of the path; for each
ingredient of an accessor, when it returns `some` (for `subView` through `realSub`, the view over
real storage, in namespace `Emboss.ViewRef` with its users).
-/
import Emboss.Model.View
namespace Emboss.View

theorem eval_constInt {env : Env} {e : Expr} {k : Int} (hk : constInt? e = some k) :
    eval env e = some (.int k) := by
  cases e with
  | const v => cases v <;> simp_all [constInt?, eval]
  | fold v e => cases v <;> simp_all [constInt?, eval]
  | _ => simp [constInt?] at hk

theorem evalInt_constInt {env : Env} {size : Expr} {k : Int} (hk : constInt? size = some k) :
    evalInt env size = some k := by
  unfold evalInt
  rw [eval_constInt hk]

theorem find_mem {m : Module} {name : String} {sd : StructDef} (h : m.find name = some sd) :
    sd ∈ m.structs := by
  unfold Module.find at h
  exact List.mem_of_find?_eq_some h

theorem find_wf {m : Module} (hm : moduleWF m = true) {name : String} {sd : StructDef}
    (h : m.find name = some sd) : structWF m sd = true :=
  List.all_eq_true.mp hm sd (find_mem h)

theorem field_mem {sd : StructDef} {x : String} {f : Field} (h : sd.field x = some f) :
    f ∈ sd.fields := by
  unfold StructDef.field at h
  exact List.mem_of_find?_eq_some h

theorem field_wf {m : Module} {sd : StructDef} (hwf : structWF m sd = true) {x : String} {f : Field}
    (h : sd.field x = some f) : fieldWF m sd.unit f = true :=
  List.all_eq_true.mp hwf f (field_mem h)

theorem find_noarr {m : Module} (hm : moduleNoArrays m = true) {name : String} {sd : StructDef}
    (h : m.find name = some sd) : structNoArrays sd = true :=
  List.all_eq_true.mp hm sd (find_mem h)

theorem field_noarr {sd : StructDef} (h : structNoArrays sd = true) {x : String} {f : Field}
    (hf : sd.field x = some f) : fieldNoArray f = true :=
  List.all_eq_true.mp h f (field_mem hf)

theorem fieldWF_eq_and (m : Module) (unit : Nat) (f : Field) :
    fieldWF m unit f = (fieldConstMatch m unit f && fieldNoDynFixed m unit f) := by
  unfold fieldWF fieldConstMatch fieldNoDynFixed fixedBitsIn
  cases f.kind with
  | alias t => rfl
  | virt a b => rfl
  | phys start size ty bo =>
    cases ty with
    | array a b => rfl
    | scalar k bits req =>
      by_cases hu : unit = 8
      · cases hc : constInt? size <;> simp [hu, hc]
      · simp [hu]
    | struct name bits args =>
      by_cases hu : unit = 8
      · cases hfind : m.find name with
        | none => simp [hu, hfind]
        | some sd =>
          by_cases hu' : sd.unit = 8
          · simp [hu, hu', hfind]
          · cases hc : constInt? size <;> simp [hu, hu', hfind, hc]
      · simp [hu]

/-- a field that holds a bit-addressed type has the constant size of that type -/
theorem fieldWF_fixed {m : Module} {u : Nat} {f : Field} {size : Expr} {bits : Nat}
    (hf : fieldWF m u f = true) (hb : fixedBitsIn m u f = some (size, bits)) :
    ∃ c : Int, constInt? size = some c ∧ c.toNat * 8 = bits := by
  rw [fieldWF_eq_and, Bool.and_eq_true, fieldConstMatch, fieldNoDynFixed, hb] at hf
  obtain ⟨c, hc⟩ := Option.isSome_iff_exists.mp hf.2
  have h1 := hf.1
  simp only [hc, Bool.and_eq_true, beq_iff_eq] at h1
  exact ⟨c, hc, h1.2⟩

theorem physStorage_some {o : Oracle} {w : SView} {f : Field} {start size : Expr} {st : Storage}
    (h : physStorage o w f start size = some st) :
    ∃ off s : Int, hasField o w f = some true ∧ evalInt (envOf o w none) size = some s ∧
      evalInt (envOf o w none) start = some off ∧ 0 ≤ s ∧ 0 ≤ off ∧ st = w.st.sub off.toNat s.toNat := by
  unfold physStorage at h
  split at h
  · rename_i s off hh hs hst
    split at h
    · rename_i hc
      cases h
      exact ⟨off, s, hh, hs, hst, hc.1, hc.2, rfl⟩
    · cases h
  · cases h

theorem physStorage_of {o : Oracle} {w : SView} {f : Field} {start size : Expr} {off s : Int}
    (h1 : hasField o w f = some true) (h2 : evalInt (envOf o w none) size = some s)
    (h3 : evalInt (envOf o w none) start = some off) (hs : 0 ≤ s) (hoff : 0 ≤ off) :
    physStorage o w f start size = some (w.st.sub off.toNat s.toNat) := by
  unfold physStorage
  simp only [h1, h2, h3]
  rw [if_pos ⟨hs, hoff⟩]

theorem leafRead_bits {o : Oracle} {w : SView} {k : ScalarKind} {bits : Nat} {req : Option Expr}
    {r : Option Nat} {n : Nat} {v : Val} (h : leafRead o w k bits req (.bits r n) = some v) :
    ∃ raw, r = some raw ∧ leafSizeOk k bits n = true ∧ scalarDecode k bits raw = some v ∧
      valueIsOk o w req v = true := by
  cases r with
  | none => cases h
  | some raw =>
    simp only [leafRead] at h
    split at h
    · next hs =>
      split at h
      · next x hd =>
        split at h
        · next hok => cases h; exact ⟨raw, rfl, hs, hd, hok⟩
        · cases h
      · cases h
    · cases h

theorem leafRead_of {o : Oracle} {w : SView} {k : ScalarKind} {bits : Nat} {req : Option Expr}
    {raw n : Nat} {v : Val} (hs : leafSizeOk k bits n = true) (hd : scalarDecode k bits raw = some v)
    (hok : valueIsOk o w req v = true) : leafRead o w k bits req (.bits (some raw) n) = some v := by
  simp only [leafRead, hs, hd, hok, ↓reduceIte]

theorem virtRead_eq_some {o : Oracle} {w : SView} {value : Expr} {req : Option Expr} {v : Val} :
    virtRead o w value req = some v ↔
      eval (envOf o w none) value = some v ∧ valueIsOk o w req v = true := by
  unfold virtRead
  cases eval (envOf o w none) value with
  | none => exact ⟨nofun, fun h => nomatch h.1⟩
  | some x =>
    dsimp only
    constructor
    · intro h
      split at h
      · next hok => cases h; exact ⟨rfl, hok⟩
      · cases h
    · rintro ⟨hx, hok⟩
      cases hx
      exact if_pos hok

section stepEqs
variable (m : Module) (o : Oracle) (w : SView) {x : String} {f : Field} (hf : w.sd.field x = some f)
include hf

theorem step_read_cons (rest : List String) :
    (step m o).read w (x :: rest) =
      match f.kind, rest with
      | .phys start size (.scalar k bits req) bo, [] =>
        match physStorage o w f start size with
        | some st => leafRead o w k bits req (st.adaptFor w.sd.unit 1 bo bits)
        | none => none
      | .phys start size (.struct name bits args) bo, _ :: _ =>
        match subView o m w f start size name bits args bo with
        | some w' => o.read w' rest
        | none => none
      | .virt value req, [] => virtRead o w value req
      | .alias target, _ => if hasField o w f = some true then o.read w (target ++ rest) else none
      | _, _ => none := by
  unfold step
  simp only [hf]
  rfl

omit hf in
theorem step_no_field (hf : w.sd.field x = none) (rest : List String) :
    (step m o).read w (x :: rest) = none ∧ (step m o).has w (x :: rest) = none := by
  unfold step
  simp only [hf, and_self]

theorem step_has_nil : (step m o).has w [x] = hasField o w f := by
  unfold step
  simp only [hf]

theorem step_has_cons (y : String) (ys : List String) :
    (step m o).has w (x :: y :: ys) =
      match f.kind with
      | .phys start size (.struct name bits args) bo =>
        match subView o m w f start size name bits args bo with
        | some w' => o.has w' (y :: ys)
        | none => none
      | .alias target => if hasField o w f = some true then o.has w (target ++ y :: ys) else none
      | _ => none := by
  unfold step
  simp only [hf]
  rfl

theorem step_okAt_scalar {start size : Expr} {k : ScalarKind} {bits : Nat} {req : Option Expr}
    {bo : ByteOrder} (hk : f.kind = .phys start size (.scalar k bits req) bo) :
    (step m o).okAt w [x] = ((step m o).read w [x]).isSome := by
  unfold step
  simp only [hf, hk, argsKnown, typeOk, Bool.true_and]
  cases physStorage o w f start size <;> rfl

end stepEqs

theorem step_okAt_nil_iff {m : Module} {o : Oracle} {w : SView} :
    (step m o).okAt w [] = true ↔
      (∃ sz : Int, o.read w [w.sd.sizeField] = some (.int sz) ∧ w.st.ok = true ∧ sz ≤ w.st.size) ∧
      (w.sd.params.isEmpty = true ∨ w.params.isSome = true) ∧
      (∀ f ∈ w.sd.fields, o.has w [f.name] = some false ∨
        o.has w [f.name] = some true ∧ o.okAt w [f.name] = true) ∧
      (∀ r, w.sd.requires = some r → evalBool (envOf o w none) r = some true) := by
  dsimp only [step]
  simp only [Bool.and_eq_true, Bool.or_eq_true, List.all_eq_true]
  rw [and_assoc, and_assoc]
  -- clause by clause: `IsComplete()`, parameters (same on both sides), fields, `[requires]`
  refine and_congr ?_ (and_congr Iff.rfl (and_congr (forall₂_congr fun f _ => ?_) ?_))
  · cases o.read w [w.sd.sizeField] with
    | none => simp
    | some v => cases v <;> simp
  · cases o.has w [f.name] with
    | none => simp
    | some b => cases b <;> simp
  · cases w.sd.requires <;> simp

end Emboss.View

namespace Emboss.ViewRef
open Emboss.View

/-- the view a structure-typed accessor returns when it returns real storage -/
def realSub (o : Oracle) (m : Module) (w : SView) (f : Field) (start size : Expr) (name : String)
    (bits : Nat) (args : Exprs) (bo : ByteOrder) : Option SView :=
  match m.find name, evalArgs (envOf o w none) args, physStorage o w f start size with
  | some sd', some vs, some st =>
    some { sd := sd', params := some vs, st := st.adaptFor w.sd.unit sd'.unit bo bits }
  | _, _, _ => none

section accessor
variable {o : Oracle} {m : Module} {w : SView} {f : Field} {start size : Expr} {name : String}
  {bits : Nat} {args : Exprs} {bo : ByteOrder} {w' : SView}

theorem realSub_some (h : realSub o m w f start size name bits args bo = some w') :
    ∃ sd' vs st, m.find name = some sd' ∧ evalArgs (envOf o w none) args = some vs ∧
      physStorage o w f start size = some st ∧
      w' = { sd := sd', params := some vs, st := st.adaptFor w.sd.unit sd'.unit bo bits } := by
  unfold realSub at h
  split at h
  · next sd' vs st hfind ha hp => exact ⟨sd', vs, st, hfind, ha, hp, (Option.some.inj h).symm⟩
  · cases h

theorem subView_inv (h : subView o m w f start size name bits args bo = some w') :
    ∃ sd', m.find name = some sd' ∧
      (realSub o m w f start size name bits args bo = some w' ∨ w' = nullView sd') := by
  unfold subView at h
  unfold realSub
  split at h
  · cases h
  · next sd' hfind =>
    refine ⟨sd', hfind, ?_⟩
    split at h
    · next vs st ha hp => left; simp only [hfind, ha, hp]; exact h
    · exact Or.inr (Option.some.inj h).symm

end accessor

theorem realSub_subView {o : Oracle} {m : Module} {w : SView} {f : Field} {start size : Expr}
    {name : String} {bits : Nat} {args : Exprs} {bo : ByteOrder} {w' : SView}
    (h : realSub o m w f start size name bits args bo = some w') :
    subView o m w f start size name bits args bo = some w' := by
  obtain ⟨sd', vs, st, hfind, ha, hp, rfl⟩ := realSub_some h
  simp only [subView, hfind, ha, hp]

end Emboss.ViewRef
