/-
Soundness and safety of the shift-reduce driver over a validated table: the stack
invariant `StackInv` (`Linked`: adjacent stack states are connected by checked transitions, trees
are parse trees; and the yields of the stack are the consumed input) is preserved by `step`, rules
out every `internal` outcome, makes an accepted tree a derivation of the input, and holds of
the configuration at which an error is reported (`StepPost`, `run_post`).
-/
import Emboss.Lemmas.Lr1Basic
namespace Emboss.Lr1

variable {G : Grammar} {A : Automaton} {C : Cert}

theorem yieldL_eq (cs : List Tree) : Tree.yieldL cs = cs.flatMap Tree.yield := by
  induction cs with
  | nil => rfl
  | cons c cs ih => rw [Tree.yieldL, ih, List.flatMap_cons]

/-- the tokens under the trees of a stack (top first), in input order -/
def stackYield (st : List (Nat × Tree)) : List Token := Tree.yieldL ((st.map (·.2)).reverse)

theorem stackYield_cons (e : Nat × Tree) (st : List (Nat × Tree)) :
    stackYield (e :: st) = stackYield st ++ e.2.yield := by
  simp [stackYield, yieldL_eq]

def Linked (G : Grammar) (A : Automaton) (C : Cert) : List (Nat × Tree) → Prop
  | [] => True
  | (s, t) :: rest =>
    TargetOK (listMem C) A C (topState rest) t.root s ∧ ParseTree G t ∧ Linked G A C rest

theorem Linked.drop : ∀ {st : List (Nat × Tree)} (n : Nat), Linked G A C st → Linked G A C (st.drop n)
  | _, 0, h => h
  | [], _ + 1, _ => trivial
  | _ :: _, n + 1, h => Linked.drop n h.2.2

theorem Linked.trees : ∀ {st : List (Nat × Tree)}, Linked G A C st → ∀ e ∈ st, ParseTree G e.2
  | [], _ => nofun
  | (_, _) :: _, h => List.forall_mem_cons.mpr ⟨h.2.1, Linked.trees h.2.2⟩

/-- An item with the dot after `d` symbols sits on top of `d` stack entries whose roots are
those symbols, and its dot-0 version is in the state below them. -/
theorem chain (hv : Valid G A C) : ∀ {d : Nat} {st : List (Nat × Tree)}, Linked G A C st →
    ∀ {pi la : Nat} {p : Rule}, (⟨pi, d, la⟩ : Item) ∈ C.itemsOf (topState st) → C.ruleAt pi = some p →
      d ≤ st.length ∧ ((st.take d).map (fun e => e.2.root)).reverse = p.rhs.take d ∧
      (⟨pi, 0, la⟩ : Item) ∈ C.itemsOf (topState (st.drop d))
  | 0, st, _, pi, la, p, hit, _ => by simpa using hit
  | d + 1, [], _, pi, la, p, hit, _ => by
    have := hv.start.2 _ hit
    simp at this
  | d + 1, (s, t) :: rest, hl, pi, la, p, hit, hp => by
    obtain ⟨⟨p', hp', hx⟩, hm⟩ := (hl.1.2.2 _ hit).2 (Nat.succ_ne_zero d)
    cases hp.symm.trans hp'
    simp only [Nat.add_sub_cancel] at hx hm
    have ih := chain hv hl.2.2 hm hp
    refine ⟨by simp; exact ih.1, ?_, by simpa using ih.2.2⟩
    simp only [List.take_succ_cons, List.map_cons, List.reverse_cons, ih.2.1]
    rw [List.take_add_one, hx]; rfl

/-- Induction along the justification order of an item list: a property `P` of items and a property
`R` of symbols are proved together.  Kernel and seed items have `P` outright (`hk`); `P it` gives `R` of
the symbol after the dot of `it` (`hr`); `R` of its left-hand side gives `P` of a closure item (`hc`). -/
theorem justOrder_induct {P : Item → Prop} {R : Nat → Prop}
    (hr : ∀ it, P it → ∀ x ∈ C.nextSyms it, R x) :
    ∀ {seen : List Nat} {l : List Item}, JustOrder C seen l → (∀ x ∈ seen, R x) →
      (∀ it ∈ l, (it.dot ≠ 0 ∨ it.pi = C.seedIdx) → P it) →
      (∀ it ∈ l, it.dot = 0 → it.pi ≠ C.seedIdx → ∀ p, C.ruleAt it.pi = some p → R p.lhs → P it) →
      ∀ it ∈ l, P it
  | _, [], _, _, _, _, it, h => by cases h
  | seen, x :: rest, hj, hs, hk, hc, it, h => by
    have hPx : P x := by
      by_cases h0 : x.dot = 0
      · by_cases hsd : x.pi = C.seedIdx
        · exact hk x List.mem_cons_self (Or.inr hsd)
        · rcases hj.1 h0 with e | ⟨p, hp, hm⟩
          · exact absurd e hsd
          · exact hc x List.mem_cons_self h0 hsd p hp (hs _ hm)
      · exact hk x List.mem_cons_self (Or.inl h0)
    rcases List.mem_cons.mp h with rfl | h
    · exact hPx
    · refine justOrder_induct hr hj.2 ?_ (fun it h' => hk it (List.mem_cons_of_mem _ h'))
        (fun it h' => hc it (List.mem_cons_of_mem _ h')) it h
      intro y hy
      rcases List.mem_append.mp hy with hy | hy
      · exact hr x hPx y hy
      · exact hs y hy

theorem justOrder_mem {l : List Item} (hj : JustOrder C [] l) {it : Item} (hit : it ∈ l)
    (h0 : it.dot = 0) (hs : it.pi ≠ C.seedIdx) :
    ∃ p, C.ruleAt it.pi = some p ∧ ∃ jt ∈ l, p.lhs ∈ C.nextSyms jt :=
  (justOrder_induct (R := fun x => ∃ jt ∈ l, x ∈ C.nextSyms jt)
    (P := fun it => it ∈ l ∧ (it.dot = 0 → it.pi ≠ C.seedIdx →
      ∃ p, C.ruleAt it.pi = some p ∧ ∃ jt ∈ l, p.lhs ∈ C.nextSyms jt))
    (fun it h _ hx => ⟨it, h.1, hx⟩) hj nofun
    (fun _ hit hk => ⟨hit, fun h0 hs => (hk.elim (· h0) (hs ·)).elim⟩)
    (fun _ hit _ _ p hp hR => ⟨hit, fun _ _ => ⟨p, hp, hR⟩⟩) it hit).2 h0 hs

theorem goto_defined (hv : Valid G A C) {s pi la : Nat} {p : Rule}
    (hit : (⟨pi, 0, la⟩ : Item) ∈ C.itemsOf s) (hpi : pi < C.seedIdx) (hp : C.ruleAt pi = some p) :
    ∃ s', A.gotoOf s p.lhs = some s' ∧ TargetOK (listMem C) A C s p.lhs s' := by
  have hs := Cert.lt_of_mem hit
  obtain ⟨p', hp', jt, hjt, hm⟩ := justOrder_mem (hv.order s hs) hit rfl (Nat.ne_of_lt hpi)
  cases hp.symm.trans hp'
  obtain ⟨s', hs', _⟩ := (hv.trans s hs jt hjt p.lhs hm).1 (hv.isNT_lhs (Cert.ruleAt_mem hv.rules_eq hp))
  obtain ⟨hlt, hmem⟩ := Automaton.gotoOf_mem hs'
  exact ⟨s', hs', hv.kernel.2 s hlt _ hmem⟩

def StackInv (G : Grammar) (A : Automaton) (C : Cert) (w : List Token) (c : Config) : Prop :=
  Linked G A C c.stack ∧ stackYield c.stack = w.take c.cursor

/-- The error case keeps `StackInv` of the stack at which the error is reported: the error position
(`Linked.viable`, Lemmas/Lr1Error.lean) is read off that stack. -/
def StepPost (G : Grammar) (A : Automaton) (C : Cert) (w : List Token) : StepOut → Prop
  | .next c' => StackInv G A C w c'
  | .done (.accept t) => Derives G t w
  | .done (.error _ i _ _) => ∃ st, StackInv G A C w ⟨st, i⟩
  | .done (.internal _) => False
  | .done .outOfFuel => True

theorem row_present (hv : Valid G A C) {st : List (Nat × Tree)} (hl : Linked G A C st) :
    A.strict = true → (A.row (topState st)).isSome = true := by
  cases st with
  | nil => exact hv.row0
  | cons e rest => obtain ⟨s, t⟩ := e; exact hl.1.2.1

theorem step_post (hv : Valid G A C) (w : List Token) (c : Config) (hi : StackInv G A C w c) :
    StepPost G A C w (step A w c) := by
  obtain ⟨hl, hy⟩ := hi
  cases hact : nextAction A w (topState c.stack) c.cursor with
  | shift s' =>
    rw [step_shift hact]
    obtain ⟨hcl, he⟩ := nextAction_nonerror hact rfl
    obtain ⟨hlt, r, hr, hmem⟩ := Automaton.entry_mem he
    have hj := hv.actJust _ hlt r hr _ hmem
    have hk := hv.kernel.1 _ hlt r hr _ hmem s' rfl
    cases hw : w[c.cursor]? with
    | none =>
      exfalso
      have : lookahead A w c.cursor = A.eoi := by simp [lookahead, hw]
      exact hj.2 (by rw [this, hv.eoi_eq])
    | some t =>
      have hla : lookahead A w c.cursor = t.sym := by simp [lookahead, hw]
      simp only [StepPost, StackInv]
      refine ⟨⟨?_, ?_, hl⟩, ?_⟩
      · rw [hla] at hk; exact hk
      · refine ParseTree.leaf t ?_
        rw [← hv.isNT, ← hla]; exact hj.1
      · rw [stackYield_cons, hy, List.take_add_one, hw]
        rfl
  | accept =>
    rw [step_accept hact]
    obtain ⟨hcl, he⟩ := nextAction_nonerror hact rfl
    obtain ⟨hlt, r, hr, hmem⟩ := Automaton.entry_mem he
    have hj := (hv.actJust _ hlt r hr _ hmem).2
    obtain ⟨hla, hit⟩ := hj
    have hc := chain hv hl hit (Cert.ruleAt_seed hv.rules_eq)
    obtain ⟨hlen, hroots, hbelow⟩ := hc
    match hst : c.stack with
    | [] => rw [hst] at hlen; simp at hlen
    | [(s, t)] =>
      have hla' : lookahead A w c.cursor = A.eoi := by rw [hv.eoi_eq]; exact hla
      simp only [if_pos hla', StepPost]
      rw [hst] at hroots hy hl
      refine ⟨hl.2.1, ?_, ?_⟩
      · simpa [Grammar.seed] using hroots
      · rw [List.take_of_length_le (length_le_of_eoi hcl hla')] at hy
        simpa [stackYield, Tree.yieldL] using hy
    | (s, t) :: (s2, t2) :: rest =>
      -- `chain` puts the dot-0 seed item into `s2`, a transition target: `TargetOK` forbids it there
      exfalso
      rw [hst] at hbelow hl
      have := (hl.2.2.1.2.2 _ hbelow).1 rfl
      exact this rfl
  | reduce pi =>
    rw [step_reduce hact]
    obtain ⟨hcl, he⟩ := nextAction_nonerror hact rfl
    obtain ⟨hlt, r, hr, hmem⟩ := Automaton.entry_mem he
    obtain ⟨hpi, p, hp, hit⟩ := (hv.actJust _ hlt r hr _ hmem).2
    have hp' : C.ruleAt pi = some p := hp
    obtain ⟨hpm, hAp⟩ := hv.ruleAt_user hpi hp'
    obtain ⟨hlen, hroots, hbelow⟩ := chain hv hl hit hp'
    obtain ⟨s', hg, htgt⟩ := goto_defined hv hbelow hpi hp'
    simp only [hAp, hlen, if_true, hg, StepPost, StackInv]
    refine ⟨⟨htgt, ?_, hl.drop _⟩, ?_⟩
    · refine ParseTree.node p _ hpm ?_ ?_
      · intro t ht
        simp only [List.mem_reverse, List.mem_map] at ht
        obtain ⟨e, he, rfl⟩ := ht
        exact hl.trees e (List.mem_of_mem_take he)
      · rw [List.take_length] at hroots
        refine Eq.trans ?_ hroots
        rw [List.map_reverse, List.map_map]; rfl
    · rw [stackYield_cons, Tree.yield, ← hy, stackYield, stackYield, yieldL_eq, yieldL_eq, yieldL_eq, ← List.flatMap_append,
        ← List.reverse_append, ← List.map_append, List.take_append_drop]
  | error code =>
    rw [step_error hact, if_pos (row_present hv hl)]
    exact ⟨c.stack, hl, hy⟩


theorem stackInv_init (w : List Token) : StackInv G A C w init := ⟨trivial, rfl⟩

theorem runFrom_post (hv : Valid G A C) (w : List Token) (f : Nat) (c : Config) :
    StackInv G A C w c → StepPost G A C w (.done (runFrom A w f c)) := by
  fun_induction runFrom A w f c with
  | case1 => exact fun _ => trivial
  | case2 f c c' hs ih => exact fun hi => ih (show StepPost G A C w (.next c') from hs ▸ step_post hv w c hi)
  | case3 f c r hs => exact fun hi => hs ▸ step_post hv w c hi

theorem run_post (hv : Valid G A C) {w : List Token} {fuel : Nat} {r : Result} (h : run A fuel w = r) :
    StepPost G A C w (.done r) :=
  h ▸ runFrom_post hv w fuel init (stackInv_init w)

end Emboss.Lr1
