/-
Completeness of the generated-code model `G` w.r.t. the reference `RFact`: every fact of R is
reported by `G` once the fuel statically covers the path (`need`).
-/
import Emboss.Lemmas.ViewRef
namespace Emboss.ViewRef
open Emboss.View

theorem reqLocal_of_find {m : Module} (hm : reqLocalModule m = true) {name : String} {sd : StructDef}
    (h : m.find name = some sd) : reqLocal sd = true := by
  unfold reqLocalModule at hm
  simp only [List.all_eq_true] at hm
  exact hm sd (find_mem h)

theorem reqLocal_of_field {sd : StructDef} (hloc : reqLocal sd = true) {x : String} {f : Field}
    (hf : sd.field x = some f) : reqLocalField f = true := by
  unfold reqLocal at hloc
  simp only [List.all_eq_true] at hloc
  exact hloc f (field_mem hf)

section need
variable {m : Module} {n : Nat} {sd : StructDef} {x : String} {rest : List String} {f : Field}
  (hf : sd.field x = some f) (h : need m (n + 1) sd (x :: rest) = true)
include hf h

theorem need_refs : ∀ r ∈ fieldRefs f, need m n sd r = true := by
  simp only [need, hf, Bool.and_eq_true, List.all_eq_true] at h
  exact h.1

theorem need_struct {sd' : StructDef} {start size : Expr} {name : String} {bits : Nat} {args : Exprs}
    {bo : ByteOrder} (hk : f.kind = .phys start size (.struct name bits args) bo)
    (hfind : m.find name = some sd') : need m n sd' rest = true := by
  simp only [need, hf, hk, Bool.and_eq_true, List.all_eq_true, ptypeStructs, List.mem_singleton,
    forall_eq, hfind] at h
  exact h.2

theorem need_alias {t : List String} (hk : f.kind = .alias t) : need m n sd (t ++ rest) = true := by
  simp only [need, hf, hk, Bool.and_eq_true, List.all_eq_true] at h
  exact h.2

end need

theorem val_path_ne_nil {m : Module} {w : SView} {v : Val} (h : RFact m w (.val [] v)) : False := by
  cases h with
  | sub ρ hf' hk' hfind hpres hr hh hp hl hs hz hs0 hz0 hargs hsub hout => rename_i inner; cases inner <;> cases hout
  | nullsub hf' hk' hfind hsub hout => rename_i inner; cases inner <;> cases hout

theorem pres_path_ne_nil {m : Module} {w : SView} {b : Bool} (h : RFact m w (.pres [] b)) : False := by
  cases h with
  | sub ρ hf' hk' hfind hpres hr hh hp hl hs hz hs0 hz0 hargs hsub hout => rename_i inner; cases inner <;> cases hout
  | nullsub hf' hk' hfind hsub hout => rename_i inner; cases inner <;> cases hout

theorem eval_of_evalR {ρ ρ' : Env} {e : Expr} (hle : LeOn (exprRefs e) ρ ρ') (hff : foldFree e = true)
    {v : Val} (h : evalR ρ e = some v) : eval ρ' e = some v :=
  eval_le_on e hle v (by rw [← evalR_eq_eval hff]; exact h)

theorem evalArgs_of_evalArgsR {ρ ρ' : Env} {es : Exprs} (hle : LeOn (exprsRefs es) ρ ρ')
    (hff : foldFreeList es = true) {vs : List Val} (h : evalArgsR ρ es = some vs) :
    evalArgs ρ' es = some vs :=
  evalArgs_le_on es hle vs (by rw [← evalArgsR_eq _ _ hff]; exact h)

/-- `o` reports every value and presence fact of R about `w` on the paths fuel `n` covers -/
def Reports (m : Module) (o : Oracle) (n : Nat) (w : SView) : Prop :=
  (∀ p v, RFact m w (.val p v) → need m n w.sd p = true → o.read w p = some v) ∧
  (∀ p b, RFact m w (.pres p b) → need m n w.sd p = true → o.has w p = some b)

section factEnv
variable {m : Module} {o : Oracle} {n : Nat} {w : SView} {ρ : Env} (E : FactEnv m w ρ)
  (ho : Reports m o n w)
include E

theorem FactEnv.requires {req : Option Expr} {v : Val} (hff : foldFreeOpt req = true)
    (hloc : (optRefs req).isEmpty = true) (h : requiresOk ρ req v) : valueIsOk o w req v = true := by
  cases req with
  | none => rfl
  | some r =>
    simp only [optRefs, List.isEmpty_iff] at hloc
    have hle : LeOn (exprRefs r) { ρ with lv := some v } (envOf o w (some v)) := by
      rw [hloc]
      exact ⟨fun _ hq => (nomatch hq), fun _ hq => (nomatch hq), E.param, OLe.refl _⟩
    simp only [valueIsOk, evalBool, eval_of_evalR hle hff (h r rfl), beq_self_eq_true]

include ho

/-- the field's single expressions are reached by `LeOn.left` / `LeOn.right` -/
theorem FactEnv.le {x : String} {rest : List String} {f : Field} (hf : w.sd.field x = some f)
    (hn : need m (n + 1) w.sd (x :: rest) = true) : LeOn (fieldRefs f) ρ (envOf o w none) :=
  have hr := need_refs hf hn
  ⟨fun p hp v hv => ho.1 p v (E.read p v hv) (hr p hp),
   fun p hp c hc => ho.2 p c (E.has p c hc) (hr p hp), E.param, by rw [E.lv]; exact OLe.none _⟩

end factEnv

section field
variable {m : Module} {o : Oracle} {n : Nat} {w : SView} (href : refStruct m w.sd = true)
  (ho : Reports m o n w) {x : String} {rest : List String} {f : Field} (hf : w.sd.field x = some f)
  (hn : need m (n + 1) w.sd (x :: rest) = true)
include href ho hf hn

theorem hasField_complete {b : Bool} (h : RFact m w (.pres [x] b)) : hasField o w f = some b := by
  cases h with
  | pres ρ hf' hr hh hp hl he =>
    cases hf.symm.trans hf'
    have := eval_of_evalR (FactEnv.le ⟨hr, hh, hp, hl⟩ ho hf hn).left (refField_cond (ref_of_field href hf)) he
    simp only [hasField, evalBool, this]
  | sub ρ hf' hk' hfind hpres hr hh hp hl hs hz hs0 hz0 hargs hsub hout =>
    rename_i inner; cases inner <;> cases hout
    exact (pres_path_ne_nil hsub).elim
  | nullsub hf' hk' hfind hsub hout =>
    rename_i inner; cases inner <;> cases hout
    exact (pres_path_ne_nil hsub).elim

theorem physStorage_complete {start size : Expr} {ty : PType} {bo : ByteOrder}
    (hk : f.kind = .phys start size ty bo) (hfs : foldFree start = true) (hfz : foldFree size = true)
    (hpres : RFact m w (.pres [x] true)) {ρ : Env} (E : FactEnv m w ρ) {s z : Int}
    (hs : evalR ρ start = some (.int s)) (hz : evalR ρ size = some (.int z)) (hs0 : 0 ≤ s)
    (hz0 : 0 ≤ z) :
    evalInt (envOf o w none) size = some z ∧
      physStorage o w f start size = some (w.st.sub s.toNat z.toNat) := by
  have hle := (E.le ho hf hn).right
  simp only [hk] at hle
  have hz' := evalInt_eq_some.mpr (eval_of_evalR hle.left.right hfz hz)
  exact ⟨hz', physStorage_of (hasField_complete href ho hf hn hpres) hz'
    (evalInt_eq_some.mpr (eval_of_evalR hle.left.left hfs hs)) hz0 hs0⟩

theorem realSub_complete (hwf : viewWF w = true) {start size : Expr} {name : String} {bits : Nat}
    {args : Exprs} {bo : ByteOrder} (hk : f.kind = .phys start size (.struct name bits args) bo)
    (hpres : RFact m w (.pres [x] true)) {w' : SView} (h : SubViewR m w x w') :
    realSub o m w f start size name bits args bo = some w' ∧ viewWF w' = true := by
  cases h with
  | mk ρ hf' hk' hfind hr hh hp hl hs hz hs0 hz0 hargs =>
    cases hf.symm.trans hf'
    cases hk.symm.trans hk'
    rename_i vs
    have E : FactEnv m w ρ := ⟨hr, hh, hp, hl⟩
    obtain ⟨hfstart, hfsize, hfargs, hchild⟩ := refField_struct (ref_of_field href hf) hk hfind
    obtain ⟨hz', hst⟩ := physStorage_complete href ho hf hn hk hfstart hfsize hpres E hs hz hs0 hz0
    obtain ⟨hwin, hwf'⟩ := window_bridge hwf hchild bo _ hz' (some vs)
    have hle := (E.le ho hf hn).right
    simp only [hk] at hle
    simp only [realSub, hfind, evalArgs_of_evalArgsR hle.right hfargs hargs, hst]
    exact ⟨by rw [hwin], hwf'⟩

end field

theorem step_complete {m : Module} {P : StructDef → Prop} (hm : Closed m P) (hwfm : moduleWF m = true)
    {o : Oracle} (hmono : OrLe m o o) {n : Nat}
    (ho : ∀ w, P w.sd → viewWF w = true → Reports m o n w) {w : SView} (hP : P w.sd)
    (hwf : viewWF w = true) : Reports m (step m o) (n + 1) w := by
  -- By the last rule of the derivation: its assignment is below what `o` shows on the references
  -- `need` covers (`FactEnv.le`), so the premises evaluate as in R.  `nullsub` speaks of `nullView sd'`
  -- while the accessor may return a real view above it: `ho` at the null view is carried up by `hmono`
  -- — the only use of monotonicity (`moduleWF`).
  have ihw := ho w hP hwf
  have href := hm.ref _ hP
  have hloc := hm.loc _ hP
  constructor
  · intro p v hfact hneed
    cases hfact with
    | virt ρ hf hk hr hh hp hl hv hreq =>
      rename_i x f value req
      have E : FactEnv m w ρ := ⟨hr, hh, hp, hl⟩
      obtain ⟨hfvalue, hfreq⟩ := refField_virt (ref_of_field href hf) hk
      have hlf : (optRefs req).isEmpty = true := by
        simpa only [reqLocalField, hk] using reqLocal_of_field hloc hf
      have hle := (E.le ihw hf hneed).right
      simp only [hk] at hle
      simp only [step_read_cons m o w hf, hk]
      exact virtRead_eq_some.mpr ⟨eval_of_evalR hle hfvalue hv, E.requires hfreq hlf hreq⟩
    | scalar ρ hf hk hpres hr hh hp hl hs hz hs0 hz0 hraw hv hreq =>
      rename_i x f start size k bits req bo s z raw
      have E : FactEnv m w ρ := ⟨hr, hh, hp, hl⟩
      obtain ⟨hkk, hfstart, hfsize, hfreq, hbits, hsz⟩ := refField_scalar (ref_of_field href hf) hk
      have hlf : (optRefs req).isEmpty = true := by
        simpa only [reqLocalField, hk] using reqLocal_of_field hloc hf
      obtain ⟨hz', hst⟩ :=
        physStorage_complete href ihw hf hneed hk hfstart hfsize hpres E hs hz hs0 hz0
      rw [specDecode_eq k bits _ hkk hbits] at hv
      simp only [step_read_cons m o w hf, hk, hst]
      rw [leaf_bridge hwf hsz hz' bo s.toNat, hraw]
      exact leafRead_of (leafSizeOk_self k bits hbits) hv (E.requires hfreq hlf hreq)
    | aliasVal hf hk hpres ht =>
      simp only [step_read_cons m o w hf, hk, hasField_complete href ihw hf hneed hpres, ↓reduceIte]
      exact ihw.1 _ _ ht (need_alias hf hneed hk)
    | sub ρ hf hk hfind hpres hr hh hp hl hs hz hs0 hz0 hargs hsub hout =>
      rename_i inner; cases inner <;> cases hout
      rename_i q
      cases q with
      | nil => exact (val_path_ne_nil hsub).elim
      | cons y ys =>
        obtain ⟨hreal, hwf'⟩ := realSub_complete href ihw hf hneed hwf hk hpres
          (SubViewR.mk ρ hf hk hfind hr hh hp hl hs hz hs0 hz0 hargs)
        simp only [step_read_cons m o w hf, hk, realSub_subView hreal]
        exact (ho _ (hm.sub hP hf hk hfind) hwf').1 _ _ hsub
          (need_struct hf hneed hk hfind)
    | nullsub hf hk hfind hsub hout =>
      rename_i x f start size name bits args bo sd' inner
      cases inner <;> cases hout
      rename_i q
      cases q with
      | nil => exact (val_path_ne_nil hsub).elim
      | cons y ys =>
        obtain ⟨w'', hsv, hle⟩ := subView_ge_null o w f start size bits args bo hfind
        simp only [step_read_cons m o w hf, hk, hsv]
        exact (hmono _ _ hle (find_wf hwfm hfind) _).1 _
          ((ho _ (hm.sub hP hf hk hfind) (viewWF_null sd')).1 _ _ hsub
            (need_struct hf hneed hk hfind))
  · intro p b hfact hneed
    cases hfact with
    | pres ρ hf hr hh hp hl he =>
      rw [step_has_nil m o w hf]
      exact hasField_complete href ihw hf hneed (RFact.pres ρ hf hr hh hp hl he)
    | aliasPres hf hk hpres ht =>
      simp only [step_has_cons m o w hf, hk, hasField_complete href ihw hf hneed hpres, ↓reduceIte]
      exact ihw.2 _ _ ht (need_alias hf hneed hk)
    | sub ρ hf hk hfind hpres hr hh hp hl hs hz hs0 hz0 hargs hsub hout =>
      rename_i inner; cases inner <;> cases hout
      rename_i q
      cases q with
      | nil => exact (pres_path_ne_nil hsub).elim
      | cons y ys =>
        obtain ⟨hreal, hwf'⟩ := realSub_complete href ihw hf hneed hwf hk hpres
          (SubViewR.mk ρ hf hk hfind hr hh hp hl hs hz hs0 hz0 hargs)
        simp only [step_has_cons m o w hf, hk, realSub_subView hreal]
        exact (ho _ (hm.sub hP hf hk hfind) hwf').2 _ _ hsub
          (need_struct hf hneed hk hfind)
    | nullsub hf hk hfind hsub hout =>
      rename_i x f start size name bits args bo sd' inner
      cases inner <;> cases hout
      rename_i q
      cases q with
      | nil => exact (pres_path_ne_nil hsub).elim
      | cons y ys =>
        obtain ⟨w'', hsv, hle⟩ := subView_ge_null o w f start size bits args bo hfind
        simp only [step_has_cons m o w hf, hk, hsv]
        exact (hmono _ _ hle (find_wf hwfm hfind) _).2.1 _
          ((ho _ (hm.sub hP hf hk hfind) (viewWF_null sd')).2 _ _ hsub
            (need_struct hf hneed hk hfind))

/-- **Completeness of `G` w.r.t. the reference**: every value / presence fact of R about a view
of the fragment is reported by `G` at every fuel that statically covers the path (`need`, the
bound `fuelOK` is built from). -/
theorem G_reports (m : Module) {P : StructDef → Prop} (hm : Closed m P) (hwfm : moduleWF m = true) :
    ∀ n (w : SView), P w.sd → viewWF w = true → Reports m (G m n) n w
  | 0, _, _, _ => ⟨fun _ _ _ h => (nomatch h), fun _ _ _ h => (nomatch h)⟩
  | n + 1, _, hP, hwf => step_complete hm hwfm (G_mono hwfm n) (G_reports m hm hwfm n) hP hwf

theorem G_iff (m : Module) {P : StructDef → Prop} (hm : Closed m P) (hwfm : moduleWF m = true)
    (n : Nat) (w : SView) (hP : P w.sd) (hwf : viewWF w = true) {p : List String}
    (hn : need m n w.sd p = true) :
    (∀ v, (G m n).read w p = some v ↔ RFact m w (.val p v)) ∧
    (∀ b, (G m n).has w p = some b ↔ RFact m w (.pres p b)) :=
  ⟨fun v => ⟨(G_sound m hm n w hP hwf).read p v, fun h => (G_reports m hm hwfm n w hP hwf).1 p v h hn⟩,
   fun b => ⟨(G_sound m hm n w hP hwf).has p b, fun h => (G_reports m hm hwfm n w hP hwf).2 p b h hn⟩⟩

end Emboss.ViewRef
