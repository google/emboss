/-
C16 — lemmas for Emboss/Properties/C16.lean: `process_ir`, the import work queue, `format_errors`
(and `showErrors_ok` for the executables), locations, the caret line, `_find_in_dirs_and_read`.
Each loop of the model is treated by induction along its own recursion.
Defines `Probe.isText`, which `C16_find_and_read_total` is stated with.
`only_parse_emboss_file` is modelled a second time in Emboss/Model/Purity.lean (`compileAux`: the
parse cache and the counter as state, diagnostics as plain strings); termination and "modules =
reachable files" (`C16_import_queue_terminates`, `C16_import_queue_result`, from `queueLoop_exit`)
are proved for the model here only, whose parser is a function without state.
-/
import Emboss.Spec.PipelineDriver
namespace Emboss.Pipeline
open List

-- the form the model's `if !x.isEmpty` leaves as a hypothesis
theorem not_isEmpty_iff {l : List α} : (!l.isEmpty) = true ↔ l ≠ [] := by
  cases l <;> simp

/-! ### `split_errors` and `process_ir` -/

theorem mem_splitErrors_fst {es : Errors} {g : Group} :
    g ∈ (splitErrors es).1 ↔ g ∈ es ∧ g.isSynthetic = false := by
  simp [splitErrors]

theorem mem_splitErrors_snd {es : Errors} {g : Group} :
    g ∈ (splitErrors es).2 ↔ g ∈ es ∧ g.isSynthetic = true := by
  simp [splitErrors]

theorem processIr_cases {σ : Type} {passes : List (Pass σ)} {stop : Option String} {s : σ}
    {r : Outcome σ} (h : processIr passes stop s = r) :
    ((∀ n, stop = some n → n ∈ passes.map (·.name)) ∧ processLoop stop passes s [] = r) ∨
    ((∃ n, stop = some n ∧ n ∉ passes.map (·.name)) ∧ r = .crash .badStopStep) := by
  subst h
  cases stop with
  | none => exact .inl ⟨nofun, rfl⟩
  | some n =>
    by_cases h : n ∈ passes.map (·.name)
    · exact .inl ⟨fun _ e => Option.some.inj e ▸ h, by simp [processIr, h]⟩
    · exact .inr ⟨⟨n, rfl, h⟩, by simp [processIr, h]⟩

section ProcessLoop
variable {σ : Type} {stop : Option String} {ps : List (Pass σ)} {s : σ} {deferred es : Errors}

theorem results_from_pass {r : Errors} (hr : r ∈ results ps s) :
    ∃ p ∈ ps, ∃ s', r = (p.run s').2 := by
  induction ps generalizing s with
  | nil => nomatch hr
  | cons p ps ih =>
    rcases mem_cons.1 hr with rfl | hr
    · exact ⟨p, mem_cons_self, s, rfl⟩
    · obtain ⟨q, hq, h⟩ := ih hr
      exact ⟨q, mem_cons_of_mem _ hq, h⟩

theorem processLoop_no_fuel : processLoop stop ps s deferred ≠ .outOfFuel := by
  fun_induction processLoop stop ps s deferred with
  | case6 _ _ _ _ _ _ _ _ ih => exact ih
  | _ => nofun

/-- The late assertion is unreachable once the first one has passed. -/
theorem processLoop_no_crash {c : Crash} (hstop : ∀ n, stop = some n → n ∈ ps.map (·.name)) :
    processLoop stop ps s deferred ≠ .crash c := by
  fun_induction processLoop stop ps s deferred with
  | case2 _ _ _ hs =>
    obtain ⟨n, hn⟩ := Option.isSome_iff_exists.1 hs
    exact nomatch hstop n hn
  | case6 p _ _ _ hne _ _ _ ih =>
    exact ih fun n hn => (mem_cons.1 (hstop n hn)).resolve_left fun e =>
      hne (hn.trans (congrArg some e))
  | _ => nofun

/-- The middle part is for well-formedness.  `hd`: only synthetic groups are ever deferred, which
the last part needs of the groups shown at the end of the loop. -/
theorem processLoop_errors (h : processLoop stop ps s deferred = .errors es)
    (hd : ∀ g ∈ deferred, g.isSynthetic = true) :
    es ≠ [] ∧ (∀ g ∈ es, g ∈ deferred ∨ ∃ r ∈ results ps s, g ∈ r) ∧
    ((∀ g ∈ es, g.isSynthetic = false) ∧ (∃ r ∈ results ps s, ∀ g ∈ es, g ∈ r) ∨
     (∀ g ∈ es, g.isSynthetic = true) ∧ ∀ r ∈ results ps s, ∀ g ∈ r, g.isSynthetic = true) := by
  fun_induction processLoop stop ps s deferred with
  | case1 s deferred hne =>
    cases h
    exact ⟨not_isEmpty_iff.1 hne, fun g hg => .inl hg, .inr ⟨hd, nofun⟩⟩
  | case5 p ps s deferred _ r sp hne =>
    cases h
    have hsub : ∀ g ∈ sp.1, g ∈ r.2 := fun g hg => (mem_splitErrors_fst.1 hg).1
    exact ⟨not_isEmpty_iff.1 hne, fun g hg => .inr ⟨r.2, mem_cons_self, hsub g hg⟩,
      .inl ⟨fun g hg => (mem_splitErrors_fst.1 hg).2, r.2, mem_cons_self, hsub⟩⟩
  | case6 p ps s deferred _ r sp hemp ih =>
    obtain ⟨hne, hfrom, hcase⟩ := ih h fun g hg =>
      (mem_append.1 hg).elim (hd g) fun h2 => (mem_splitErrors_snd.1 h2).2
    refine ⟨hne, fun g hg => ?_, hcase.imp ?_ ?_⟩
    · rcases hfrom g hg with h1 | ⟨r', hr', hgr⟩
      · exact (mem_append.1 h1).imp_right fun h2 =>
          ⟨r.2, mem_cons_self, (mem_splitErrors_snd.1 h2).1⟩
      · exact .inr ⟨r', mem_cons_of_mem _ hr', hgr⟩
    · rintro ⟨hu, r', hr', hsub⟩
      exact ⟨hu, r', mem_cons_of_mem _ hr', hsub⟩
    · rintro ⟨hsyn, hall⟩
      refine ⟨hsyn, forall_mem_cons.2 ⟨fun g hg => ?_, hall⟩⟩
      -- this pass produced no user group, so each of its groups is synthetic
      cases hs : g.isSynthetic with
      | true => rfl
      | false =>
        exact absurd (ne_nil_of_mem (mem_splitErrors_fst.2 ⟨hg, hs⟩)) (mt not_isEmpty_iff.2 hemp)
  | _ => nomatch h

end ProcessLoop

/-! ### the import work queue -/

theorem enqueue_spec (is q seen : List String) :
    ∃ new, (enqueue is q seen).1 = q ++ new ∧ (enqueue is q seen).2 = seen ++ new ∧
      (seen.Nodup → (seen ++ new).Nodup) ∧ (∀ x ∈ new, x ∈ is) ∧
      (∀ x ∈ is, x ∈ seen ++ new) := by
  fun_induction enqueue is q seen with
  | case1 q seen => exact ⟨[], by simp⟩
  | case2 i is q seen hc ih =>
    obtain ⟨new, h1, h2, h3, h4, h5⟩ := ih
    exact ⟨new, h1, h2, h3, fun x hx => mem_cons_of_mem _ (h4 x hx),
      forall_mem_cons.2 ⟨mem_append_left _ (by simpa using hc), h5⟩⟩
  | case3 i is q seen hc ih =>
    obtain ⟨new, h1, h2, h3, h4, h5⟩ := ih
    have hni : i ∉ seen := by simpa using hc
    refine ⟨i :: new, by simp [h1], by simp [h2], fun hnd => ?_,
      forall_mem_cons.2 ⟨mem_cons_self, fun x hx => mem_cons_of_mem _ (h4 x hx)⟩,
      forall_mem_cons.2 ⟨by simp, fun x hx => by simpa using h5 x hx⟩⟩
    have : (seen ++ [i]).Nodup :=
      nodup_append.2 ⟨hnd, by simp, fun a ha b hb =>
        mem_singleton.1 hb ▸ ne_of_mem_of_not_mem ha hni⟩
    simpa using h3 this

/-- Loop invariant of `while file_queue:`. -/
structure QInv (parse : String → Parsed) (root : String) (q seen acc : List String) : Prop where
  split : seen = acc.reverse ++ q
  nodup : seen.Nodup
  reach : ∀ x ∈ seen, Reach parse root x
  closed : ∀ f ∈ acc, ∀ i ∈ (parse f).imports, i ∈ seen
  ok : ∀ f ∈ acc, (parse f).errors = []

theorem QInv.init (parse : String → Parsed) (root : String) : QInv parse root [root] [root] [] where
  split := rfl
  nodup := by simp
  reach := fun _ hx => mem_singleton.1 hx ▸ Reach.root
  closed := nofun
  ok := nofun

theorem QInv.step {parse : String → Parsed} {root f : String} {q seen acc : List String}
    (inv : QInv parse root (f :: q) seen acc) (herr : (parse f).errors = []) :
    QInv parse root (enqueue (parse f).imports q seen).1 (enqueue (parse f).imports q seen).2
      (f :: acc) := by
  obtain ⟨new, h1, h2, h3, h4, h5⟩ := enqueue_spec (parse f).imports q seen
  have hf : f ∈ seen := by rw [inv.split]; simp
  rw [h1, h2]
  refine ⟨by rw [inv.split]; simp, h3 inv.nodup, fun x hx => ?_, ?_, ?_⟩
  · exact (mem_append.1 hx).elim (inv.reach x) fun hx => Reach.step (inv.reach f hf) herr (h4 x hx)
  · exact forall_mem_cons.2 ⟨h5, fun g hg i hi => mem_append_left _ (inv.closed g hg i hi)⟩
  · exact forall_mem_cons.2 ⟨herr, inv.ok⟩

/-- Out of fuel, `fuel` more files have been parsed: with `QInv.nodup` and `QInv.reach` that is too
many once `fuel` exceeds the number of reachable files. -/
theorem queueLoop_exit {parse : String → Parsed} {root : String} {fuel : Nat}
    {q seen acc : List String} {r : QResult} (inv : QInv parse root q seen acc) :
    queueLoop parse fuel q seen acc = r →
    match r with
    | .outOfFuel => ∃ q' seen' acc', QInv parse root q' seen' acc' ∧ acc'.length = acc.length + fuel
    | .done files => seen <+: files ∧ QInv parse root [] files files.reverse
    | .errors es f before => es = (parse f).errors ∧ es ≠ [] ∧
        ∃ q' seen', QInv parse root (f :: q') seen' before.reverse := by
  fun_induction queueLoop parse fuel q seen acc with
  | case1 q seen acc =>
    rintro rfl
    exact ⟨q, seen, acc, inv, rfl⟩
  | case2 fuel seen acc =>
    rintro rfl
    obtain rfl : seen = acc.reverse := inv.split.trans (append_nil _)
    exact ⟨prefix_rfl, by rwa [reverse_reverse]⟩
  | case3 fuel f q seen acc r herr =>
    rintro rfl
    exact ⟨rfl, not_isEmpty_iff.1 herr, q, seen, by rwa [reverse_reverse]⟩
  | case4 fuel f q seen acc r herr qs ih =>
    intro h
    have herr' : (parse f).errors = [] := Decidable.of_not_not (mt not_isEmpty_iff.2 herr)
    have := ih (inv.step herr') h
    obtain ⟨new, -, hn, -⟩ := enqueue_spec (parse f).imports q seen
    split at this
    · obtain ⟨q', seen', acc', inv', h⟩ := this
      exact ⟨q', seen', acc', inv', by rw [h, length_cons, Nat.add_assoc, Nat.add_comm 1]⟩
    · exact ⟨.trans ⟨new, hn.symm⟩ this.1, this.2⟩
    · exact this

theorem reach_mem_of_closed {parse : String → Parsed} {root : String} {files : List String}
    (hroot : root ∈ files)
    (hclosed : ∀ f ∈ files, ∀ i ∈ (parse f).imports, i ∈ files) :
    ∀ x, Reach parse root x → x ∈ files := by
  intro x hx
  induction hx with
  | root => exact hroot
  | step _ _ hi ih => exact hclosed _ ih _ hi

/-! ### `_Message.format` and `format_errors` -/

section Format
variable (useColor : Bool) (sources : List (String × Text))

theorem sourceLine_ok (m : Msg) : ∃ t, sourceLine m sources = .ok t := by
  unfold sourceLine
  split
  · exact ⟨_, rfl⟩
  · split
    · exact ⟨_, rfl⟩
    · simp only
      split
      · rename_i hguard
        rw [getElem?_eq_getElem (Nat.sub_one_lt_of_le hguard.1 hguard.2)]
        exact ⟨_, rfl⟩
      · exact ⟨_, rfl⟩

theorem formatMsg_ok (m : Msg) : ∃ r, formatMsg m sources = .ok r := by
  obtain ⟨t, ht⟩ := sourceLine_ok sources m
  unfold formatMsg formatWith
  rw [ht]
  simp only
  split <;> exact ⟨_, rfl⟩

theorem formatMsgs_ok (g : Group) : ∃ r, formatMsgs sources g = .ok r := by
  induction g with
  | nil => exact ⟨_, rfl⟩
  | cons m ms ih =>
    obtain ⟨p, hp⟩ := formatMsg_ok sources m
    obtain ⟨ps, hps⟩ := ih
    exact ⟨p :: ps, by simp [formatMsgs, hp, hps]⟩

theorem formatGroups_ok (es : Errors) (h : ∀ g ∈ es, g ≠ []) :
    ∃ r, formatGroups useColor sources es = .ok r := by
  induction es with
  | nil => exact ⟨_, rfl⟩
  | cons g gs ih =>
    have hg : g.isEmpty = false := isEmpty_eq_false_iff.2 (h g mem_cons_self)
    obtain ⟨ps, hps⟩ := formatMsgs_ok sources g
    obtain ⟨rest, hrest⟩ := ih fun g' hg' => h g' (mem_cons_of_mem _ hg')
    exact ⟨ps.map (renderPieces useColor) ++ rest, by simp [formatGroups, hg, hps, hrest]⟩

theorem formatGroups_empty_group (es : Errors) (h : [] ∈ es) :
    formatGroups useColor sources es = .error .emptyGroup := by
  induction es with
  | nil => nomatch h
  | cons g gs ih =>
    cases g with
    | nil => rfl
    | cons a t =>
      obtain ⟨ps, hps⟩ := formatMsgs_ok sources (a :: t)
      simp [formatGroups, hps, ih ((mem_cons.1 h).resolve_left nofun)]

theorem showErrors_ok (es : Errors) (h : ∀ g ∈ es, g ≠ []) :
    ∃ t, showErrors es sources useColor = .ok t := by
  obtain ⟨r, hr⟩ := formatGroups_ok useColor sources es h
  exact ⟨joinLines r ++ ['\n'], by simp [showErrors, formatErrors, hr]⟩

end Format

/-! ### locations -/

theorem PosIn.line_ne_zero {ln col : Nat} {lines : List Text} (h : PosIn ln col lines) :
    ln ≠ 0 := by
  rcases h with ⟨_, h1, _⟩ | ⟨h1, _⟩
  · exact Nat.ne_of_gt h1
  · exact h1 ▸ Nat.succ_ne_zero _

theorem PosIn.col_le {ln col : Nat} {lines : List Text} {line : Text} (h : PosIn ln col lines)
    (hl : lines[ln - 1]? = some line) : 1 ≤ col ∧ col ≤ line.length + 1 := by
  rcases h with ⟨line', _, h2, h3, h4⟩ | ⟨h1, _⟩
  · rw [hl] at h2; cases h2; exact ⟨h3, h4⟩
  · rw [h1, Nat.add_sub_cancel, getElem?_eq_none (Nat.le_refl _)] at hl; cases hl

theorem produced_inFile (lines : List Text) (l : Loc) (h : Produced lines l) : InFile l lines := by
  induction h with
  | tok ln off len line h1 h2 h3 =>
    exact ⟨.inl ⟨line, h1, h2, Nat.le_add_left 1 off, Nat.succ_le_succ (Nat.le_of_add_right_le h3)⟩,
           .inl ⟨line, h1, h2, Nat.le_add_left 1 _, Nat.succ_le_succ h3⟩, by simp [tokLoc, posLe]⟩
  | eof => exact ⟨.inr ⟨rfl, rfl⟩, .inr ⟨rfl, rfl⟩, by simp [eofLoc, posLe]⟩
  | merge a b syn _ _ hle iha ihb => exact ⟨iha.1, ihb.2.1, hle⟩

theorem Produced.pos_ne_zero {lines : List Text} {a : Loc} (h : Produced lines a) (e : End) :
    (a.pos e).1 ≠ 0 := by
  obtain ⟨hs, he, _⟩ := produced_inFile lines a h
  cases e
  · exact hs.line_ne_zero
  · exact he.line_ne_zero

theorem mergeLocs_produced (lines : List Text) (ls : List Loc) (l : Loc)
    (hall : ∀ x ∈ ls, x.sl ≠ 0 → Produced lines x) (h : mergeLocs ls = .ok (some l)) :
    Produced lines l := by
  unfold mergeLocs at h
  simp only at h
  split at h
  · rename_i a b ha hb
    split at h
    · rename_i hle
      have hma := mem_filter.1 (mem_of_head? ha)
      have hmb := mem_filter.1 (mem_of_getLast? hb)
      cases h
      exact Produced.merge a b _ (hall a hma.1 (by simpa using hma.2))
        (hall b hmb.1 (by simpa using hmb.2)) hle
    · cases h
  · cases h

theorem produced_endpoint {lines : List Text} {a : Loc} (h : Produced lines a) (e : End) :
    Produced lines ⟨(a.pos e).1, (a.pos e).2, (a.pos e).1, (a.pos e).2, false⟩ := by
  induction h with
  | tok ln off len line h1 h2 h3 =>
    cases e with
    | start => exact Produced.tok ln off 0 line h1 h2 (Nat.le_of_add_right_le h3)
    | stop => exact Produced.tok ln (off + len) 0 line h1 h2 h3
  | eof => cases e <;> exact Produced.eof
  | merge a b syn _ _ _ iha ihb =>
    cases e with
    | start => exact iha
    | stop => exact ihb

theorem spanLoc_of_ne_zero {a b : Loc} {ea eb : End} (ha : (a.pos ea).1 ≠ 0)
    (hb : (b.pos eb).1 ≠ 0) :
    spanLoc a ea b eb =
      if posLe (a.pos ea).1 (a.pos ea).2 (b.pos eb).1 (b.pos eb).2 then
        .ok ⟨(a.pos ea).1, (a.pos ea).2, (b.pos eb).1, (b.pos eb).2, false⟩
      else .error () := by
  unfold spanLoc mkLoc
  rw [beq_false_of_ne ha, beq_false_of_ne hb]
  simp

theorem spanLoc_produced {lines : List Text} {a b l : Loc} {ea eb : End}
    (ha : Produced lines a) (hb : Produced lines b) (h : spanLoc a ea b eb = .ok l) :
    Produced lines l := by
  rw [spanLoc_of_ne_zero (ha.pos_ne_zero ea) (hb.pos_ne_zero eb)] at h
  split at h
  · rename_i hle
    cases h
    exact Produced.merge _ _ false (produced_endpoint ha ea) (produced_endpoint hb eb) hle
  · cases h

/-! ### the caret line -/

theorem indicator_eq (l : Loc) :
    indicator l = replicate (l.sc - 1) ' ' ++
      replicate (if l.sl = l.el then max 1 (l.ec - l.sc) else 1) '^' := by
  unfold indicator caret
  split <;> rfl

theorem indicator_length (l : Loc) :
    (indicator l).length = (l.sc - 1) + if l.sl = l.el then max 1 (l.ec - l.sc) else 1 := by
  rw [indicator_eq, length_append, length_replicate, length_replicate]

theorem caret_width_le (sc ec n : Nat) (h1 : 1 ≤ sc) (h2 : sc ≤ n + 1) (h3 : ec ≤ n + 1) :
    (sc - 1) + max 1 (ec - sc) ≤ n + 1 ∧ (sc < ec → (sc - 1) + max 1 (ec - sc) ≤ n) := by
  rcases Nat.le_total (ec - sc) 1 with h | h
  · -- one caret, ending at column `sc`
    rw [Nat.max_eq_left h, Nat.sub_add_cancel h1]
    exact ⟨h2, fun hlt => Nat.le_of_succ_le_succ (Nat.le_trans hlt h3)⟩
  · -- `ec - sc` carets, ending at column `ec - 1`
    rw [Nat.max_eq_right h, Nat.add_comm,
      Nat.sub_add_sub_cancel (Nat.le_of_lt (Nat.lt_of_sub_pos h)) h1]
    exact ⟨Nat.le_trans (Nat.sub_le _ _) h3, fun _ => Nat.sub_le_of_le_add h3⟩

theorem indicator_length_le {lines : List Text} {l : Loc} {line : Text} (h : InFile l lines)
    (hl : lines[l.sl - 1]? = some line) :
    (indicator l).length ≤ line.length + 1 ∧
    (l.sl = l.el → l.sc < l.ec → (indicator l).length ≤ line.length) := by
  obtain ⟨hs, he, _⟩ := h
  obtain ⟨h1, h2⟩ := hs.col_le hl
  rw [indicator_length]
  by_cases heq : l.sl = l.el
  · rw [if_pos heq]
    have hw := caret_width_le l.sc l.ec line.length h1 h2 (he.col_le (heq ▸ hl)).2
    exact ⟨hw.1, fun _ => hw.2⟩
  · rw [if_neg heq, Nat.sub_add_cancel h1]
    exact ⟨h2, fun h => absurd h heq⟩

/-! ### `_find_in_dirs_and_read` -/

def Probe.isText : Probe → Bool
  | .text _ => true
  | _ => false

theorem findLoop_spec (allDirs : List Text) (ps : List (Text × Probe)) (errs : List Text)
    (h : ∀ p ∈ ps, ∀ n, p.2 ≠ .otherError n) :
    (∃ t pre d post, findLoop allDirs ps errs = .found t ∧ ps = pre ++ (d, .text t) :: post ∧
        ∀ q ∈ pre, q.2.isText = false) ∨
    (∃ es, findLoop allDirs ps errs = .notFound es ∧ es.length = errs.length + ps.length + 1 ∧
        ∀ q ∈ ps, q.2.isText = false) := by
  fun_induction findLoop allDirs ps errs with
  | case1 errs => exact .inr ⟨_, rfl, by rw [length_append, length_singleton, length_nil], nofun⟩
  | case2 d t rest errs => exact .inl ⟨t, [], d, rest, rfl, rfl, nofun⟩
  | case6 d n rest errs => exact absurd rfl (h _ mem_cons_self n)
  | case3 d m rest errs ih | case4 d m rest errs ih | case5 d m rest errs ih =>
    -- a caught failure: its message is recorded and the search goes on
    rcases ih fun q hq => h q (mem_cons_of_mem _ hq) with
      ⟨t, pre, d', post, h1, h2, h3⟩ | ⟨es, h1, h2, h3⟩
    · exact .inl ⟨t, _ :: pre, d', post, h1, congrArg _ h2, forall_mem_cons.2 ⟨rfl, h3⟩⟩
    · refine .inr ⟨es, h1, ?_, forall_mem_cons.2 ⟨rfl, h3⟩⟩
      rw [h2, length_append, length_singleton, length_cons, Nat.add_assoc errs.length,
        Nat.add_comm 1]

end Emboss.Pipeline
