/-
The fold does not see blank lines at the ends of the comment-line chains under `eol` nodes
and at the head of the module (`EquivB`): `_eol` and `_module` strip them.
-/
import Emboss.Lemmas.FmtTree
namespace Emboss.Fmt

/-- The rows a value stands for (`[]` for the `[]` of `_empty_list`). -/
def rowsOf : Option Fmt → Option (List Row)
  | some v => asRows v
  | none => none

def blankRow : Row := { name := .comment }

theorem fold_blankLine {tbl : Table} (iw : Nat) {e : Tree} (h : isBlankLineTree tbl e = true) :
    fold tbl iw e = some (.rows [blankRow]) := by
  match e, h with
  | .node p [.node q [], .tok s x], h =>
    simp only [isBlankLineTree, Bool.and_eq_true, beq_iff_eq] at h
    rw [handlerAt_fold h.1, foldList_two, handlerAt_fold h.2]
    simp only [foldList, fold, Option.bind_some, Handler.run, hEmptyString, hCommentLine, asStr,
      Option.pure_def, Option.bind_eq_bind, List.isEmpty_nil, if_true]
    rfl

theorem rowsOf_pyAdd (x y : Fmt) :
    rowsOf (pyAdd x y) = (asRows x).bind fun R => (asRows y).map (R ++ ·) := by
  cases x <;> cases y <;> simp [pyAdd, asRows, rowsOf]

theorem rowsOf_fold_cons {tbl : Table} (iw : Nat) {p : Nat} {l c : Tree}
    (hp : handlerAt tbl p = some .concatenateLists) :
    rowsOf (fold tbl iw (.node p [l, c])) =
      (rowsOf (fold tbl iw l)).bind fun R => (rowsOf (fold tbl iw c)).map (R ++ ·) := by
  rw [handlerAt_fold hp, foldList_two]
  cases fold tbl iw l with
  | none => rfl
  | some x =>
    cases fold tbl iw c with
    | none => cases h : asRows x <;> simp [rowsOf, h]
    | some y => exact rowsOf_pyAdd x y

theorem allBlank_fold {tbl : Table} (iw : Nat) {c : Tree} (h : AllBlank tbl c) :
    ∃ b, rowsOf (fold tbl iw c) = some b ∧ AllEmpty b := by
  induction h with
  | nil hp =>
    refine ⟨[], ?_, AllEmpty.nil⟩
    rw [handlerAt_fold hp]; rfl
  | cons hp he _ ih =>
    obtain ⟨b, hb, hbe⟩ := ih
    refine ⟨blankRow :: b, ?_, AllEmpty.cons rfl hbe⟩
    rw [rowsOf_fold_cons iw hp, fold_blankLine iw he, hb]; rfl

theorem trailExt_fold {tbl : Table} (iw : Nat) {c c' : Tree} (h : TrailExt tbl c c') :
    ∃ b, AllEmpty b ∧ rowsOf (fold tbl iw c') = (rowsOf (fold tbl iw c)).map (· ++ b) := by
  induction h with
  | atNil hp hb =>
    obtain ⟨b, hb1, hb2⟩ := allBlank_fold iw hb
    refine ⟨b, hb2, ?_⟩
    rw [hb1, handlerAt_fold hp]; rfl
  | @cons p l c₁ c₂ hp _ _ ih =>
    obtain ⟨b, hb, ih⟩ := ih
    refine ⟨b, hb, ?_⟩
    rw [rowsOf_fold_cons iw hp, rowsOf_fold_cons iw hp, ih]
    cases rowsOf (fold tbl iw l) <;> cases rowsOf (fold tbl iw c₁) <;> simp

theorem blankExt_fold {tbl : Table} (iw : Nat) {c c' : Tree} (h : BlankExt tbl c c') :
    ∃ a b, AllEmpty a ∧ AllEmpty b ∧
      rowsOf (fold tbl iw c') = (rowsOf (fold tbl iw c)).map (fun R => a ++ R ++ b) := by
  induction h with
  | trail ht =>
    obtain ⟨b, hb, h⟩ := trailExt_fold iw ht
    exact ⟨[], b, AllEmpty.nil, hb, h⟩
  | @lead p e c₁ c₂ hp he _ ih =>
    obtain ⟨a, b, ha, hb, ih⟩ := ih
    refine ⟨blankRow :: a, b, AllEmpty.cons rfl ha, hb, ?_⟩
    rw [rowsOf_fold_cons iw hp, fold_blankLine iw he, ih]
    cases rowsOf (fold tbl iw c₁) <;> rfl

theorem blankEq_fold {tbl : Table} (iw : Nat) {c c' : Tree} (h : BlankEq tbl c c') :
    (rowsOf (fold tbl iw c)).map stripEmptyRows = (rowsOf (fold tbl iw c')).map stripEmptyRows := by
  obtain ⟨c0, h1, h2⟩ := h
  obtain ⟨a, b, ha, hb, e⟩ := blankExt_fold iw h1
  obtain ⟨a', b', ha', hb', e'⟩ := blankExt_fold iw h2
  rw [e, e', Option.map_map, Option.map_map]
  congr 1
  funext R
  simp only [Function.comp, stripEmptyRows_pad ha hb, stripEmptyRows_pad ha' hb']

theorem foldList_congr_idx (tbl : Table) (iw : Nat) : ∀ (cs cs' : List Tree),
    cs.length = cs'.length →
    (∀ (i : Nat) (h : i < cs.length) (h' : i < cs'.length),
      fold tbl iw cs'[i] = fold tbl iw cs[i]) →
    foldList tbl iw cs' = foldList tbl iw cs
  | [], [], _, _ => rfl
  | [], _ :: _, hl, _ => by simp at hl
  | _ :: _, [], hl, _ => by simp at hl
  | t :: ts, t' :: ts', hl, h => by
    have h0 := h 0 (by simp) (by simp)
    simp only [List.getElem_cons_zero] at h0
    have hr := foldList_congr_idx tbl iw ts ts' (by simpa using hl) (fun i hi hi' => by
      have := h (i + 1) (by simpa using hi) (by simpa using hi')
      simpa using this)
    simp only [foldList, h0, hr]

theorem asRows_rows (l : List Row) : asRows (.rows l) = some l := rfl

/-- `_eol` sees the comment chain only through its stripped rows. -/
theorem hEol_bind (x : Fmt) (o : Option Fmt) :
    o.bind (fun v => hEol [x, v]) = ((rowsOf o).map stripEmptyRows).map Fmt.rows := by
  cases o with
  | none => rfl
  | some v =>
    simp only [Option.bind_some, rowsOf, hEol, Option.pure_def, Option.bind_eq_bind]
    cases asRows v <;> rfl

theorem hModule_bind (iw : Nat) (o : Option Fmt) (rest : List Fmt) :
    o.bind (fun v => hModule iw (v :: rest)) =
      ((rowsOf o).map stripEmptyRows).bind (fun R => hModule iw (.rows R :: rest)) := by
  cases o with
  | none => rfl
  | some v =>
    simp only [Option.bind_some, rowsOf]
    match rest with
    | [d, i, a, t] =>
      cases h : asRows v <;>
        simp only [hModule, h, asRows_rows, Option.pure_def, Option.bind_eq_bind, Option.bind_none,
          Option.bind_some, Option.map_none, Option.map_some, stripEmptyRows_idem]
    | [] | [_] | [_, _] | [_, _, _] | _ :: _ :: _ :: _ :: _ :: _ => cases asRows v <;> rfl

theorem fold_equivB (tbl : Table) (iw : Nat) {t t' : Tree} (h : EquivB tbl t t') :
    fold tbl iw t' = fold tbl iw t := by
  induction h with
  | refl t => rfl
  | node p cs cs' hl _ ih =>
    simp only [fold, foldList_congr_idx tbl iw cs cs' hl ih]
  | eol p nl c c' hp hb =>
    rw [handlerAt_fold hp, handlerAt_fold hp, foldList_two, foldList_two]
    cases fold tbl iw nl with
    | none => rfl
    | some x =>
      simp only [Option.bind_some, Option.bind_assoc, Handler.run]
      rw [hEol_bind, hEol_bind, blankEq_fold iw hb]
  | module p c c' rest rest' hp hb hl _ ih =>
    rw [handlerAt_fold hp, handlerAt_fold hp, foldList_cons, foldList_cons,
      foldList_congr_idx tbl iw rest rest' hl ih]
    cases foldList tbl iw rest with
    | none => cases fold tbl iw c <;> cases fold tbl iw c' <;> rfl
    | some vs =>
      simp only [Option.bind_some, Option.bind_assoc, Handler.run]
      rw [hModule_bind, hModule_bind, blankEq_fold iw hb]

end Emboss.Fmt
