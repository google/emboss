/-
C17 — invariance under permutation of the iteration order, pattern by pattern: sorting (with and
without a key), `min`/`max` (core's `min?`/`max?`), the only element of a singleton.  For the
patterns whose invariance is a lemma of core (`any`/`all`, `len`, set building, a commutative
fold), Emboss/Properties/C17.lean cites that lemma.
Defines `TotalLE` and `MemoOk`, which statements there use.
-/
import Emboss.Model.PurityPatterns
namespace Emboss.Purity
open List

/-- A total order given as a Boolean `≤` (what Python's `<` on homogeneous strings /
tuples / ints provides; trusted). -/
structure TotalLE (le : α → α → Bool) : Prop where
  trans : ∀ a b c, le a b → le b c → le a c
  total : ∀ a b, le a b || le b a
  antisymm : ∀ a b, le a b → le b a → a = b

theorem pySortedBy_perm (le : κ → κ → Bool) (h : TotalLE le) (key : α → κ) {l₁ l₂ : List α}
    (p : l₁ ~ l₂) (inj : ∀ a ∈ l₁, ∀ b ∈ l₁, key a = key b → a = b) :
    pySortedBy le key l₁ = pySortedBy le key l₂ := by
  -- two sorted permutations of one list are equal when the order is antisymmetric on it
  have sorted (l : List α) : (pySortedBy le key l).Pairwise fun a b => le (key a) (key b) :=
    pairwise_mergeSort (fun a b c => h.trans (key a) (key b) (key c))
      (fun a b => h.total (key a) (key b)) l
  refine Perm.eq_of_pairwise (le := fun a b => le (key a) (key b)) ?_ (sorted l₁) (sorted l₂)
    ((mergeSort_perm l₁ _).trans (p.trans (mergeSort_perm l₂ _).symm))
  intro a b ha hb hab hba
  exact inj a (mem_mergeSort.1 ha) b (p.symm.subset (mem_mergeSort.1 hb)) (h.antisymm _ _ hab hba)

theorem pySorted_perm (le : α → α → Bool) (h : TotalLE le) {l₁ l₂ : List α} (p : l₁ ~ l₂) :
    pySorted le l₁ = pySorted le l₂ :=
  pySortedBy_perm le h id p fun _ _ _ _ => id

/-- The key used at both `sorted(cycles, key=sorted)` sites: two frozensets (given by
any of their iteration orders) with the same sorted element list are the same set. -/
theorem sortedKey_injective (le : α → α → Bool) {s₁ s₂ : List α}
    (h : pySorted le s₁ = pySorted le s₂) : s₁ ~ s₂ := by
  unfold pySorted at h
  exact (mergeSort_perm s₁ le).symm.trans (h ▸ mergeSort_perm s₂ le)

private theorem foldl_min_cons (a b : Nat) (l : List Nat) :
    l.foldl min (min a b) = (b :: l).foldl min a := rfl

theorem pyMin_eq_min? (l : List Nat) : pyMin l = l.min? := by cases l <;> rfl

theorem pyMax_eq_max? (l : List Nat) : pyMax l = l.max? := by cases l <;> rfl

-- core describes the least (greatest) element through membership alone
theorem pyMin_perm {l₁ l₂ : List Nat} (p : l₁ ~ l₂) : pyMin l₁ = pyMin l₂ :=
  Option.ext fun a => by simp only [pyMin_eq_min?, min?_eq_some_iff, p.mem_iff]

theorem pyMax_perm {l₁ l₂ : List Nat} (p : l₁ ~ l₂) : pyMax l₁ = pyMax l₂ :=
  Option.ext fun a => by simp only [pyMax_eq_max?, max?_eq_some_iff, p.mem_iff]

theorem onlyElement_eq_some {l : List α} {a : α} : onlyElement l = some a ↔ l = [a] := by
  unfold onlyElement
  split <;> simp_all

theorem onlyElement_perm {l₁ l₂ : List α} (p : l₁ ~ l₂) : onlyElement l₁ = onlyElement l₂ :=
  Option.ext fun a => by
    rw [onlyElement_eq_some, onlyElement_eq_some]
    exact ⟨fun h => perm_singleton.1 (h ▸ p.symm), fun h => perm_singleton.1 (h ▸ p)⟩

/-- Invariant of a memo table: every stored value is what the function computes. -/
def MemoOk [BEq κ] (f : κ → ν) (cache : List (κ × ν)) : Prop :=
  ∀ k v, cache.lookup k = some v → v = f k

end Emboss.Purity
