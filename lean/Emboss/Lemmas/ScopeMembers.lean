/-
Helper lemmas for C12: `_resolve_field_reference` (the functions `physLoop` / `physical` /
`members` / `resolveFRef` of the model) against the declarative member rules `MemberRule` /
`MemberFails` of the spec: totality of the alias-following loop (the visited list, commit
22b80e8 of /repo), monotonicity in the nesting budget, soundness, completeness.

The loops `physLoop` and `members` take the result of the nested call as a parameter `res`; the
lemmas about them are stated for an arbitrary `res` with the property needed, and instantiated
with `resolveFRef E depth` by induction on `depth`.
-/
import Emboss.Spec.Scope
namespace Emboss.Scope

theorem findObject_mem {os : List Obj} {c : Path} {o : Obj} (h : findObject os c = some o) :
    o ∈ os := List.mem_of_find?_eq_some h

/-! ### The invariant of the alias-following loop -/

/-- The invariant of the alias-following loop: the fields visited so far are pairwise distinct
definitions of the module and the remaining budget covers all the others. -/
structure LoopInv (objs : List Obj) (n : Nat) (vis : List Obj) : Prop where
  nodup : vis.Nodup
  sub : ∀ x ∈ vis, x ∈ objs
  budget : objs.length < n + vis.length

/-- pigeonhole: the visited fields are at most as many as the definitions -/
theorem LoopInv.pos {objs : List Obj} {n : Nat} {vis : List Obj} (h : LoopInv objs n vis) :
    0 < n := by
  have := h.nodup.length_le_of_subset h.sub
  have := h.budget
  omega

theorem LoopInv.exists_succ {objs : List Obj} {n : Nat} {vis : List Obj}
    (h : LoopInv objs n vis) : ∃ m, n = m + 1 :=
  ⟨n - 1, (Nat.sub_add_cancel h.pos).symm⟩

theorem LoopInv.step {objs : List Obj} {n : Nat} {vis : List Obj} {o : Obj}
    (h : LoopInv objs (n + 1) vis) (ho : o ∈ objs) (hv : o ∉ vis) : LoopInv objs n (o :: vis) :=
  ⟨List.nodup_cons.2 ⟨hv, h.nodup⟩,
   fun x hx => (List.mem_cons.1 hx).elim (fun e => e ▸ ho) (h.sub x),
   by have := h.budget; rwa [Nat.add_right_comm] at this⟩

theorem LoopInv.init {objs : List Obj} : LoopInv objs (objs.length + 1) [] :=
  { nodup := List.nodup_nil
    sub := fun x hx => nomatch hx
    budget := by simp }

/-! ### The loop budget is never used up (the visited list, commit 22b80e8 of /repo) -/

theorem physLoop_ne_fuel (objs : List Obj) (res : Nat → FRes) (hres : ∀ i, res i ≠ .fuel) :
    ∀ (n : Nat) (o : Obj) (prev : PathElem) (vis : List Obj), LoopInv objs n vis → o ∈ objs →
      physLoop objs res n o prev vis ≠ .inl .fuel := by
  intro n
  induction n with
  | zero => intro o prev vis inv _; exact absurd inv.pos (Nat.lt_irrefl 0)
  | succ n ih =>
    intro o prev vis inv ho
    simp only [physLoop]
    split
    next i _ =>
      split
      · nofun
      next hv =>
        split
        · split
          · nofun
          · split
            next o' hf => exact ih o' prev (o :: vis) (inv.step ho hv) (findObject_mem hf)
            · nofun
        next h => exact absurd h (hres i)
        all_goals nofun
    all_goals nofun

theorem members_ne_fuel (E : FEnv) (res : Nat → FRes) (hres : ∀ i, res i ≠ .fuel) :
    ∀ (rs : List PathElem) (o : Obj) (prev : PathElem) (acc : List Path), o ∈ E.objs →
      members E res o prev rs acc ≠ .fuel := by
  intro rs
  induction rs with
  | nil => intro o prev acc _; nofun
  | cons r rest ih =>
    intro o prev acc ho
    simp only [members]
    split
    next x hx =>
      intro h
      exact physLoop_ne_fuel E.objs res hres _ o prev [] LoopInv.init ho (h ▸ hx)
    · split
      · nofun
      · split
        · nofun
        · split
          · nofun
          next o' hf => exact ih o' r _ (findObject_mem hf)
      · nofun

theorem resolveFRef_ne_fuel (E : FEnv) : ∀ (depth i : Nat), resolveFRef E depth i ≠ .fuel := by
  intro depth
  induction depth with
  | zero => intro i; nofun
  | succ d ih =>
    intro i
    simp only [resolveFRef]
    split
    · split
      · nofun
      · nofun
      · split
        · nofun
        next o hf => exact members_ne_fuel E _ ih _ o _ _ (findObject_mem hf)
    · nofun

/-! ### A deeper nesting budget never changes an answer that is not `recursion` -/

def Refines (res res' : Nat → FRes) : Prop := ∀ i, res i = .recursion ∨ res' i = res i

theorem physLoop_refines (objs : List Obj) (res res' : Nat → FRes) (hr : Refines res res') :
    ∀ (n : Nat) (o : Obj) (prev : PathElem) (vis : List Obj),
      physLoop objs res n o prev vis = .inl .recursion ∨
      physLoop objs res' n o prev vis = physLoop objs res n o prev vis := by
  intro n
  induction n with
  | zero => intro o prev vis; exact Or.inr rfl
  | succ n ih =>
    intro o prev vis
    simp only [physLoop]
    split
    next i _ =>
      split
      · exact Or.inr rfl
      · rcases hr i with h | h
        · rw [h]; exact Or.inl rfl
        · rw [h]
          split
          · split
            · exact Or.inr rfl
            · split
              · exact ih ..
              · exact Or.inr rfl
          all_goals exact Or.inr rfl
    all_goals exact Or.inr rfl

theorem members_refines (E : FEnv) (res res' : Nat → FRes) (hr : Refines res res') :
    ∀ (rs : List PathElem) (o : Obj) (prev : PathElem) (acc : List Path),
      members E res o prev rs acc = .recursion ∨
      members E res' o prev rs acc = members E res o prev rs acc := by
  intro rs
  induction rs with
  | nil => intro o prev acc; exact Or.inr rfl
  | cons r rest ih =>
    intro o prev acc
    simp only [members, physical]
    rcases physLoop_refines E.objs res res' hr (E.objs.length + 1) o prev [] with h | h
    · rw [h]; exact Or.inl rfl
    · rw [h]
      split
      · exact Or.inr rfl
      · split
        · exact Or.inr rfl
        · split
          · exact Or.inr rfl
          · split
            · exact Or.inr rfl
            · exact ih ..
        · exact Or.inr rfl

theorem resolveFRef_refines (E : FEnv) :
    ∀ depth depth' : Nat, depth ≤ depth' → Refines (resolveFRef E depth) (resolveFRef E depth') := by
  intro depth
  induction depth with
  | zero => exact fun _ _ i => Or.inl rfl
  | succ d ih =>
    intro d' hle i
    obtain ⟨d'', rfl⟩ := Nat.exists_eq_add_one.2 (Nat.lt_of_lt_of_le (Nat.succ_pos _) hle)
    simp only [resolveFRef]
    split
    · split
      · exact Or.inr rfl
      · exact Or.inr rfl
      · split
        · exact Or.inr rfl
        · exact members_refines E _ _ (ih d'' (Nat.le_of_succ_le_succ hle)) ..
    · exact Or.inr rfl

theorem resolveFRef_mono (E : FEnv) (depth depth' i : Nat) (hle : depth ≤ depth')
    (h : resolveFRef E depth i ≠ .recursion) : resolveFRef E depth' i = resolveFRef E depth i :=
  (resolveFRef_refines E depth depth' hle i).resolve_left h

/-! ### Soundness: what the functions bind / reject is derivable by the rules -/

theorem chain_snoc (E : FEnv) {o0 o o' : Obj} {via : List Obj}
    (h : MemberRule E (.chain o0 via o)) (hr : MemberRule E (.renames o o')) :
    MemberRule E (.chain o0 (via ++ [o]) o') := by
  generalize hj : MemberJudgement.chain o0 via o = j at h
  induction h generalizing o0 via with
  | chainNil => cases hj; exact MemberRule.chainCons hr MemberRule.chainNil
  | chainCons h1 _ _ ih2 => cases hj; exact MemberRule.chainCons h1 (ih2 rfl)
  | _ => cases hj

/-- what an answer claims, in terms of the rules -/
def PathSound (E : FEnv) (i : Nat) : FRes → Prop
  | .ok cs => MemberRule E (.path i cs)
  | .err e => MemberFails E (.path i e)
  | _ => True

/-- `members` appends what it binds to the accumulator `acc` it is given: an `ok` answer claims the
rules bind `rs` to the part after `acc`. -/
def MembersSound (E : FEnv) (o : Obj) (prev : PathElem) (rs : List PathElem) (acc : List Path) :
    FRes → Prop
  | .ok cs => ∃ ms, cs = acc ++ ms ∧ MemberRule E (.mem o rs ms)
  | .err e => MemberFails E (.mem o prev rs e)
  | _ => True

/-- `.inr p`: the field the renamings end in.  `.inl x`: `members` returns `x` as it stands, so `x`
must not be a binding — the loop never answers `.inl (.ok _)`. -/
def LoopSound (E : FEnv) (o0 : Obj) (prev : PathElem) : FRes ⊕ Obj → Prop
  | .inr p => ∃ via, MemberRule E (.chain o0 via p) ∧ via.Nodup
  | .inl (.err e) => MemberFails E (.phys o0 prev e)
  | .inl (.ok _) => False
  | .inl _ => True

/-- The loop pushes every renaming field it passes onto `vis`: read backwards, `vis` is the chain
from the starting definition `o0` to the current one. -/
theorem physLoop_sound (E : FEnv) (res : Nat → FRes) (hs : ∀ i, PathSound E i (res i)) (o0 : Obj)
    (prev : PathElem) :
    ∀ (n : Nat) (o : Obj) (vis : List Obj), MemberRule E (.chain o0 vis.reverse o) → vis.Nodup →
      LoopSound E o0 prev (physLoop E.objs res n o prev vis) := by
  intro n
  induction n with
  | zero => intro o vis _ _; trivial
  | succ n ih =>
    intro o vis hc hn
    simp only [physLoop]
    split
    next i hk =>
      split
      next hvis => exact .physCycle hc (List.mem_reverse.2 hvis)
      next hvis =>
        split
        next cs hres =>
          split
          · trivial
          next c hl =>
            split
            next o' hf =>
              have hp : MemberRule E (.path i cs) := by have := hs i; rwa [hres] at this
              refine ih o' (o :: vis) ?_ (List.nodup_cons.2 ⟨hvis, hn⟩)
              rw [List.reverse_cons]
              exact chain_snoc E hc (.renames hk hp hl hf)
            · trivial
        all_goals trivial
    next hk => exact .physOther hc hk
    · exact ⟨_, hc, (List.reverse_perm vis).nodup_iff.2 hn⟩
    next hk => exact .physNonField hc hk

theorem members_sound (E : FEnv) (res : Nat → FRes) (hs : ∀ i, PathSound E i (res i)) :
    ∀ (rs : List PathElem) (o : Obj) (prev : PathElem) (acc : List Path),
      MembersSound E o prev rs acc (members E res o prev rs acc) := by
  intro rs
  induction rs with
  | nil => intro o prev acc; exact ⟨[], (List.append_nil acc).symm, .memNil⟩
  | cons r rest ih =>
    intro o prev acc
    have hp : LoopSound E o prev (physical E res o prev) :=
      physLoop_sound E res hs o prev _ o [] .chainNil List.nodup_nil
    simp only [members]
    split
    next x hres =>
      rw [hres] at hp
      cases x with
      | ok cs => exact hp.elim
      | err e => exact .memPhys hp
      | _ => trivial
    next p hres =>
      rw [hres] at hp
      obtain ⟨via, hc, hn⟩ := hp
      split
      next hk => exact .memArray hc hn hk
      next t hk =>
        split
        · trivial
        next tc ht =>
          split
          next hf => exact .memMissing hc hn hk ht hf
          next o' hf =>
            have hm := ih o' r (acc ++ [tc ++ [r.name]])
            generalize members E res o' r rest (acc ++ [tc ++ [r.name]]) = x at hm
            cases x with
            | ok cs =>
              obtain ⟨ms, hcs, hms⟩ := hm
              exact ⟨(tc ++ [r.name]) :: ms, by rw [hcs, List.append_assoc, List.singleton_append],
                .memCons hc hn hk ht hf hms⟩
            | err e => exact .memLater hc hn hk ht hf hm
            | _ => trivial
      · trivial

theorem resolveFRef_sound (E : FEnv) :
    ∀ depth i : Nat, PathSound E i (resolveFRef E depth i) := by
  intro depth
  induction depth with
  | zero => intro i; trivial
  | succ d ih =>
    intro i
    simp only [resolveFRef]
    split
    next fr hd hfr hh =>
      split
      · trivial
      next p hp => exact .pathSingle hfr hh hp
      next p0 rest hne hp =>
        match rest, hne, hp with
        | [], hne, _ => exact (hne rfl).elim
        | r :: rest, _, hp =>
          split
          next hf => exact .pathNoHead hfr hh hp hf
          next o hf =>
            have hm := members_sound E _ ih (r :: rest) o p0 [hd]
            generalize members E (resolveFRef E d) o p0 (r :: rest) [hd] = x at hm
            cases x with
            | ok cs =>
              obtain ⟨ms, rfl, hms⟩ := hm
              exact .pathMulti hfr hh hp hf hms
            | err e => exact .pathMem hfr hh hp hf hm
            | _ => trivial
    · trivial

/-! ### Completeness: whatever the rules derive, the functions compute (given enough nesting budget) -/

/-- a chain of renamings as the loop sees it: every step is an answer of the nested call -/
inductive Follows (objs : List Obj) (res : Nat → FRes) : Obj → List Obj → Obj → Prop
  | nil {o} : Follows objs res o [] o
  | cons {o i cs c o' via p} : o.kind = .field (.virtAlias i) → res i = .ok cs →
      cs.getLast? = some c → findObject objs c = some o' → Follows objs res o' via p →
      Follows objs res o (o :: via) p

theorem Follows.via_kind {objs : List Obj} {res : Nat → FRes} {o p : Obj} {via : List Obj}
    (h : Follows objs res o via p) : ∀ x ∈ via, ∃ i, x.kind = .field (.virtAlias i) := by
  induction h with
  | nil => intro x hx; cases hx
  | cons hk _ _ _ _ ih =>
    intro x hx
    rcases List.mem_cons.1 hx with rfl | hx
    · exact ⟨_, hk⟩
    · exact ih x hx

/-- Running the loop along a chain: it arrives at the end of the chain with every field of the
chain visited, unless the visited list would then hold a field twice — in which case it has
reported the noncomposite error on the way. -/
theorem Follows.run {objs : List Obj} {res : Nat → FRes} (prev : PathElem) {o p : Obj}
    {via : List Obj} (h : Follows objs res o via p) :
    ∀ (n : Nat) (vis : List Obj), LoopInv objs n vis → o ∈ objs →
      (physLoop objs res n o prev vis = .inl (.err (Err.noncomposite prev.name prev.rloc)) ∧
        ¬ (via.reverse ++ vis).Nodup) ∨
      ∃ n', physLoop objs res n o prev vis = physLoop objs res (n' + 1) p prev (via.reverse ++ vis) := by
  induction h with
  | nil =>
    intro n vis inv ho
    obtain ⟨n', rfl⟩ := inv.exists_succ
    exact Or.inr ⟨n', rfl⟩
  | @cons o i cs c o' via p hk hres hl hf _ ih =>
    intro n vis inv ho
    obtain ⟨n0, rfl⟩ := inv.exists_succ
    rw [List.reverse_cons, List.append_assoc, List.singleton_append]
    by_cases hv : o ∈ vis
    · exact Or.inl ⟨by simp only [physLoop, hk, hv, if_true],
        fun hh => (List.nodup_cons.1 (List.nodup_append.1 hh).2.1).1 hv⟩
    · have hstep : physLoop objs res (n0 + 1) o prev vis =
          physLoop objs res n0 o' prev (o :: vis) := by
        simp only [physLoop, hk, hv, if_false, hres, hl, hf]
      rw [hstep]
      exact ih n0 (o :: vis) (inv.step ho hv) (findObject_mem hf)

theorem physical_of_follows_field {E : FEnv} {res : Nat → FRes} (prev : PathElem) {o p : Obj}
    {via : List Obj} (h : Follows E.objs res o via p) (ho : o ∈ E.objs) (hn : via.Nodup)
    (hk : (∃ t, p.kind = .field (.atomic t)) ∨ p.kind = .field .array) :
    physical E res o prev = .inr p := by
  rcases h.run prev _ [] LoopInv.init ho with ⟨_, hnot⟩ | ⟨n', heq⟩
  · exact absurd (by rw [List.append_nil]; exact (List.reverse_perm via).nodup_iff.2 hn) hnot
  · unfold physical
    rw [heq]
    rcases hk with ⟨t, hk⟩ | hk <;> simp only [physLoop, hk]

theorem physical_of_follows_err {E : FEnv} {res : Nat → FRes} (prev : PathElem) {o p : Obj}
    {via : List Obj} (h : Follows E.objs res o via p) (ho : o ∈ E.objs)
    (hk : (∀ sh, p.kind ≠ .field sh) ∨ p.kind = .field .virtOther ∨ p ∈ via) :
    physical E res o prev = .inl (.err (Err.noncomposite prev.name prev.rloc)) := by
  rcases h.run prev _ [] LoopInv.init ho with ⟨he, _⟩ | ⟨n', heq⟩
  · exact he
  · unfold physical
    rw [heq]
    rcases hk with hk | hk | hk
    · simp only [physLoop]
      cases hk' : p.kind with
      | field sh => exact absurd hk' (hk sh)
      | _ => rfl
    · simp only [physLoop, hk]
    · obtain ⟨i, hki⟩ := h.via_kind p hk
      simp only [physLoop, hki, List.mem_append_left _ (List.mem_reverse.2 hk), if_true]

/-- for every large enough nesting budget -/
def Eventually (P : Nat → Prop) : Prop := ∃ d, ∀ d', d ≤ d' → P d'

theorem Eventually.of_all {P : Nat → Prop} (h : ∀ d, P d) : Eventually P := ⟨0, fun d _ => h d⟩

theorem Eventually.mono {P Q : Nat → Prop} (hp : Eventually P) (h : ∀ d, P d → Q d) :
    Eventually Q :=
  let ⟨d, hd⟩ := hp
  ⟨d, fun d' hle => h d' (hd d' hle)⟩

theorem Eventually.and {P Q R : Nat → Prop} (hp : Eventually P) (hq : Eventually Q)
    (h : ∀ d, P d → Q d → R d) : Eventually R :=
  let ⟨d1, h1⟩ := hp
  let ⟨d2, h2⟩ := hq
  ⟨max d1 d2, fun d hle => h d (h1 d (Nat.le_trans (Nat.le_max_left ..) hle))
    (h2 d (Nat.le_trans (Nat.le_max_right ..) hle))⟩

theorem Eventually.succ {P Q : Nat → Prop} (hp : Eventually P) (h : ∀ d, P d → Q (d + 1)) :
    Eventually Q :=
  let ⟨d, hd⟩ := hp
  ⟨d + 1, fun d' hle => by
    obtain ⟨d'', rfl⟩ := Nat.exists_eq_add_one.2 (Nat.lt_of_lt_of_le (Nat.succ_pos _) hle)
    exact h d'' (hd d'' (Nat.le_of_succ_le_succ hle))⟩

/-- The statement proved by induction on the derivation.  `renames` and `chain` are read on the answers
of the nested calls; `mem` for every `prev` and `acc`, since `members` threads both through its
recursion. -/
def Complete (E : FEnv) : MemberJudgement → Prop
  | .renames o o' => Eventually fun d => ∃ i cs c, o.kind = .field (.virtAlias i) ∧
      resolveFRef E d i = .ok cs ∧ cs.getLast? = some c ∧ findObject E.objs c = some o'
  | .chain o via p => Eventually fun d => Follows E.objs (resolveFRef E d) o via p
  | .mem o rs ms => Eventually fun d => ∀ prev acc, o ∈ E.objs →
      members E (resolveFRef E d) o prev rs acc = .ok (acc ++ ms)
  | .path i cs => Eventually fun d => resolveFRef E d i = .ok cs

theorem member_complete {E : FEnv} {j : MemberJudgement} (h : MemberRule E j) : Complete E j := by
  induction h with
  | @renames o i cs c o' hk _ hl hf ih => exact ih.mono fun d hd => ⟨i, cs, c, hk, hd, hl, hf⟩
  | chainNil => exact .of_all fun _ => Follows.nil
  | chainCons _ _ ih1 ih2 =>
    exact ih1.and ih2 fun d ⟨i, cs, c, hk, hr, hl, hf⟩ h2 => Follows.cons hk hr hl hf h2
  | memNil => exact .of_all fun _ prev acc _ => by simp [members]
  | @memCons o via p t tc r o' rest cs _ hn hk ht hf _ ih1 ih2 =>
    refine ih1.and ih2 fun d h1 h2 prev acc ho => ?_
    have hp := physical_of_follows_field prev h1 ho hn (Or.inl ⟨t, hk⟩)
    have hm := h2 r (acc ++ [tc ++ [r.name]]) (findObject_mem hf)
    simp only [members, hp, hk, ht, hf, hm, List.append_assoc, List.singleton_append]
  | pathSingle hfr hh hp =>
    -- from budget 1 on: `resolveFRef E 0` answers `recursion`
    exact (Eventually.of_all fun _ => trivial).succ fun d _ => by
      simp only [resolveFRef, hfr, hh, hp]
  | @pathMulti i fr hd p0 r rest o cs hfr hh hp hf _ ih =>
    exact ih.succ fun d h => by
      simp only [resolveFRef, hfr, hh, hp, hf, h p0 [hd] (findObject_mem hf),
        List.singleton_append]

/-- The same for the failure rules.  `prev` is part of a failure judgement (it locates the error),
so only `acc` is left to quantify. -/
def FailComplete (E : FEnv) : MemberFailJudgement → Prop
  | .phys o prev e => Eventually fun d => o ∈ E.objs →
      physical E (resolveFRef E d) o prev = .inl (.err e)
  | .mem o prev rs e => Eventually fun d => ∀ acc, o ∈ E.objs →
      members E (resolveFRef E d) o prev rs acc = .err e
  | .path i e => Eventually fun d => resolveFRef E d i = .err e

theorem phys_fail_complete {E : FEnv} {o p : Obj} {via : List Obj} (hc : MemberRule E (.chain o via p))
    {prev : PathElem}
    (hk : (∀ sh, p.kind ≠ .field sh) ∨ p.kind = .field .virtOther ∨ p ∈ via) :
    FailComplete E (.phys o prev (.noncomposite prev.name prev.rloc)) :=
  (member_complete hc).mono fun _ hd ho => physical_of_follows_err prev hd ho hk

theorem member_fail_complete {E : FEnv} {j : MemberFailJudgement} (h : MemberFails E j) :
    FailComplete E j := by
  induction h with
  | physNonField hc hk => exact phys_fail_complete hc (Or.inl hk)
  | physOther hc hk => exact phys_fail_complete hc (Or.inr (Or.inl hk))
  | physCycle hc hk => exact phys_fail_complete hc (Or.inr (Or.inr hk))
  | memPhys _ ih => exact ih.mono fun d hd acc ho => by simp only [members, hd ho]
  | @memArray o via p prev r rest hc hn hk =>
    refine (member_complete hc).mono fun d hd acc ho => ?_
    have hp := physical_of_follows_field prev hd ho hn (Or.inr hk)
    simp only [members, hp, hk]
  | @memMissing o via p t tc prev r rest hc hn hk ht hf =>
    refine (member_complete hc).mono fun d hd acc ho => ?_
    have hp := physical_of_follows_field prev hd ho hn (Or.inl ⟨t, hk⟩)
    simp only [members, hp, hk, ht, hf]
  | @memLater o via p t tc prev r rest o' e hc hn hk ht hf _ ih =>
    refine (member_complete hc).and ih fun d h1 h2 acc ho => ?_
    have hp := physical_of_follows_field prev h1 ho hn (Or.inl ⟨t, hk⟩)
    simp only [members, hp, hk, ht, hf, h2 _ (findObject_mem hf)]
  | pathNoHead hfr hh hp hf =>
    exact (Eventually.of_all fun _ => trivial).succ fun d _ => by
      simp only [resolveFRef, hfr, hh, hp, hf]
  | @pathMem i fr hd p0 r rest o e hfr hh hp hf _ ih =>
    exact ih.succ fun d h => by
      simp only [resolveFRef, hfr, hh, hp, hf, h [hd] (findObject_mem hf)]

theorem resolveFRef_eq_iff {E : FEnv} {F i : Nat} {x : FRes} (hF : resolveFRef E F i ≠ .recursion)
    (hc : PathSound E i x → Eventually fun d => resolveFRef E d i = x) :
    resolveFRef E F i = x ↔ PathSound E i x := by
  refine ⟨fun h => h ▸ resolveFRef_sound E F i, fun h => ?_⟩
  obtain ⟨f, hf⟩ := hc h
  rw [← resolveFRef_mono E F (max F f) i (Nat.le_max_left ..) hF]
  exact hf _ (Nat.le_max_right ..)

/-! ### Errors of the member loop are of the three documented kinds -/

def MemberErrKind (e : Err) : Prop :=
  (∃ n l, e = .arrayMember n l) ∨ (∃ n l, e = .noncomposite n l) ∨ (∃ n l, e = .missing n l)

theorem member_err_kinds (E : FEnv) (depth i : Nat) (e : Err)
    (h : resolveFRef E depth i = .err e) : MemberErrKind e := by
  have hf : MemberFails E (.path i e) := by have := resolveFRef_sound E depth i; rwa [h] at this
  have key : ∀ j, MemberFails E j →
      match j with
      | .phys _ _ e => MemberErrKind e
      | .mem _ _ _ e => MemberErrKind e
      | .path _ e => MemberErrKind e := by
    intro j hj
    induction hj with
    | memPhys _ ih => exact ih
    | memLater _ _ _ _ _ _ ih => exact ih
    | pathMem _ _ _ _ _ ih => exact ih
    | memArray => exact Or.inl ⟨_, _, rfl⟩
    | memMissing => exact Or.inr (Or.inr ⟨_, _, rfl⟩)
    | _ => exact Or.inr (Or.inl ⟨_, _, rfl⟩)
  exact key _ hf

end Emboss.Scope
