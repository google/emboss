/-
Helper lemmas for C06 (integer text codec): `DecodeInteger`'s loop computes exactly the
declarative value of the digits, or rejects when that value leaves the type's range.
-/
import Emboss.Spec.Text
namespace Emboss.Text
open Spec

theorem digitTable_keys : ∀ k ∈ digitTable.map (·.1),
    48 ≤ k.toNat ∧ k.toNat ≤ 57 ∨ 65 ≤ k.toNat ∧ k.toNat ≤ 70 ∨ 97 ≤ k.toNat ∧ k.toNat ≤ 102 := by
  decide +kernel

theorem decodeDigit_ofNat : ∀ n, n < 103 → (48 ≤ n ∧ n ≤ 57 ∨ 65 ≤ n ∧ n ≤ 70 ∨ 97 ≤ n ∧ n ≤ 102) →
    decodeDigit (Char.ofNat n) = digitValue (Char.ofNat n) := by
  decide +kernel

theorem decodeDigit_eq (c : Char) : decodeDigit c = digitValue c := by
  by_cases h : 48 ≤ c.toNat ∧ c.toNat ≤ 57 ∨ 65 ≤ c.toNat ∧ c.toNat ≤ 70 ∨ 97 ≤ c.toNat ∧ c.toNat ≤ 102
  · have := decodeDigit_ofNat c.toNat (by omega) h
    rwa [Char.ofNat_toNat] at this
  · rw [decodeDigit, if_neg (by omega), if_neg (by omega), if_neg (by omega), eq_comm, digitValue,
      List.lookup_eq_none_iff]
    intro p hp
    have := digitTable_keys p.1 (List.mem_map_of_mem hp)
    simp only [bne_iff_ne, ne_eq]
    rintro rfl
    exact h this

theorem IntTy.minVal_eq (T : IntTy) : T.minVal = if T.signed then -(2 ^ T.bits / 2) else 0 := by
  cases T <;> rfl
theorem IntTy.maxVal_eq (T : IntTy) :
    T.maxVal = (if T.signed then 2 ^ T.bits / 2 else 2 ^ T.bits) - 1 := by
  cases T <;> rfl
theorem IntTy.maxVal_ge (T : IntTy) : 15 ≤ T.maxVal := by cases T <;> decide
theorem IntTy.minVal_le (T : IntTy) : T.minVal ≤ 0 := by cases T <;> decide
theorem IntTy.minVal_signed (T : IntTy) (h : T.signed = true) : T.minVal ≤ -16 := by
  cases T <;> first | decide | cases h
theorem IntTy.signed_of_neg (T : IntTy) (x : Int) (hx : T.InRange x) (h : x < 0) : T.signed = true := by
  have := hx.1
  cases T <;> simp [IntTy.minVal, IntTy.signed] at * <;> omega

theorem inRange_u64 (T : IntTy) (v : Int) (h : T.InRange v) (h0 : 0 ≤ v) : IntTy.u64.InRange v :=
  ⟨h0, Int.le_trans h.2 (by cases T <;> decide)⟩

theorem inRange_i64 (T : IntTy) (v : Int) (h : T.InRange v) (h0 : v < 0) : IntTy.i64.InRange v :=
  ⟨Int.le_trans (by cases T <;> decide) h.1, Int.le_of_lt (Int.lt_of_lt_of_le h0 (by decide))⟩

theorem pos_guard (hi acc : Int) (d b : Nat) (hb : 0 < b) (hd : (d : Int) ≤ hi) :
    acc > Int.tdiv (hi - d) b ↔ acc * b + d > hi := by
  rw [Int.tdiv_eq_ediv_of_nonneg (by omega), gt_iff_lt, Int.ediv_lt_iff_lt_mul (by omega)]
  omega

/-- `(-a).tdiv b = -(a.tdiv b)`, so the guard of the negative loop mirrors `pos_guard`. -/
theorem neg_guard (lo acc : Int) (d b : Nat) :
    acc < Int.tdiv (lo + d) b ↔ -acc > Int.tdiv (-lo - d) b := by
  rw [show -lo - (d : Int) = -(lo + d) by omega, Int.neg_tdiv]
  omega

theorem valueFrom_nil (b : Nat) (a : Int) : valueFrom b a [] = a := rfl
theorem valueFrom_cons (b : Nat) (a : Int) (d : Nat) (ds : List Nat) :
    valueFrom b a (d :: ds) = valueFrom b (a * (b : Int) + (d : Int)) ds := rfl

theorem valueFrom_ge (b : Nat) (hb : 0 < b) : ∀ (ds : List Nat) (a : Int), 0 ≤ a → a ≤ valueFrom b a ds := by
  intro ds
  induction ds with
  | nil => intro a _; exact Int.le_refl _
  | cons d ds ih =>
    intro a ha
    have h1 : a * 1 ≤ a * (b : Int) := Int.mul_le_mul_of_nonneg_left (by omega) ha
    have := ih (a * b + d) (by omega)
    rw [valueFrom_cons]
    omega

theorem decodeLoop_atStart (lo hi : Int) (neg : Bool) (b : Nat) (st : Bool) (acc : Int) (cs : List Char) :
    decodeLoop lo hi neg b st acc cs =
      if st = true ∧ cs.head? = some '_' then none else decodeLoop lo hi neg b false acc cs := by
  cases st
  · simp
  · cases cs with
    | nil => simp [decodeLoop]
    | cons c cs => by_cases hc : c = '_' <;> simp [decodeLoop, hc]

theorem decodeLoop_neg (lo hi : Int) (b : Nat) : ∀ (cs : List Char) (acc : Int),
    decodeLoop lo hi true b false acc cs = (decodeLoop (-hi) (-lo) false b false (-acc) cs).map (- ·) := by
  intro cs
  induction cs with
  | nil => intro acc; simp [decodeLoop]
  | cons c cs ih =>
    intro acc
    by_cases hc : c = '_'
    · simpa [decodeLoop, hc] using ih acc
    · simp only [decodeLoop, if_neg hc]
      cases decodeDigit c with
      | none => rfl
      | some d =>
        have hstep : -acc * (b : Int) + d = -(acc * b - d) := by rw [Int.neg_mul]; omega
        simp only [neg_guard lo acc d b, if_true, Bool.false_eq_true, if_false, hstep]
        split
        · rfl
        · split
          · rfl
          · exact ih _

theorem decodeLoop_pos (lo hi : Int) (b : Nat) (hb : 0 < b) (hbh : (b : Int) ≤ hi + 1) (hlo : lo ≤ 0) :
    ∀ (cs : List Char) (acc : Int), 0 ≤ acc → acc ≤ hi →
      decodeLoop lo hi false b false acc cs =
        ((digitsOf b cs).map (valueFrom b acc)).filter fun v => lo ≤ v ∧ v ≤ hi := by
  intro cs
  induction cs with
  | nil =>
    intro acc h0 h
    rw [digitsOf, Option.map_some, Option.filter_some, if_pos (decide_eq_true ⟨Int.le_trans hlo h0, h⟩)]
    rfl
  | cons c cs ih =>
    intro acc h0 h1
    by_cases hc : c = '_'
    · simpa [decodeLoop, digitsOf, hc] using ih acc h0 h1
    · simp only [decodeLoop, digitsOf, if_neg hc, decodeDigit_eq]
      cases digitValue c with
      | none => rfl
      | some d =>
        by_cases hd : d < b
        · have hm : 0 ≤ acc * (b : Int) := Int.mul_nonneg h0 (by omega)
          simp only [hd, if_neg (Nat.not_le.mpr hd), if_true, Bool.false_eq_true, if_false,
            pos_guard hi acc d b hb (by omega), Option.map_map]
          by_cases hg : acc * b + d > hi
          · -- once above `hi` the value stays above `hi`, whatever digits follow
            rw [if_pos hg]
            cases digitsOf b cs with
            | none => rfl
            | some ds =>
              have := valueFrom_ge b hb ds (acc * b + d) (by omega)
              rw [Option.map_some, Option.filter_some, if_neg]
              rw [decide_eq_true_eq, Function.comp, valueFrom_cons]
              omega
          · rw [if_neg hg, ih _ (by omega) (by omega)]
            rfl
        · simp only [if_pos (Nat.not_lt.mp hd), hd, if_false]
          rfl

theorem splitBase_eq (s : List Char) :
    splitBase s = (baseOf s, bodyOf s, decide (baseOf s ≠ 10)) := by
  unfold splitBase
  split
  · rename_i c r
    by_cases h1 : c = 'x' ∨ c = 'X'
    · rcases h1 with rfl | rfl <;> simp [baseOf, bodyOf]
    · by_cases h2 : c = 'b' ∨ c = 'B'
      · rcases h2 with rfl | rfl <;> simp [baseOf, bodyOf]
      · simp [baseOf, bodyOf, not_or.mp h1, not_or.mp h2]
  · rename_i h
    have : baseOf s = 10 := by
      unfold baseOf
      rcases s with _ | ⟨a, _ | ⟨c, r⟩⟩
      · simp
      · simp
      · have ha : a ≠ '0' := fun ha => h c r (ha ▸ rfl)
        simp [ha]
    simp [bodyOf, this]

theorem splitSign_eq (T : IntTy) (s : List Char) :
    splitSign T s = (signOf T.signed s, afterSign T.signed s) := by
  unfold splitSign
  split
  · cases hs : T.signed <;> simp [signOf, afterSign]
  · rename_i h
    have : s.head? ≠ some '-' := by
      cases s with
      | nil => simp
      | cons c r => intro hc; exact h r (by simp at hc; rw [hc])
    simp [signOf, afterSign, this]

theorem baseOf_bounds (s : List Char) : 0 < baseOf s ∧ baseOf s ≤ 16 := by
  unfold baseOf
  split
  · decide
  · split <;> decide

theorem decodeLoop_eq (lo hi : Int) (neg : Bool) (b : Nat) (hb : 0 < b) (hlo : lo ≤ 0)
    (hhi : (b : Int) ≤ hi + 1) (hneg : neg = true → (b : Int) ≤ -lo + 1) (cs : List Char) :
    decodeLoop lo hi neg b false 0 cs =
      ((digitsOf b cs).map fun ds => if neg then -valueFrom b 0 ds else valueFrom b 0 ds).filter
        fun v => lo ≤ v ∧ v ≤ hi := by
  cases neg with
  | false => exact decodeLoop_pos lo hi b hb hhi hlo cs 0 (Int.le_refl _) (by omega)
  | true =>
    rw [decodeLoop_neg, Int.neg_zero,
      decodeLoop_pos _ _ b hb (hneg rfl) (by omega) cs 0 (Int.le_refl _) (by omega)]
    cases digitsOf b cs with
    | none => rfl
    | some ds =>
      simp only [Option.map_some, Option.filter_some, if_true, apply_ite (Option.map _), Option.map_none,
        decide_eq_true_eq]
      exact ite_congr (propext (by omega)) (fun _ => rfl) (fun _ => rfl)

/-- The clause for `_`: the loop refuses `_` only at `offset == 0`, which is reached only when neither sign nor
prefix was consumed, that is, when the text itself starts with `_`. -/
theorem atStart_underscore (sg : Bool) (s : List Char) :
    ((!signOf sg s && !decide (baseOf (afterSign sg s) ≠ 10)) = true ∧
      (bodyOf (afterSign sg s)).head? = some '_') ↔ s.head? = some '_' := by
  constructor
  · rintro ⟨h1, h2⟩
    simp only [Bool.and_eq_true, Bool.not_eq_true', decide_eq_false_iff_not, ne_eq, Decidable.not_not] at h1
    obtain ⟨hs, hb⟩ := h1
    rw [afterSign, hs, if_neg (by decide)] at hb h2
    rwa [bodyOf, if_pos hb] at h2
  · intro h
    cases s with
    | nil => cases h
    | cons c r =>
      cases Option.some.inj h
      have h10 : baseOf ('_' :: r) = 10 := by cases r <;> simp [baseOf]
      simp [signOf, afterSign, bodyOf, h10]

theorem decodeInt_eq (T : IntTy) (s : List Char) :
    decodeInt T s =
      if s.head? = some '_' then none else (textValue T.signed s).filter (T.InRange ·) := by
  obtain ⟨hb0, hb16⟩ := baseOf_bounds (afterSign T.signed s)
  have hhi := IntTy.maxVal_ge T
  have hneg (h : signOf T.signed s = true) : (baseOf (afterSign T.signed s) : Int) ≤ -T.minVal + 1 := by
    have := IntTy.minVal_signed T (Bool.and_eq_true _ _ ▸ h).1
    omega
  simp only [decodeInt, splitSign_eq, splitBase_eq, textValue]
  rw [decodeLoop_atStart, decodeLoop_eq _ _ _ _ hb0 (IntTy.minVal_le T) (by omega) hneg]
  simp only [atStart_underscore]
  by_cases hbody : bodyOf (afterSign T.signed s) = []
  · rw [if_pos hbody, if_pos hbody]
    split <;> rfl
  · rw [if_neg hbody, if_neg hbody]
    rfl

theorem decodeInt_eq_some {T : IntTy} {s : List Char} {v : Int} :
    decodeInt T s = some v ↔ s.head? ≠ some '_' ∧ textValue T.signed s = some v ∧ T.InRange v := by
  rw [decodeInt_eq]
  split
  · simp [*]
  · rw [Option.filter_eq_some_iff, decide_eq_true_eq]
    simp [*]

end Emboss.Text
