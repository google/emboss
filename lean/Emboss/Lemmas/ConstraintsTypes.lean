/-
C14 lemmas: per-field, per-type and per-module equivalences, and the assembly
`check p = [] ↔ Realisable p`.
-/
import Emboss.Lemmas.ConstraintsFields
import Emboss.Lemmas.ConstraintsOrder
namespace Emboss.Constraints
open Emboss.Generated

/-- Side conditions on a type definition under which the iff is proved ("resolved,
type-correct"): structures are byte- or bit-addressed; the size of a scalar field has finite
bounds (C05 guarantees it for every realisable module; an unbounded one is rejected by the
64-bit gate in the same pass); `is_signed`, when present, is a constant boolean (established by
the attribute pass). -/
structure TypeWF (t : TypeInfo) : Prop where
  unit : ∀ fs, t.kind = .structure fs → (t.unit = .bit ∨ t.unit = .byte)
  bounds : ∀ f ∈ t.fields, f.isVirtual = false → f.ty.isAtomic = true →
    ∃ mn mx, f.sizeMin = .fin mn ∧ f.sizeMax = .fin mx
  signedLit : ∀ v, getAttr t.attrs "is_signed" = some v → ∃ b, v.boolValue = some b

variable (p : Program) (d : Option AVal) (t : TypeInfo) (f : Field)

theorem reserved_nil (n : String) (e : EK) :
    (if isReserved n = true then [e] else []) = [] ↔ isReserved n = false := by
  rw [errIf_nil, Bool.not_eq_true]

theorem fieldOK_iff (hu : effUnit t = .bit ∨ effUnit t = .byte)
    (hb : f.isVirtual = false → f.ty.isAtomic = true →
      ∃ mn mx, f.sizeMin = .fin mn ∧ f.sizeMax = .fin mx) :
    (AttrListOK (fieldSpecs f) f.attrs ∧
      (verifyByteOrder p d t f = [] ∧ verifyRequires p f = []) ∧ fieldConstraints p t f = []) ↔
    FieldOK p d t f := by
  cases hv : f.isVirtual with
  | true =>
    rw [verifyByteOrder_nil p d t f false (by simp only [needsByteOrder, hv, ↓reduceIte]),
      verifyRequires_virt_nil p f hv]
    simp only [fieldConstraints, hv, ↓reduceIte, reserved_nil, forall_const, Bool.false_eq_true,
      false_implies, and_true]
    exact ⟨fun ⟨a, b, n⟩ => ⟨a, n, by rw [hv]; nofun, fun _ => b⟩,
      fun h => ⟨h.attrs, h.virt hv, h.name⟩⟩
  | false =>
    have key := physFieldOK_iff p d t f hv hu (hb hv)
    simp only [fieldConstraints, hv, Bool.false_eq_true, ↓reduceIte, List.append_eq_nil_iff,
      reserved_nil]
    constructor
    · rintro ⟨a, ⟨b1, b2⟩, ⟨⟨c1, c2⟩, c3⟩, n⟩
      exact ⟨a, n, fun _ => key.1 ⟨b1, b2, c1, c2, c3⟩, by rw [hv]; nofun⟩
    · intro h
      obtain ⟨b1, b2, c1, c2, c3⟩ := key.2 (h.phys hv)
      exact ⟨h.attrs, ⟨b1, b2⟩, ⟨⟨c1, c2⟩, c3⟩, h.name⟩

theorem boundsFit_iff (lo hi : Bound) : boundsFit lo hi = true ↔ FitsIn64 lo hi := by
  unfold boundsFit FitsIn64
  split
  · simp only [decide_eq_true_eq, Bound.fin.injEq, exists_and_left, exists_eq_left',
      Int.le_sub_one_iff]
  · rename_i h
    refine ⟨fun h' => Bool.noConfusion h', ?_⟩
    rintro ⟨a, b, rfl, rfl, _⟩
    exact (h a b rfl rfl).elim

theorem paramOK_iff (q : Param) :
    (earlyParam q = [] ∧ paramReq p q = []) ↔ ParamOK p q := by
  unfold earlyParam paramReq ParamOK
  cases hi : q.isInt with
  | false => cases q.explicitSize <;> simp
  | true =>
    simp only [↓reduceIte]
    cases hs : q.explicitSize with
    | none => simp
    | some s =>
      rw [← boundsFit_iff]
      cases hf : boundsFit q.lo q.hi with
      | false => simp
      | true => cases hrt : findType p q.ref <;> simp [physReq_nil]

theorem signed_unique (vs : List EnumValue) {specs : List (String × Bool)}
    (ha : AttrListOK specs t.attrs) :
    ∃ s0, effSigned t vs = some s0 ∧ ∀ s, Signed t vs s ↔ s = s0 := by
  unfold effSigned Signed
  cases hg : getAttr t.attrs "is_signed" with
  | none =>
    refine ⟨vs.any (fun v => decide (v.value < 0)), rfl, fun s => ?_⟩
    cases s <;> simp
  | some v =>
    -- the attribute table makes a well-typed `is_signed` a constant boolean
    obtain ⟨a, hm, hn, hq, rfl⟩ := getAttr_mem hg
    have hv := ha.typed a hm hq
    unfold ValueOK at hv
    rw [hn, show AttrTable.attrTypes.lookup "is_signed" = some .boolConst by decide +kernel] at hv
    obtain ⟨b, l, hb⟩ := hv
    exact ⟨b, by rw [hb]; rfl, fun s => by simp [hb, eq_comm]⟩

theorem verifyEnumWidth_nil {vs : List EnumValue} (hk : t.kind = .enum vs) :
    verifyEnumWidth t = [] ↔ (1 ≤ effMaxBits t ∧ effMaxBits t ≤ 64) := by
  simp only [verifyEnumWidth, hk, errIf_nil]
  omega

theorem enumValues_nil {vs : List EnumValue} (hk : t.kind = .enum vs) {s0 : Bool}
    (hs0 : effSigned t vs = some s0) :
    enumValues t = [] ↔ ∀ v ∈ vs,
      (if s0 then -(2 ^ (effMaxBits t - 1).toNat) ≤ v.value ∧ v.value < 2 ^ (effMaxBits t - 1).toNat
       else 0 ≤ v.value ∧ v.value < 2 ^ (effMaxBits t).toNat) := by
  simp only [enumValues, hk, hs0, List.flatMap_eq_nil_iff]
  cases s0 <;> simp only [Bool.false_eq_true, ↓reduceIte, errUnless_nil, Int.le_sub_one_iff]

theorem enumOK_iff {specs : List (String × Bool)} (ha : AttrListOK specs t.attrs) :
    (verifyEnumWidth t = [] ∧ enumValues t = [] ∧
      (∀ v ∈ t.values, AttrListOK AttrTable.enumValueAttrs v.attrs) ∧
      (∀ v ∈ t.values, isReserved v.name = false)) ↔
    ∀ vs, t.kind = .enum vs → EnumOK t vs := by
  cases hk : t.kind with
  | enum vs =>
    obtain ⟨s0, hs0, hs⟩ := signed_unique t vs ha
    simp only [verifyEnumWidth_nil t hk, enumValues_nil t hk hs0, TypeInfo.values, hk, Kind.enum.injEq,
      forall_eq']
    constructor
    · rintro ⟨h1, h2, h3, h4⟩
      exact ⟨h1, fun s hsg => by rw [(hs s).1 hsg]; exact h2, h3, h4⟩
    · intro h
      exact ⟨h.maxBits, h.representable s0 ((hs s0).2 rfl), h.valueAttrs, h.valueNames⟩
  | _ => simp [verifyEnumWidth, enumValues, TypeInfo.values, hk]

theorem params_iff (ps : List Param) :
    (ps.flatMap earlyParam = [] ∧ ps.flatMap (paramReq p) = []) ↔ ∀ q ∈ ps, ParamOK p q := by
  simp only [List.flatMap_eq_nil_iff, ← paramOK_iff, imp_and, forall_and]

theorem verifySize_nil {fs : List Field} (hk : t.kind = .structure fs) :
    verifySize t = [] ↔ ∀ v, getAttr t.attrs "fixed_size_in_bits" = some v →
      ∃ sz, structFixedSize t fs = some sz ∧ v = .int (some sz) := by
  simp only [verifySize, hk]
  cases getAttr t.attrs "fixed_size_in_bits" with
  | none => simp
  | some v => cases structFixedSize t fs <;> simp

theorem sizeOfBits_nil {fs : List Field} (hk : t.kind = .structure fs) :
    sizeOfBits t = [] ↔ (t.unit = .bit → ∃ n, effFixedSize t = some n ∧ n ≤ 64) := by
  simp only [sizeOfBits, hk]
  by_cases hu : t.unit = .bit
  · simp only [hu, ↓reduceIte, forall_const]
    cases effFixedSize t <;> simp
  · simp [hu]

theorem verifyUnit_nil :
    verifyUnit t = [] ↔
      (t.kind = .external → ∃ n, getInt t.attrs "addressable_unit_size" = some n ∧ (n = 1 ∨ n = 8)) := by
  unfold verifyUnit
  cases t.kind with
  | external =>
    cases getInt t.attrs "addressable_unit_size" with
    | none => simp
    | some n => simp only [errUnless_nil, forall_const, Option.some.injEq, exists_eq_left']
  | _ => simp

section
variable (hu : ∀ fs, t.kind = .structure fs → t.unit = .bit ∨ t.unit = .byte)
  (hb : ∀ f ∈ t.fields, f.isVirtual = false → f.ty.isAtomic = true →
    ∃ mn mx, f.sizeMin = .fin mn ∧ f.sizeMax = .fin mx)
include hu hb

theorem structOK_iff :
    (verifySize t = [] ∧ sizeOfBits t = [] ∧
      ∀ f ∈ t.fields, AttrListOK (fieldSpecs f) f.attrs ∧
        (verifyByteOrder p d t f = [] ∧ verifyRequires p f = []) ∧ fieldConstraints p t f = []) ↔
    ∀ fs, t.kind = .structure fs → StructOK p d t fs := by
  cases hk : t.kind with
  | «structure» fs =>
    have hf : t.fields = fs := by simp only [TypeInfo.fields, hk]
    have hu : effUnit t = .bit ∨ effUnit t = .byte := by
      simpa only [effUnit, hk] using hu fs hk
    have hfield : ∀ f ∈ fs, _ := fun f hfm =>
      fieldOK_iff p d t f hu (hb f (hf ▸ hfm))
    simp only [verifySize_nil t hk, sizeOfBits_nil t hk, hf, Kind.structure.injEq,
      forall_eq']
    constructor
    · rintro ⟨sz, b, h⟩
      exact ⟨fun f hfm => (hfield f hfm).1 (h f hfm), sz, b⟩
    · intro h
      exact ⟨h.declaredSize, h.bits, fun f hfm => (hfield f hfm).2 (h.fieldsOK f hfm)⟩
  | _ => simp [verifySize, sizeOfBits, TypeInfo.fields, hk]

theorem typeOK_iff :
    (t.params.flatMap earlyParam = [] ∧ attrsOfType t = [] ∧ verifyOfType p (d, t) = [] ∧
      constraintsOfType p (d, t) = []) ↔ TypeOK p d t := by
  have hp := params_iff p t.params
  have hs := structOK_iff p d t hu hb
  simp only [attrsOfType, verifyOfType, constraintsOfType, List.append_eq_nil_iff,
    List.flatMap_eq_nil_iff, reserved_nil, checkAttrList_ok, verifyUnit_nil] at hp ⊢
  constructor
  · rintro ⟨e, ⟨⟨a, fa⟩, va⟩, ⟨⟨⟨sz, ew⟩, un⟩, fv⟩, ⟨⟨⟨⟨fc, sb⟩, vn⟩, n⟩, ev⟩, pr⟩
    exact ⟨a, n, hp.1 ⟨e, pr⟩, (enumOK_iff t a).1 ⟨ew, ev, va, vn⟩,
      hs.1 ⟨sz, sb, fun f hf => ⟨fa f hf, fv f hf, fc f hf⟩⟩, un⟩
  · intro h
    obtain ⟨e, pr⟩ := hp.2 h.params
    obtain ⟨ew, ev, va, vn⟩ := (enumOK_iff t h.attrs).2 h.enum
    obtain ⟨sz, sb, hf⟩ := hs.2 h.struct
    exact ⟨e, ⟨⟨h.attrs, fun f m => (hf f m).1⟩, va⟩, ⟨⟨⟨sz, ew⟩, h.external⟩, fun f m => (hf f m).2.1⟩,
      ⟨⟨⟨⟨fun f m => (hf f m).2.2, sb⟩, vn⟩, h.name⟩, ev⟩, pr⟩

end

theorem backEndErrs_nil (exp : List String) (attrs : List Attr) :
    backEndErrs exp attrs = [] ↔ ∀ a ∈ attrs, a.backEnd ∈ exp := by
  simp only [backEndErrs, List.flatMap_eq_nil_iff, errUnless_nil]

theorem backEndsOfType_nil (exp : List String) :
    backEndsOfType exp t = [] ↔ ∀ a ∈ attrsOfTypeInfo t, a.backEnd ∈ exp := by
  simp only [backEndsOfType, attrsOfTypeInfo, List.append_eq_nil_iff, backEndErrs_nil,
    List.flatMap_eq_nil_iff, List.forall_mem_append, List.forall_mem_flatMap]
  exact ⟨fun ⟨⟨f, v⟩, t⟩ => ⟨⟨t, f⟩, v⟩, fun ⟨⟨t, f⟩, v⟩ => ⟨⟨f, v⟩, t⟩⟩

theorem gateErrs_flag_nil (syn : Bool) (m : Module) :
    gateErrs syn m = [] ↔ ∀ g ∈ m.gated, g.1 = syn → Emboss.Bounds.gate g.2 = some [] := by
  simp only [gateErrs, List.flatMap_eq_nil_iff]
  refine forall_congr' fun g => forall_congr' fun _ => ?_
  by_cases h : g.1 = syn
  · rw [if_pos h]
    cases Emboss.Bounds.gate g.2 <;> simp [h]
  · simp [h]

theorem gateErrs_nil (m : Module) :
    (gateErrs false m = [] ∧ gateErrs true m = []) ↔
      ∀ g ∈ m.gated, Emboss.Bounds.gate g.2 = some [] := by
  rw [gateErrs_flag_nil, gateErrs_flag_nil]
  constructor
  · rintro ⟨h1, h2⟩ g hg
    cases hs : g.1
    · exact h1 g hg hs
    · exact h2 g hg hs
  · exact fun h => ⟨fun g hg _ => h g hg, fun g hg _ => h g hg⟩

theorem moduleOK_iff (m : Module) :
    (checkAttrList AttrTable.moduleAttrs [] m.attrs = [] ∧ verifyBackEnds m = [] ∧
      staticRefErrs m = [] ∧ gateErrs false m = [] ∧ gateErrs true m = []) ↔ ModuleOK m := by
  rw [gateErrs_nil]
  simp only [checkAttrList_ok, verifyBackEnds, List.append_eq_nil_iff, backEndErrs_nil,
    staticRefErrs, List.flatMap_eq_nil_iff, walk_nil, backEndsOfType_nil, noVisit, and_true,
    errUnless_nil]
  exact ⟨fun ⟨a, b, r, g⟩ => ⟨a, b, r, g⟩, fun h => ⟨h.attrs, h.backEnds, h.staticRefs, h.gated⟩⟩

theorem check_nil :
    check p = [] ↔
      (passEarly p = [] ∧ passAttrs p = [] ∧ passVerify p = [] ∧ passConstraints p = [] ∧
        passDeferred p = []) := by
  simp only [check, firstErrs_nil]

theorem check_iff_realisable
    (hu : ∀ c ∈ allTypes p, ∀ fs, c.2.kind = .structure fs → c.2.unit = .bit ∨ c.2.unit = .byte)
    (hb : ∀ c ∈ allTypes p, ∀ f ∈ c.2.fields, f.isVirtual = false → f.ty.isAtomic = true →
      ∃ mn mx, f.sizeMin = .fin mn ∧ f.sizeMax = .fin mx) :
    check p = [] ↔ Realisable p := by
  have T : (∀ c ∈ allTypes p, TypeOK p c.1 c.2) ↔ _ :=
    forall₂_congr fun c hc => (typeOK_iff p c.1 c.2 (hu c hc) (hb c hc)).symm
  rw [check_nil, passEarly_nil, passAttrs_nil, passVerify_nil, passConstraints_nil]
  simp only [Realisable, T, ← moduleOK_iff, earlyByEntity, attrsByEntity, verifyByEntity,
    constraintsByEntity, passDeferred, List.append_eq_nil_iff, List.flatMap_eq_nil_iff, imp_and,
    forall_and, and_assoc]
  constructor
  · rintro ⟨e, ma, ta, mb, tv, tc, sr, g, gd⟩
    exact ⟨ma, mb, sr, g, gd, e, ta, tv, tc⟩
  · rintro ⟨ma, mb, sr, g, gd, e, ta, tv, tc⟩
    exact ⟨e, ma, ta, mb, tv, tc, sr, g, gd⟩

end Emboss.Constraints
