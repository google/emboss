/-
One rendered row re-tokenizes to its cells' tokens: `LineToks` is closed under joining with
blanks (`LineToks.join`) and under padded cells (`_columnize`: `ljust`, then `rstrip`).
-/
import Emboss.Lemmas.FmtRetok
namespace Emboss.FmtTok
open Emboss.Tok Emboss.Generated

theorem LineToks.join {a b : List Char} {La Lb : List Leaf} (n : Nat)
    (ha : LineToks a La) (hb : LineToks b Lb) (hane : a ≠ []) (hbne : b ≠ [])
    (hopen : ∀ l ∈ La, ¬ OpenEnded l.1) :
    LineToks (a ++ Fmt.spaces (n + 1) ++ b) (La ++ Lb) := by
  refine ⟨?_, ?_, ?_, ?_⟩
  · intro y hy
    rw [List.append_assoc, head_append_ne hane] at hy
    exact ha.head y hy
  · intro y hy
    refine hb.last y ?_
    rw [← hy, List.getLast?_append, List.getLast?_eq_some_getLast hbne]
    rfl
  · intro c hc
    simp only [List.mem_append] at hc
    rcases hc with (hc | hc) | hc
    · exact ha.nobreak c hc
    · simp only [Fmt.spaces, List.mem_replicate] at hc
      rw [hc.2]; exact space_not_break
    · exact hb.nobreak c hc
  · intro ln
    obtain ⟨ta, hta, hLa⟩ := ha.toks ln
    obtain ⟨tb, htb, hLb⟩ := hb.toks ln
    have h1 := tokLine_indented ln (w := ' ' :: Fmt.spaces n)
      (by simp only [List.all_cons, space_blank, spaces_all_blank, Bool.and_self]) hb.head htb
    have h2 := (tokLine_concat_blank ln a (Fmt.spaces n ++ b) ' ' ta hta
      (fun t ht => hopen (leafOf t) (by rw [← hLa]; exact List.mem_map_of_mem ht))
      ha.last space_blank).1 _ h1
    have : a ++ Fmt.spaces (n + 1) ++ b = a ++ ' ' :: (Fmt.spaces n ++ b) := by
      rw [spaces_succ]; simp
    rw [this]
    exact ⟨_, h2, by simp only [List.map_append, map_leafOf_shift, hLa, hLb]⟩

theorem rstrip_of_last {c : List Char} (h : ∀ y, c.getLast? = some y → isSpaceChar y = false) :
    Fmt.rstrip c = c := by
  simp only [Fmt.rstrip]
  cases hr : c.reverse with
  | nil => simp only [List.reverse_eq_nil_iff] at hr; subst hr; rfl
  | cons y t =>
    have hy : c.getLast? = some y := by
      rw [← List.head?_reverse, hr]; rfl
    have := h y hy
    change Fmt.isPySpace y = false at this
    simp only [List.dropWhile_cons, this, Bool.false_eq_true, if_false]
    rw [← hr, List.reverse_reverse]

theorem spaces_add (a b : Nat) : Fmt.spaces a ++ Fmt.spaces b = Fmt.spaces (a + b) := by
  simp only [Fmt.spaces, List.replicate_append_replicate]

/-- Cells (text, number of blanks appended, leaves), laid side by side. -/
def cellsText : List (List Char × Nat × List Leaf) → List Char
  | [] => []
  | x :: rest => x.1 ++ Fmt.spaces x.2.1 ++ cellsText rest

def cellsLeaves (cells : List (List Char × Nat × List Leaf)) : List Leaf :=
  (cells.map (fun x => x.2.2)).flatten

/-- A cell is empty, or tokenizes to its leaves and is followed by at least one blank. -/
def CellOK (x : List Char × Nat × List Leaf) : Prop :=
  (x.1 = [] ∧ x.2.2 = []) ∨ (x.1 ≠ [] ∧ 0 < x.2.1 ∧ LineToks x.1 x.2.2)

/-- A token that runs to the end of the line (comment, documentation) is only in the last
non-empty cell. -/
def OpenLast : List (List Char × Nat × List Leaf) → Prop
  | [] => True
  | x :: rest => ((∃ l ∈ x.2.2, OpenEnded l.1) → ∀ y ∈ rest, y.1 = []) ∧ OpenLast rest

theorem cellsText_all_empty : ∀ (cells : List (List Char × Nat × List Leaf)),
    (∀ x ∈ cells, x.1 = []) → Fmt.rstrip (cellsText cells) = [] := by
  intro cells
  induction cells with
  | nil => intro _; rfl
  | cons x rest ih =>
    intro h
    simp only [cellsText, h x (by simp), List.nil_append, rstrip_indent,
      ih (fun y hy => h y (by simp [hy])), if_true]

/-- `k`: leading blanks when the first cells are empty.  By induction, the rest first: an empty cell adds
its padding to `k`; a non-empty cell is joined to the rest by `pad + k ≥ 1` blanks (`LineToks.join`),
and by `OpenLast` it has no open-ended token unless the rest is empty. -/
theorem cells_lineToks : ∀ (cells : List (List Char × Nat × List Leaf)),
    (∀ x ∈ cells, CellOK x) → OpenLast cells →
    ((∀ x ∈ cells, x.1 = []) ∧ Fmt.rstrip (cellsText cells) = [] ∧ cellsLeaves cells = []) ∨
    ∃ k s, Fmt.rstrip (cellsText cells) = Fmt.spaces k ++ s ∧ s ≠ [] ∧
      LineToks s (cellsLeaves cells) ∧ (∀ x rest, cells = x :: rest → x.1 ≠ [] → k = 0) := by
  intro cells
  induction cells with
  | nil => intro _ _; left; exact ⟨fun _ h => (nomatch h), rfl, rfl⟩
  | cons x rest ih =>
    intro hok hopen
    obtain ⟨c, pad, L⟩ := x
    have hrest := ih (fun y hy => hok y (by simp [hy])) hopen.2
    have hne : ∀ {k : Nat} {s : List Char}, s ≠ [] → Fmt.spaces k ++ s ≠ [] :=
      fun h2 h => h2 (List.append_eq_nil_iff.mp h).2
    rcases hok (c, pad, L) (by simp) with ⟨hc, hL⟩ | ⟨hc, hpad, hlt⟩
    · simp only at hc hL
      subst hc; subst hL
      simp only [cellsText, List.nil_append, rstrip_indent, cellsLeaves, List.map_cons,
        List.flatten_cons]
      rcases hrest with ⟨h0, h1, h2⟩ | ⟨k, s, h1, h2, h3, _⟩
      · left; simp only [h1, if_true, true_and]; exact ⟨List.forall_mem_cons.2 ⟨rfl, h0⟩, h2⟩
      · right
        refine ⟨pad + k, s, ?_, h2, h3, ?_⟩
        · rw [h1]; simp only [hne h2, if_false, ← List.append_assoc, spaces_add]
        · intro x rest' he hx
          simp only [List.cons.injEq] at he
          rw [← he.1] at hx; exact absurd rfl hx
    · simp only at hc hpad hlt
      right
      simp only [cellsText, List.append_assoc, cellsLeaves, List.map_cons, List.flatten_cons]
      rw [Fmt.rstrip_append, rstrip_indent]
      rcases hrest with ⟨_, h1, h2⟩ | ⟨k, s, h1, h2, h3, _⟩
      · refine ⟨0, c, ?_, hc, ?_, fun _ _ _ _ => rfl⟩
        · simp only [h1, if_true, rstrip_of_last hlt.last]; rfl
        · simp only [cellsLeaves] at h2
          rw [h2, List.append_nil]; exact hlt
      · refine ⟨0, c ++ Fmt.spaces (pad + k - 1 + 1) ++ s, ?_, ?_, ?_, fun _ _ _ _ => rfl⟩
        · rw [h1]
          simp only [hne h2, hne (hne h2), if_false]
          rw [show pad + k - 1 + 1 = pad + k by omega, ← spaces_add]
          simp only [List.append_assoc]
          rfl
        · intro h
          exact hc (List.append_eq_nil_iff.mp (List.append_eq_nil_iff.mp h).1).1
        · refine LineToks.join (pad + k - 1) hlt h3 hc h2 ?_
          intro l hl ho
          have := cellsText_all_empty rest (hopen.1 ⟨l, hl, ho⟩)
          rw [h1] at this
          exact hne h2 this

end Emboss.FmtTok
