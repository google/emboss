/-
Writes through a view: the `CouldWriteValue` range expressions, the raw value handed to
`WriteUInt`, representability and `TryToWrite` assembled over `fieldView`, and the structure's
backing store (writing a container back touches only its own bytes).
-/
import Emboss.Lemmas.ScalarRead
namespace Emboss.Scalar
open Emboss.Bits Emboss.Scalar.Spec

/-! ### The range expressions of `CouldWriteValue` -/

theorem IntT.holds_lt64 {t : IntT} {x : Int} (ht : t.holds x = true) (hw : t.width ≤ 64) :
    x < ((2 ^ 64 : Nat) : Int) := by
  unfold IntT.holds at ht
  have h1 : 2 ^ (t.width - 1) ≤ 2 ^ 63 := Nat.pow_le_pow_right Nat.two_pos (by omega)
  have h2 : 2 ^ t.width ≤ 2 ^ 64 := Nat.pow_le_pow_right Nat.two_pos hw
  split at ht <;> simp only [decide_eq_true_eq] at ht <;> omega

/-- The two-step shift `(ValueType(1) << (kBits - 1)) << 1` in an `A`-bit type: `2^kBits`,
wrapping to 0 when `kBits` is the full width. -/
theorem double_shl {A k : Nat} (hk : 1 ≤ k) (hkA : k ≤ A) :
    shl A (shl A 1 (k - 1)) 1 = 2 ^ k % 2 ^ A := by
  rw [shl_one (by omega)]
  unfold shl wrap
  rw [Nat.shiftLeft_eq, ← Nat.pow_add, Nat.sub_add_cancel hk]

/-- The upper bound expression of `UIntView::CouldWriteValue`:
`((ValueType(1) << (kBits - 1)) << 1) - 1 = 2^kBits - 1`, including the full width `kBits = A`
(32 and 64 in the code), where the double shift wraps to 0 and the subtraction wraps back: both
steps are exact modulo `2^A`. -/
theorem uint_bound_eq {A k : Nat} (hk : 1 ≤ k) (hkA : k ≤ A) :
    subW A (shl A (shl A 1 (k - 1)) 1) 1 = 2 ^ k - 1 := by
  rw [double_shl hk hkA]
  unfold subW wrap
  rw [Nat.mod_mod, Nat.mod_eq_of_lt (Nat.one_lt_two_pow (by omega)), Nat.mod_add_mod,
    ← Nat.add_sub_assoc Nat.one_le_two_pow, Nat.sub_add_comm Nat.one_le_two_pow, Nat.add_mod_right]
  exact Nat.mod_eq_of_lt (Nat.sub_one_lt_of_le (Nat.two_pow_pos k) (Nat.pow_le_pow_right Nat.two_pos hkA))

/-- The bounds of `IntView::CouldWriteValue`, `kBits == 1 ? -1 : (1 << (kBits - 2)) * -2` and
`kBits == 1 ? 0 : ((1 << (kBits - 2)) - 1) * 2 + 1`, are `-2^(kBits-1)` and `2^(kBits-1) - 1`. -/
theorem int_bounds_eq {A k : Nat} (hk : 1 ≤ k) (hkA : k ≤ A) :
    (if k = 1 then (-1 : Int) else toSigned A (shl A 1 (k - 2)) * -2) =
      -((2 ^ (k - 1) : Nat) : Int) ∧
    (if k = 1 then (0 : Int) else (toSigned A (shl A 1 (k - 2)) - 1) * 2 + 1) =
      ((2 ^ (k - 1) : Nat) : Int) - 1 := by
  by_cases h1 : k = 1
  · subst h1; exact ⟨rfl, rfl⟩
  · have hp : 2 ^ (k - 1) = 2 * 2 ^ (k - 2) := by
      rw [show k - 1 = (k - 2) + 1 by omega, Nat.pow_succ, Nat.mul_comm]
    rw [if_neg h1, if_neg h1, shl_one (by omega), toSigned_of_lt (Nat.pow_lt_pow_right Nat.one_lt_two (by omega)), hp]
    omega

/-! ### What `Representable` means -/

variable {bb : BitBlock} {o w : Nat}

theorem representable_unsigned (ty : Ty)
    (hty : decodeSpec ty w = fun d : Nat => some ((d : Nat) : Int)) (x : Int) :
    Representable ty w x ↔ 0 ≤ x ∧ x < ((2 ^ w : Nat) : Int) := by
  unfold Representable; rw [hty]
  constructor
  · rintro ⟨d, hd, he⟩; simp only [Option.some.injEq] at he; omega
  · rintro ⟨h0, h1⟩; exact ⟨x.toNat, by omega, by simp only [Option.some.injEq]; omega⟩

theorem representable_signed (ty : Ty) (hty : decodeSpec ty w = fun d => some (twos w d)) (hw : 1 ≤ w)
    (x : Int) :
    Representable ty w x ↔ -((2 ^ (w - 1) : Nat) : Int) ≤ x ∧ x < ((2 ^ (w - 1) : Nat) : Int) := by
  unfold Representable; rw [hty]
  constructor
  · rintro ⟨d, hd, he⟩
    simp only [Option.some.injEq] at he; rw [← he]; exact twos_range hw hd
  · rintro ⟨h0, h1⟩
    obtain ⟨he, hlt⟩ := twos_ofInt (by omega) h0 h1
    exact ⟨ofInt w x, hlt, by simp only [he]⟩

/-! ### CouldWriteValue per view -/

theorem uint_could {k : Nat} (hk : 1 ≤ k) (hk64 : k ≤ 64) {buf : Buf} {t : IntT} {x : Int}
    (ht : t.holds x = true) (htw : t.width ≤ 64) :
    (View.mk .uint k buf).couldWrite t x = true ↔ 0 ≤ x ∧ x < ((2 ^ k : Nat) : Int) := by
  have h64 := IntT.holds_lt64 ht htw
  simp only [View.couldWrite, View.VW, Bool.and_eq_true, decide_eq_true_eq,
    uint_bound_eq hk (Nat.le_trans (le_leastWidth hk64) (le_arithW _))]
  have hp := Nat.two_pow_pos k
  exact and_congr_right fun h0 => by rw [ofInt_of_nonneg h0 h64]; omega

theorem int_could {k : Nat} (hk : 1 ≤ k) (hk64 : k ≤ 64) {buf : Buf} {t : IntT} {x : Int}
    (ht : t.holds x = true) :
    (View.mk .int k buf).couldWrite t x = true ↔
      -((2 ^ (k - 1) : Nat) : Int) ≤ x ∧ x < ((2 ^ (k - 1) : Nat) : Int) := by
  -- an unsigned argument type skips the lower comparison, and its values are non-negative
  have hx0 : t.signed = false → 0 ≤ x := by
    intro hs; unfold IntT.holds at ht; rw [hs] at ht; simp at ht; omega
  obtain ⟨hlo, hhi⟩ := int_bounds_eq hk (Nat.le_trans (le_leastWidth hk64) (le_arithW _))
  simp only [View.couldWrite, View.VW, hlo, hhi, Bool.and_eq_true, Bool.or_eq_true,
    Bool.not_eq_true', decide_eq_true_eq]
  constructor
  · rintro ⟨hs | hl, hh⟩
    · have := hx0 hs; omega
    · omega
  · rintro ⟨hl, hh⟩
    exact ⟨.inr hl, by omega⟩

/-- The size clause of `EnumView::CouldWriteValue`,
`kBits == sizeof(ValueType) * 8 || v < ((ValueType(1) << (kBits - 1)) << 1)`, says `v < 2^kBits`
for every `v` of the `BW`-bit value type: when `kBits` is the full width, where the double
shift may wrap to 0, the first disjunct takes over. -/
theorem enum_size_clause {BW k bv : Nat} (hk : 1 ≤ k) (hkB : k ≤ BW) (hbv : bv < 2 ^ BW) :
    (k = BW ∨ bv < shl (arithW BW) (shl (arithW BW) 1 (k - 1)) 1) ↔ bv < 2 ^ k := by
  by_cases h : k = BW
  · subst h; exact ⟨fun _ => hbv, fun _ => .inl rfl⟩
  · have hlt := Nat.lt_of_lt_of_le (Nat.lt_of_le_of_ne hkB h) (le_arithW BW)
    rw [double_shl hk (Nat.le_of_lt hlt), Nat.mod_eq_of_lt (Nat.pow_lt_pow_right Nat.one_lt_two hlt)]
    exact ⟨fun h' => h'.resolve_left h, .inr⟩

/-- **`EnumView::CouldWriteValue` as implemented**: `x` is accepted exactly when its unsigned image
(`ToBitViewValue`: the value converted to the unsigned underlying type) fits the field.  The cast
back to the enum type undoes that conversion on every pattern of `uw` bits, so the round-trip test
can only fail when the conversion to a narrower buffer value type has cut bits off, and then the
image is not below `2^k` either.  (`Emboss.Enum.viewCouldWrite_iff` in Lemmas/EnumView.lean states the same
for C19's separate model of `EnumView`.) -/
theorem enum_could {k uw : Nat} (hk : 1 ≤ k) (hkuw : k ≤ uw) {buf : Buf} (hkB : k ≤ buf.W)
    {s : Bool} {t : IntT} {x : Int} (hx : ArgOk (.enum uw s) k t x) :
    (View.mk (.enum uw s) k buf).couldWrite t x = true ↔ ofInt uw x < 2 ^ k := by
  simp only [View.couldWrite, Bool.and_eq_true, Bool.or_eq_true, decide_eq_true_eq,
    enum_size_clause hk hkB (wrap_lt _ _)]
  generalize buf.W = BW at *
  have hback : ∀ v, v < 2 ^ uw →
      ofInt uw (if s = true then toSigned uw v else ((wrap uw v : Nat) : Int)) = v := fun v hv => by
    cases s
    · rw [if_neg (by decide), wrap_of_lt hv, ofInt_natCast hv]
    · rw [if_pos rfl, ofInt_toSigned hv]
  have hthere : (if s = true then toSigned uw (ofInt uw x)
      else ((wrap uw (ofInt uw x) : Nat) : Int)) = x := by
    cases s
    · rw [if_neg (by decide), wrap_of_lt (ofInt_lt uw x)]
      exact (ofInt_of_nonneg_of_lt (Nat.le_refl uw) hx.1 hx.2).2
    · rw [if_pos rfl]
      exact toSigned_ofInt (by omega) hx.1 hx.2
  constructor
  · rintro ⟨hrt, hsz⟩
    have h := hback _ (lt_pow_of_lt_of_le hsz hkuw)
    rw [← hrt] at h
    rw [h]; exact hsz
  · intro hfit
    rw [wrap_of_lt (lt_pow_of_lt_of_le hfit hkB), hthere]
    exact ⟨rfl, hfit⟩

/-- An image below `2^k ≤ 2^(uw-1)` is cast back to itself, and the cast back gives `x`. -/
theorem enum_signed_fit {k uw : Nat} (hkuw : k ≤ uw) {x : Int}
    (hlo : -((2 ^ (uw - 1) : Nat) : Int) ≤ x) (hhi : x < ((2 ^ (uw - 1) : Nat) : Int)) :
    ofInt uw x < 2 ^ k ↔ (k = uw ∨ (0 ≤ x ∧ x < ((2 ^ k : Nat) : Int))) := by
  by_cases hku : k = uw
  · subst hku; exact ⟨fun _ => .inl rfl, fun _ => ofInt_lt k x⟩
  · have hback := toSigned_ofInt (by omega) hlo hhi
    constructor
    · intro h
      rw [toSigned_of_lt (lt_pow_of_lt_of_le h (by omega))] at hback
      exact .inr (by omega)
    · rintro (h | ⟨h0, h1⟩)
      · exact absurd h hku
      · exact (ofInt_of_nonneg_of_lt hkuw h0 h1).1

/-! ### Encoding, representability and the write assembly -/

theorem fieldView_enum_encode (h : Placed bb o w) (direct : Bool) {uw : Nat} (s : Bool) {x : Int}
    (hfit : ofInt uw x < 2 ^ w) : (fieldView (.enum uw s) direct bb o w).encode x = ofInt uw x := by
  simp only [View.encode, fieldView, fieldBuf_W]
  exact wrap_of_lt (lt_pow_of_lt_of_le hfit (placed_w_le_W h))

theorem encode_spec (h : Placed bb o w) (direct : Bool) (ty : Ty) (hty : TypeFits ty w)
    (t : IntT) (x : Int) (ha : ArgOk ty w t x)
    (hc : (fieldView ty direct bb o w).couldWrite t x = true) :
    (fieldView ty direct bb o w).encode x < 2 ^ w ∧
    decodeSpec ty w ((fieldView ty direct bb o w).encode x) = some x := by
  have hw64 := placed_w_le_64 h
  have hVW := le_leastWidth hw64
  cases ty with
  | uint =>
    obtain ⟨h0, hlt⟩ := (uint_could h.w_pos hw64 ha.1 ha.2).mp hc
    obtain ⟨h1, h2⟩ := ofInt_of_nonneg_of_lt hVW h0 hlt
    exact ⟨h1, congrArg some h2⟩
  | int =>
    obtain ⟨hlo, hhi⟩ := (int_could h.w_pos hw64 ha.1).mp hc
    simp only [View.encode, fieldView, fieldBuf_W, decodeSpec]
    rw [maskToNBits_ofInt (placed_w_le_W h)]
    obtain ⟨he, hlt⟩ := twos_ofInt h.w_pos hlo hhi
    exact ⟨hlt, by rw [he]⟩
  | bcd =>
    obtain ⟨h0, hlt⟩ := ha
    obtain ⟨n, rfl⟩ : ∃ n : Nat, x = n := ⟨x.toNat, by omega⟩
    simp only [View.couldWrite, fieldView, View.VW, Bool.and_eq_true, decide_eq_true_eq,
      Int.toNat_natCast] at hc
    obtain ⟨hl, hok, hv⟩ := (maxBcd_iff_bcd_pattern (v := n) hw64).2 (of_decide_eq_true hc.1)
    have he : ofInt (leastWidth w) (n : Int) = n := ofInt_natCast (by exact_mod_cast hlt)
    simp only [View.encode, fieldView, View.VW, decodeSpec, he]
    exact ⟨hl, by rw [if_pos hok, hv]⟩
  | flag =>
    simp only [TypeFits] at hty; subst hty
    rcases ha with rfl | rfl <;> simp [View.encode, decodeSpec, fieldView]
  | float =>
    obtain ⟨h1, h2⟩ := ofInt_of_nonneg_of_lt (Nat.le_refl w) ha.1 ha.2
    exact ⟨h1, congrArg some h2⟩
  | enum uw s =>
    cases s with
    | false =>
      have h1 := (enum_could h.w_pos hty (by rw [fieldBuf_W]; exact placed_w_le_W h) ha).mp hc
      rw [fieldView_enum_encode h direct false h1]
      exact ⟨h1, congrArg some (ofInt_of_nonneg_of_lt (Nat.le_refl uw) ha.1 ha.2).2⟩
    | true =>
      -- spec-conformant fragment: the field is as wide as the underlying type
      simp only [TypeFits] at hty; subst hty
      obtain ⟨he, hlt⟩ := twos_ofInt h.w_pos ha.1 ha.2
      rw [fieldView_enum_encode h direct true hlt]
      exact ⟨hlt, congrArg some he⟩

theorem could_iff_representable (h : Placed bb o w) (direct : Bool) (ty : Ty)
    (hty : TypeFits ty w) (t : IntT) (x : Int) (ha : ArgOk ty w t x) :
    (fieldView ty direct bb o w).couldWrite t x = true ↔ Representable ty w x := by
  refine ⟨fun hc => ⟨_, encode_spec h direct ty hty t x ha hc⟩, fun hr => ?_⟩
  have hw64 := placed_w_le_64 h
  have hkB : w ≤ (fieldBuf direct bb o w).W := by rw [fieldBuf_W]; exact placed_w_le_W h
  cases ty with
  | uint =>
    exact (uint_could h.w_pos hw64 ha.1 ha.2).mpr
      ((representable_unsigned .uint rfl x).mp hr)
  | int =>
    exact (int_could h.w_pos hw64 ha.1).mpr
      ((representable_signed .int rfl h.w_pos x).mp hr)
  | bcd =>
    obtain ⟨d, hd, he⟩ := hr
    simp only [decodeSpec] at he
    split at he
    · rename_i hok
      cases he
      simp only [View.couldWrite, fieldView, View.VW, Bool.and_eq_true, decide_eq_true_eq,
        Int.toNat_natCast]
      exact ⟨decide_eq_true ((maxBcd_iff_bcd_pattern hw64).1.mpr ⟨d, hd, hok, rfl⟩),
        Int.natCast_nonneg _⟩
    · cases he
  | flag | float => rfl
  | enum uw s =>
    cases s with
    | false =>
      obtain ⟨h0, hlt⟩ := (representable_unsigned (.enum uw false) rfl x).mp hr
      exact (enum_could h.w_pos hty hkB ha).mpr (ofInt_of_nonneg_of_lt hty h0 hlt).1
    | true =>
      cases hty
      exact (enum_could h.w_pos (Nat.le_refl w) hkB ha).mpr (ofInt_lt w x)

theorem tryToWrite_written (h : Placed bb o w) (direct : Bool)
    (hd : direct = true → o = 0 ∧ w = bb.c) (ty : Ty) (t : IntT) (x : Int)
    (hc : (fieldView ty direct bb o w).couldWrite t x = true)
    (henc : (fieldView ty direct bb o w).encode x < 2 ^ w) :
    ∃ bytes', (fieldView ty direct bb o w).tryToWrite t x =
        .written (fieldView ty direct { bb with bytes := bytes' } o w) ∧
      Placed { bb with bytes := bytes' } o w ∧
      Updated o w (containerValue bb.order bb.bytes) ((fieldView ty direct bb o w).encode x)
        (containerValue bb.order bytes') ∧
      fieldBits { bb with bytes := bytes' } o w = (fieldView ty direct bb o w).encode x := by
  obtain ⟨bytes', hw, hp, hu⟩ := fieldBuf_writeUInt h direct hd henc
  refine ⟨bytes', ?_, hp, hu, bits_of_updated hu henc⟩
  unfold View.tryToWrite
  rw [if_neg (by simp [hc]), if_neg (by simp [fieldView_isComplete h direct hd ty])]
  have : (fieldView ty direct bb o w).buf = fieldBuf direct bb o w := rfl
  rw [this, hw]
  rfl

theorem write_spec (h : Placed bb o w) (direct : Bool) (hd : direct = true → o = 0 ∧ w = bb.c)
    (ty : Ty) (hty : TypeFits ty w) (t : IntT) (x : Int) (ha : ArgOk ty w t x)
    (hc : (fieldView ty direct bb o w).couldWrite t x = true) :
    ∃ bytes', (fieldView ty direct bb o w).tryToWrite t x =
        .written (fieldView ty direct { bb with bytes := bytes' } o w) ∧
      Placed { bb with bytes := bytes' } o w ∧
      Updated o w (containerValue bb.order bb.bytes) (fieldBits { bb with bytes := bytes' } o w)
        (containerValue bb.order bytes') ∧
      (fieldView ty direct { bb with bytes := bytes' } o w).read = some x := by
  obtain ⟨henc, hdec⟩ := encode_spec h direct ty hty t x ha hc
  obtain ⟨bytes', hw, hp, hu, hfb⟩ := tryToWrite_written h direct hd ty t x hc henc
  exact ⟨bytes', hw, hp, by rw [hfb]; exact hu,
    by rw [(fieldView_read_spec hp direct hd hty).2, hfb]; exact hdec⟩

/-! ### Refused writes -/

theorem tryToWrite_refused_of_not_could (v : View) (t : IntT) (x : Int)
    (hc : v.couldWrite t x = false) : v.tryToWrite t x = .refused := by
  unfold View.tryToWrite; rw [if_pos (by simp [hc])]

theorem tryToWrite_refused_of_incomplete (v : View) (t : IntT) (x : Int)
    (hc : v.isComplete = false) : v.tryToWrite t x = .refused := by
  unfold View.tryToWrite
  split
  · rfl
  · rw [if_pos (by simp [hc])]

/-! ### The structure's backing store -/

theorem storeAfter_length (store : List Nat) (p : Nat) (bytes' : List Nat)
    (h : p + bytes'.length ≤ store.length) : (storeAfter store p bytes').length = store.length := by
  unfold storeAfter
  simp only [List.length_append, List.length_take, List.length_drop]
  omega

theorem storeAfter_outside (store : List Nat) (p : Nat) (bytes' : List Nat)
    (h : p + bytes'.length ≤ store.length) (i : Nat) (hi : i < p ∨ p + bytes'.length ≤ i) :
    (storeAfter store p bytes')[i]? = store[i]? := by
  unfold storeAfter
  rcases hi with hi | hi
  · rw [List.append_assoc, List.getElem?_append_left (by simp only [List.length_take]; omega)]
    rw [List.getElem?_take]; simp [hi]
  · rw [List.getElem?_append_right (by simp only [List.length_append, List.length_take]; omega)]
    simp only [List.length_append, List.length_take, List.getElem?_drop]
    congr 1; omega

theorem storeAfter_container (store : List Nat) (p : Nat) (bytes' : List Nat)
    (h : p + bytes'.length ≤ store.length) :
    containerOf (storeAfter store p bytes') p bytes'.length = some bytes' := by
  have hp : (store.take p).length = p := by rw [List.length_take]; omega
  unfold containerOf storeAfter
  rw [if_pos (by simp only [List.length_append, List.length_drop, hp]; omega), List.append_assoc,
    List.drop_left' hp, List.take_left' rfl]

end Emboss.Scalar
