/-
Every transfer function of Model/Bounds.lean maps arguments satisfying the invariant
`InvS` (= `InvOk`) to a result (it does not raise) that satisfies it again.
The proofs reuse the soundness lemmas of BoundsOps.lean: the finite ends of a result are
values the operation can produce, hence lie in γ(result), hence are congruent.
-/
import Emboss.Lemmas.BoundsInv
namespace Emboss.Bounds
open ExtInt

/-! ### moduli -/

theorem gcdM_fin_of_pos {a b : Modulus} (h : 0 < Nat.gcd a.toNat b.toNat) :
    gcdM a b = .fin (Nat.gcd a.toNat b.toNat) := by
  have ht := gcdM_toNat a b
  cases hg : gcdM a b with
  | inf => rw [hg] at ht; exact absurd ht.symm (Nat.ne_of_gt h)
  | fin z => rw [hg] at ht; exact congrArg Modulus.fin ht

theorem gcdM_fin_left {m : Nat} (hm : 0 < m) (b : Modulus) :
    ∃ z, gcdM (.fin m) b = .fin z ∧ 0 < z ∧ z ∣ m :=
  ⟨_, gcdM_fin_of_pos (a := .fin m) (Nat.gcd_pos_of_pos_left _ hm),
    Nat.gcd_pos_of_pos_left _ hm, Nat.gcd_dvd_left _ _⟩

theorem gcdM_cases {a b : Modulus} (ha : a.Pos) (hb : b.Pos) :
    (a = .inf ∧ b = .inf) ∨ (∃ k, gcdM a b = .fin k ∧ 0 < k) := by
  cases a with
  | inf =>
    cases b with
    | inf => exact Or.inl ⟨rfl, rfl⟩
    | fin m =>
      exact Or.inr ⟨_, gcdM_fin_of_pos (Nat.gcd_pos_of_pos_right _ hb), Nat.gcd_pos_of_pos_right _ hb⟩
  | fin m =>
    exact Or.inr ⟨_, gcdM_fin_of_pos (Nat.gcd_pos_of_pos_left _ ha), Nat.gcd_pos_of_pos_left _ ha⟩

/-! ### `+` and `-` -/

theorem eadd_some {a b : ExtInt} (h : (a ≠ .posInf ∧ b ≠ .posInf) ∨ (a ≠ .negInf ∧ b ≠ .negInf)) :
    ∃ c, eadd a b = some c := by
  cases a <;> cases b <;> simp [eadd] at h ⊢

theorem eadd_fin {a b : ExtInt} {z : Int} (h : eadd a b = some (.fin z)) :
    ∃ x y, a = .fin x ∧ b = .fin y ∧ z = x + y := by
  cases a <;> cases b <;> simp [eadd] at h
  exact ⟨_, _, rfl, rfl, h.symm⟩

theorem neg_eq {b e : ExtInt} (h : b.neg = e) : b = e.neg := by
  subst h; cases b <;> simp [ExtInt.neg]

theorem additive_const (s : Bool) (c d : Int) :
    additive s (constRange c) (constRange d) = some (constRange (if s then c - d else c + d)) := by
  cases s <;> simp [additive, constRange, gcdM, eadd, esub, ExtInt.neg, Int.sub_eq_add_neg]

/-- `+` pairs `l.min` with `r.min`, `-` with `r.max`: the caller names both right ends and `s` picks -/
theorem additive_end_cong {s : Bool} {l r a : AVal} (ha : additive s l r = some a) (hl : InvS l)
    (hr : InvS r) {el er er' : ExtInt} {x : Int} (h1 : el = l.min ∨ el = l.max)
    (h2 : er = r.min ∨ er = r.max) (h2' : er' = r.min ∨ er' = r.max)
    (h : (if s then esub el er' else eadd el er) = some (.fin x)) : CongOk a.modulus a.mv x := by
  cases s
  · obtain ⟨x1, x2, e1, e2, rfl⟩ := eadd_fin h
    exact (additive_sound ha (hl.end_mem h1 e1) (hr.end_mem h2 e2)).2.2
  · obtain ⟨x1, x2, e1, e2, rfl⟩ := eadd_fin h
    exact Int.sub_neg _ _ ▸ (additive_sound ha (hl.end_mem h1 e1) (hr.end_mem h2' (neg_eq e2))).2.2

theorem additive_inv (s : Bool) {l r : AVal} (hl : InvS l) (hr : InvS r) :
    ∃ a, additive s l r = some a ∧ InvS a := by
  rcases gcdM_cases hl.modPos hr.modPos with ⟨h1, h2⟩ | ⟨k, hg, kpos⟩
  · -- two constants
    obtain ⟨c, rfl⟩ := hl.is_const h1
    obtain ⟨d, rfl⟩ := hr.is_const h2
    exact ⟨_, additive_const s c d, Or.inl ⟨_, rfl⟩⟩
  obtain ⟨lv, hlv⟩ := hl.mv_fin
  obtain ⟨rv, hrv⟩ := hr.mv_fin
  obtain ⟨mn, hmn⟩ : ∃ mn, (if s then esub l.min r.max else eadd l.min r.min) = some mn := by
    cases s
    · exact eadd_some (Or.inl ⟨hl.minNe, hr.minNe⟩)
    · exact eadd_some (Or.inl ⟨hl.minNe, fun e => hr.maxNe (neg_eq e)⟩)
  obtain ⟨mx, hmx⟩ : ∃ mx, (if s then esub l.max r.min else eadd l.max r.max) = some mx := by
    cases s
    · exact eadd_some (Or.inr ⟨hl.maxNe, hr.maxNe⟩)
    · exact eadd_some (Or.inr ⟨hl.maxNe, fun e => hr.minNe (neg_eq e)⟩)
  obtain ⟨w, hu⟩ : ∃ w, (if s then esub l.mv r.mv else eadd l.mv r.mv) = some (.fin w) := by
    rw [hlv, hrv]; cases s <;> exact ⟨_, rfl⟩
  have hmv : addMv (gcdM l.modulus r.modulus) (.fin w) = some (.fin (w % (k : Int))) := by
    rw [hg]; simp only [addMv, Nat.ne_of_gt kpos, if_false]
  have ha := additive_some hu hmv hmn hmx
  -- one of the arguments is not a constant, so the result has two different members
  have htwo : ∃ p1 p2 : Int, p1 < p2 ∧ LowOk mn p1 ∧ HighOk mx p2 := by
    have hvar : (∃ m v, InvVar l m v) ∨ (∃ m v, InvVar r m v) := by
      rcases hl with ⟨c, rfl⟩ | hlv'
      · rcases hr with ⟨d, rfl⟩ | hrv'
        · cases hg
        · exact Or.inr hrv'
      · exact Or.inl hlv'
    rcases hvar with ⟨m, v, h⟩ | ⟨m, v, h⟩
    · obtain ⟨x1, x2, hlt, g1, g2⟩ := h.two
      obtain ⟨y, gy⟩ := hr.one
      exact Gamma.spread (additive_sound ha g1 gy) (additive_sound ha g2 gy) (by cases s <;> simp <;> omega)
    · obtain ⟨y1, y2, hlt, g1, g2⟩ := h.two
      obtain ⟨x, gx⟩ := hl.one
      exact Gamma.spread (additive_sound ha gx g1) (additive_sound ha gx g2) (by cases s <;> simp <;> omega)
  exact ⟨_, ha, Or.inr ⟨k, _, InvVar.of_witness hg kpos rfl
    (fun x hx => additive_end_cong ha hl hr (Or.inl rfl) (Or.inl rfl) (Or.inr rfl) (hx ▸ hmn))
    (fun x hx => additive_end_cong ha hl hr (Or.inr rfl) (Or.inr rfl) (Or.inl rfl) (hx ▸ hmx))
    htwo⟩⟩

/-! ### `*` -/

theorem corner_gamma {l r a : AVal} (hl : InvS l) (hr : InvS r) (h : multiplicative l r = some a)
    {e1 e2 : ExtInt} {z : Int} (h1 : e1 = l.min ∨ e1 = l.max) (h2 : e2 = r.min ∨ e2 = r.max)
    (hz : emul e1 e2 = .fin z) : Gamma a z := by
  -- a finite corner product is the product of two described values
  rcases fin_or_inf e1 with ⟨x, rfl⟩ | i1 <;> rcases fin_or_inf e2 with ⟨y, rfl⟩ | i2
  · cases hz
    exact multiplicative_sound h (hl.end_mem h1 rfl) (hr.end_mem h2 rfl)
  · -- ∞ · x is finite only for x = 0
    obtain ⟨rfl, rfl⟩ := emul_fin_inf i2 hz
    obtain ⟨y, gy⟩ := hr.one
    exact Int.zero_mul y ▸ multiplicative_sound h (hl.end_mem h1 rfl) gy
  · rw [emul_comm] at hz
    obtain ⟨rfl, rfl⟩ := emul_fin_inf i1 hz
    obtain ⟨x, gx⟩ := hl.one
    exact Int.mul_zero x ▸ multiplicative_sound h gx (hr.end_mem h2 rfl)
  · exact absurd hz (emul_inf_inf i1 i2)

theorem corner_list_gamma {l r a : AVal} (hl : InvS l) (hr : InvS r)
    (h : multiplicative l r = some a) {z : Int}
    (hz : ExtInt.fin z ∈ [emul l.max r.max, emul l.min r.max, emul l.max r.min, emul l.min r.min]) :
    Gamma a z := by
  simp only [List.mem_cons, List.not_mem_nil, or_false] at hz
  rcases hz with hz | hz | hz | hz
  · exact corner_gamma hl hr h (Or.inr rfl) (Or.inr rfl) hz.symm
  · exact corner_gamma hl hr h (Or.inl rfl) (Or.inr rfl) hz.symm
  · exact corner_gamma hl hr h (Or.inr rfl) (Or.inl rfl) hz.symm
  · exact corner_gamma hl hr h (Or.inl rfl) (Or.inl rfl) hz.symm

theorem mul_two_left {l r a : AVal} (h : multiplicative l r = some a) {x y1 y2 : Int}
    (gx : Gamma l x) (hx : x ≠ 0) (g1 : Gamma r y1) (g2 : Gamma r y2) (hlt : y1 < y2) :
    ∃ p1 p2 : Int, p1 < p2 ∧ LowOk a.min p1 ∧ HighOk a.max p2 :=
  Gamma.spread (multiplicative_sound h gx g1) (multiplicative_sound h gx g2)
    (fun e => Int.ne_of_lt hlt (Int.eq_of_mul_eq_mul_left hx e))

theorem mul_two_right {l r a : AVal} (h : multiplicative l r = some a) {x1 x2 y : Int}
    (g1 : Gamma l x1) (g2 : Gamma l x2) (hlt : x1 < x2) (gy : Gamma r y) (hy : y ≠ 0) :
    ∃ p1 p2 : Int, p1 < p2 ∧ LowOk a.min p1 ∧ HighOk a.max p2 :=
  Gamma.spread (multiplicative_sound h g1 gy) (multiplicative_sound h g2 gy)
    (fun e => Int.ne_of_lt hlt (Int.eq_of_mul_eq_mul_right hy e))

theorem multiplicative_const (c d : Int) :
    multiplicative (constRange c) (constRange d) = some (constRange (c * d)) := by
  simp [multiplicative, constRange, emul, eminL, emaxL, emin2, emax2, ExtInt.toInt?]

theorem mulConstVar_nz {mn mx : ExtInt} {c : Int} (v : Int) {m : Nat} (hm : 0 < m) (hc : c ≠ 0) :
    ∃ (k : Nat) (w : Int), 0 < k ∧
      mulConstVar mn mx (.fin c) m (.fin v) = some ⟨mn, mx, .fin k, .fin (w % (k : Int))⟩ := by
  have h2 : 0 < m * c.natAbs := Nat.mul_pos hm (Int.natAbs_pos.mpr hc)
  have h3 : m * c.natAbs ≠ 0 := by omega
  exact ⟨m * c.natAbs, v * c, h2, by simp only [mulConstVar, ExtInt.toInt?, hc, h3, if_false]⟩

theorem multiplicative_zero_left {r : AVal} {m : Nat} (hm : r.modulus = .fin m) :
    multiplicative (constRange 0) r = some (constRange 0) := by
  simp [multiplicative, constRange, hm, mulConstVar, ExtInt.toInt?, emul_zero_left, eminL,
    emaxL, emin2, emax2]

theorem multiplicative_zero_right {l : AVal} {m : Nat} (hm : l.modulus = .fin m) :
    multiplicative l (constRange 0) = some (constRange 0) := by
  simp [multiplicative, constRange, hm, mulConstVar, ExtInt.toInt?, emul_zero_right, eminL,
    emaxL, emin2, emax2]

/-- with a constant operand `*` is `mulConstVar` on the other one (the bounds do not matter here) -/
theorem multiplicative_constL (c : Int) {r : AVal} {m : Nat} {v : Int} (hm : r.modulus = .fin m)
    (hv : r.mv = .fin v) :
    ∃ mn mx, multiplicative (constRange c) r = mulConstVar mn mx (.fin c) m (.fin v) :=
  ⟨_, _, by simp only [multiplicative, constRange, hm, hv]; rfl⟩

theorem multiplicative_constR (d : Int) {l : AVal} {m : Nat} {v : Int} (hm : l.modulus = .fin m)
    (hv : l.mv = .fin v) :
    ∃ mn mx, multiplicative l (constRange d) = mulConstVar mn mx (.fin d) m (.fin v) :=
  ⟨_, _, by simp only [multiplicative, constRange, hm, hv]; rfl⟩

theorem mulSide_some {m : Nat} {v : Int} (hm : 0 < m) (hv : 0 ≤ v) :
    ∃ z nz, mulSide m (.fin v) = some (z, nz, v) ∧ 0 < z ∧ 0 < nz := by
  obtain ⟨z, hz, zpos, zdvd⟩ := gcdM_fin_left hm (.fin v.toNat)
  have hnv : ¬ v < 0 := by omega
  have hz0 : z ≠ 0 := by omega
  have hmod : m % z = 0 := Nat.mod_eq_zero_of_dvd zdvd
  refine ⟨z, m / z, ?_, zpos, Nat.div_pos (Nat.le_of_dvd hm zdvd) zpos⟩
  simp [mulSide, mvAsModulus, hnv, hz, hz0, hmod, ExtInt.toInt?]

theorem multiplicative_inv {l r : AVal} (hl : InvS l) (hr : InvS r) :
    ∃ a, multiplicative l r = some a ∧ InvS a := by
  -- a result with a positive modulus and a remainder modulo it: its finite ends are corner
  -- products, hence congruent
  have fin_case : ∀ {mn mx : ExtInt} {k : Nat} {w : Int},
      multiplicative l r = some ⟨mn, mx, .fin k, .fin (w % (k : Int))⟩ → 0 < k →
      (∃ p1 p2 : Int, p1 < p2 ∧ LowOk mn p1 ∧ HighOk mx p2) →
      ∃ a, multiplicative l r = some a ∧ InvS a := by
    intro mn mx k w ha kpos htwo
    refine ⟨_, ha, Or.inr ⟨k, _, InvVar.of_witness rfl kpos rfl ?_ ?_ htwo⟩⟩
    · intro x hx
      rw [(multiplicative_ends ha).1] at hx
      exact (corner_list_gamma hl hr ha (eminL_mem hx nofun)).2.2
    · intro x hx
      rw [(multiplicative_ends ha).2] at hx
      exact (corner_list_gamma hl hr ha (emaxL_mem hx nofun)).2.2
  rcases hl with ⟨c, rfl⟩ | ⟨lm, lv, hlv⟩
  · rcases hr with ⟨d, rfl⟩ | ⟨rm, rv, hrv⟩
    · exact ⟨_, multiplicative_const c d, Or.inl ⟨_, rfl⟩⟩
    · by_cases hc : c = 0
      · subst hc
        exact ⟨_, multiplicative_zero_left hrv.hm, Or.inl ⟨0, rfl⟩⟩
      · obtain ⟨mn, mx, hred⟩ := multiplicative_constL c hrv.hm hrv.hv
        obtain ⟨k, w, kpos, h⟩ := mulConstVar_nz (mn := mn) (mx := mx) rv hrv.mpos hc
        have hmul := hred.trans h
        obtain ⟨y1, y2, hlt, g1, g2⟩ := hrv.two
        exact fin_case hmul kpos (mul_two_left hmul (constRange_sound c) hc g1 g2 hlt)
  · rcases hr with ⟨d, rfl⟩ | ⟨rm, rv, hrv⟩
    · by_cases hd : d = 0
      · subst hd
        exact ⟨_, multiplicative_zero_right hlv.hm, Or.inl ⟨0, rfl⟩⟩
      · obtain ⟨mn, mx, hred⟩ := multiplicative_constR d hlv.hm hlv.hv
        obtain ⟨k, w, kpos, h⟩ := mulConstVar_nz (mn := mn) (mx := mx) lv hlv.mpos hd
        have hmul := hred.trans h
        obtain ⟨x1, x2, hlt, g1, g2⟩ := hlv.two
        exact fin_case hmul kpos (mul_two_right hmul g1 g2 hlt (constRange_sound d) hd)
    · obtain ⟨lz, lnz, hls, lzpos, lnzpos⟩ := mulSide_some hlv.mpos hlv.v0
      obtain ⟨rz, rnz, hrs, rzpos, rnzpos⟩ := mulSide_some hrv.mpos hrv.v0
      obtain ⟨g, hg, gpos, _⟩ := gcdM_fin_left lnzpos (.fin rnz)
      have hM : 0 < g * (lz * rz) := Nat.mul_pos gpos (Nat.mul_pos lzpos rzpos)
      have hM0 : g * (lz * rz) ≠ 0 := by omega
      obtain ⟨mn, mx, hmul⟩ : ∃ mn mx, multiplicative l r = some
          ⟨mn, mx, .fin (g * (lz * rz)), .fin (lv * rv % ((g * (lz * rz) : Nat) : Int))⟩ :=
        ⟨_, _, by
          simp only [multiplicative, hlv.hm, hrv.hm, hlv.hv, hrv.hv, hls, hrs, hg, hM0, if_false]
          rfl⟩
      obtain ⟨x1, x2, hltx, gx1, gx2⟩ := hlv.two
      obtain ⟨y1, y2, hlty, gy1, gy2⟩ := hrv.two
      refine fin_case hmul hM ?_
      -- one of the two left values is not 0
      by_cases hx : x1 = 0
      · exact mul_two_left hmul gx2 (by omega) gy1 gy2 hlty
      · exact mul_two_left hmul gx1 hx gy1 gy2 hlty

/-! ### `_shared_modular_value`, `?:` -/

theorem shared_spec {m1 m2 : Modulus} {a b : Int} (h1 : m1.Pos) (h2 : m2.Pos) :
    (m1 = .inf ∧ m2 = .inf ∧ a = b ∧ shared (m1, .fin a) (m2, .fin b) = some (.inf, .fin a)) ∨
    (¬ (m1 = .inf ∧ m2 = .inf ∧ a = b) ∧ ∃ k : Nat, 0 < k ∧
      shared (m1, .fin a) (m2, .fin b) = some (.fin k, .fin (a % (k : Int)))) := by
  by_cases hc : m1 = .inf ∧ m2 = .inf ∧ a = b
  · left
    obtain ⟨rfl, rfl, rfl⟩ := hc
    exact ⟨rfl, rfl, rfl, by simp [shared, gcdM, ExtInt.toInt?]⟩
  · right
    refine ⟨hc, ?_⟩
    -- the outer gcd is a positive number dividing a - b
    have hpos : 0 < Nat.gcd (gcdM m1 m2).toNat (a - b).natAbs := by
      rcases gcdM_cases h1 h2 with ⟨e1, e2⟩ | ⟨c, hg, cpos⟩
      · exact Nat.gcd_pos_of_pos_right _ (Int.natAbs_pos.mpr (fun e => hc ⟨e1, e2, by omega⟩))
      · rw [hg]; exact Nat.gcd_pos_of_pos_left _ cpos
    obtain ⟨z, hz, zpos, hzn⟩ : ∃ z, gcdM (gcdM m1 m2) (.fin (a - b).natAbs) = .fin z ∧ 0 < z ∧
        z ∣ (a - b).natAbs := ⟨_, gcdM_fin_of_pos hpos, hpos, Nat.gcd_dvd_right _ _⟩
    have hzd : (z : Int) ∣ a - b := Int.dvd_natAbs.mp (Int.ofNat_dvd.mpr hzn)
    have hmod := emod_eq_iff_dvd_sub.mpr hzd
    have hz0 : z ≠ 0 := by omega
    refine ⟨z, zpos, ?_⟩
    simp [shared, ExtInt.toInt?, hz, hz0, hmod]

theorem choiceHull_inv {t f : AVal} (ht : InvS t) (hf : InvS f) :
    ∃ a, choiceHull t f = some a ∧ InvS a := by
  obtain ⟨tv, htv⟩ := ht.mv_fin
  obtain ⟨fv, hfv⟩ := hf.mv_fin
  rcases shared_spec (a := tv) (b := fv) ht.modPos hf.modPos with ⟨e1, e2, e3, hs⟩ | ⟨hc, k, kpos, hs⟩
  · -- the same constant on both sides
    subst e3
    have ht' := ht.const_of_inf e1 htv
    have hf' := hf.const_of_inf e2 hfv
    subst ht' hf'
    refine ⟨constRange tv, ?_, Or.inl ⟨tv, rfl⟩⟩
    simp [choiceHull, shared, constRange, gcdM, ExtInt.toInt?, eminL, emaxL, emin2, emax2]
  · have hch : choiceHull t f =
        some ⟨eminL [t.min, f.min], emaxL [t.max, f.max], .fin k, .fin (tv % (k : Int))⟩ := by
      simp only [choiceHull, htv, hfv, hs]
    -- the finite ends are ends of a branch, and the branches have two different members
    refine ⟨_, hch, Or.inr ⟨k, _, InvVar.of_witness rfl kpos rfl (fun x hx => ?_) (fun x hx => ?_) ?_⟩⟩
    · have hm := eminL_mem hx nofun
      simp only [List.mem_cons, List.not_mem_nil, or_false] at hm
      rcases hm with hm | hm
      · exact (choiceHull_sound hch (Or.inl (ht.min_mem hm.symm))).2.2
      · exact (choiceHull_sound hch (Or.inr (hf.min_mem hm.symm))).2.2
    · have hm := emaxL_mem hx nofun
      simp only [List.mem_cons, List.not_mem_nil, or_false] at hm
      rcases hm with hm | hm
      · exact (choiceHull_sound hch (Or.inl (ht.max_mem hm.symm))).2.2
      · exact (choiceHull_sound hch (Or.inr (hf.max_mem hm.symm))).2.2
    · rcases ht with ⟨c, rfl⟩ | ⟨m, v, h⟩
      · rcases hf with ⟨d, rfl⟩ | ⟨m, v, h⟩
        · -- two different constants
          cases htv; cases hfv
          exact Gamma.spread (choiceHull_sound hch (Or.inl (constRange_sound tv)))
            (choiceHull_sound hch (Or.inr (constRange_sound fv))) (fun e => hc ⟨rfl, rfl, e⟩)
        · obtain ⟨x1, x2, hlt, g1, g2⟩ := h.two
          exact ⟨x1, x2, hlt, (choiceHull_sound hch (Or.inr g1)).1,
            (choiceHull_sound hch (Or.inr g2)).2.1⟩
      · obtain ⟨x1, x2, hlt, g1, g2⟩ := h.two
        exact ⟨x1, x2, hlt, (choiceHull_sound hch (Or.inl g1)).1,
          (choiceHull_sound hch (Or.inl g2)).2.1⟩

/-! ### `$max` -/

theorem sharedFold_spec {l : List AVal} (hl : ∀ a ∈ l, InvS a) :
    ∀ {m0 : Modulus} {c : Int}, m0.Pos → (∀ k, m0 = .fin k → 0 ≤ c ∧ c < (k : Int)) →
    ∃ (m : Modulus) (v : Int), sharedFold (m0, .fin c) l = some (m, .fin v) ∧ m.Pos ∧
      ∀ k, m = .fin k → 0 ≤ v ∧ v < (k : Int) := by
  induction l with
  | nil => exact fun hp hcan => ⟨_, _, rfl, hp, hcan⟩
  | cons a as ih =>
    intro m0 c hp hcan
    have ha : InvS a := hl a List.mem_cons_self
    have has : ∀ b ∈ as, InvS b := fun b hb => hl b (List.mem_cons_of_mem _ hb)
    obtain ⟨b, hb⟩ := ha.mv_fin
    simp only [sharedFold, hb]
    rcases shared_spec (a := c) (b := b) hp ha.modPos with ⟨_, _, _, hs⟩ | ⟨_, k, kpos, hs⟩
    · rw [hs]; exact ih has trivial nofun
    · rw [hs]; exact ih has kpos (fun k' hk' => by cases hk'; exact emod_canon _ kpos)

theorem maxFn_inv {args : List AVal} (hne : args ≠ []) (h : ∀ a ∈ args, InvS a) :
    ∃ r, maxFn args = some r ∧ InvS r := by
  cases args with
  | nil => exact absurd rfl hne
  | cons a0 as =>
    have h0 : InvS a0 := h a0 List.mem_cons_self
    have has : ∀ b ∈ as, InvS b := fun b hb => h b (List.mem_cons_of_mem _ hb)
    generalize hmn : emaxL ((a0 :: as).map (·.min)) = mn
    generalize hmx : emaxL ((a0 :: as).map (·.max)) = mx
    -- a value of an argument is below the upper end
    have hi : ∀ b ∈ a0 :: as, ∀ x, Gamma b x → HighOk mx x := fun b hb x g =>
      hmx ▸ emaxL_high (x := b.max) (List.mem_map.mpr ⟨b, hb, rfl⟩) g.2.1
    have F1 : mn ≠ .posInf := by
      intro e
      obtain ⟨b, hb, hbe⟩ := List.mem_map.mp (emaxL_mem (hmn.trans e) nofun)
      exact (h b hb).minNe hbe
    have F2 : mx ≠ .negInf := by
      intro e
      obtain ⟨x, gx⟩ := h0.one
      have := hi a0 List.mem_cons_self x gx
      rw [e] at this
      exact this
    have F3 : ∀ x, mn = .fin x → ∃ b ∈ a0 :: as, b.min = .fin x := fun x hx =>
      List.mem_map.mp (emaxL_mem (hmn.trans hx) nofun)
    have F3' : ∀ x, mx = .fin x → ∃ b ∈ a0 :: as, b.max = .fin x := fun x hx =>
      List.mem_map.mp (emaxL_mem (hmx.trans hx) nofun)
    have F4 : ∀ x y, mn = .fin x → mx = .fin y → x ≤ y := by
      intro x y hx hy
      obtain ⟨b, hb, hbe⟩ := F3 x hx
      have := hi b hb x ((h b hb).min_mem hbe)
      rw [hy] at this
      exact this
    by_cases heq : mn = mx
    · -- dominated by a constant
      have hr : maxFn (a0 :: as) = some ⟨mn, mx, .inf, mn⟩ := by
        simp only [maxFn, hmn, hmx, heq, if_true]
      refine ⟨_, hr, Or.inl ?_⟩
      subst heq
      cases mn with
      | posInf => exact absurd rfl F1
      | negInf => exact absurd rfl F2
      | fin c => exact ⟨c, rfl⟩
    · obtain ⟨c, hc⟩ := h0.mv_fin
      obtain ⟨m, v, hsf, mpos, hcan⟩ :=
        sharedFold_spec has (m0 := a0.modulus) (c := c) h0.modPos (h0.canon hc)
      have hcong : ∀ b ∈ a0 :: as, ∀ x, Gamma b x → CongOk m (.fin v) x := by
        intro b hb x hx
        have := sharedFold_sound (hc ▸ hsf : sharedFold (a0.modulus, a0.mv) as = _) x
        exact (List.mem_cons.mp hb).elim (fun e => this.1 (e ▸ hx.2.2))
          (fun hm' => this.2 b hm' hx.2.2)
      cases m with
      | inf =>
        -- congruent modulo "infinity" is equal: no argument has two members, so each is a
        -- constant and the two lists of ends are the same
        have hcon : ∀ b ∈ a0 :: as, b.min = b.max := fun b hb => by
          rcases h b hb with ⟨d, rfl⟩ | ⟨_, _, hv⟩
          · rfl
          · obtain ⟨x1, x2, hlt, g1, g2⟩ := hv.two
            obtain ⟨_, e1, d1⟩ := hcong b hb x1 g1
            obtain ⟨_, e2, d2⟩ := hcong b hb x2 g2
            cases e1; cases e2
            exact absurd ((eq_of_inf_dvd rfl d1).trans (eq_of_inf_dvd rfl d2).symm) (Int.ne_of_lt hlt)
        exact absurd (hmn ▸ hmx ▸ congrArg emaxL (List.map_congr_left hcon)) heq
      | fin k =>
        have hr : maxFn (a0 :: as) = some ⟨mn, mx, .fin k, .fin v⟩ := by
          simp only [maxFn, hmn, hmx, heq, if_false, hc, hsf]
        have hk := hcan k rfl
        exact ⟨_, hr, Or.inr ⟨k, v, rfl, mpos, rfl, hk.1, hk.2,
          fun x hx => let ⟨b, hb, hbe⟩ := F3 x hx
            (hcong b hb x ((h b hb).min_mem hbe)).emod rfl rfl hk.1 hk.2,
          fun x hx => let ⟨b, hb, hbe⟩ := F3' x hx
            (hcong b hb x ((h b hb).max_mem hbe)).emod rfl rfl hk.1 hk.2,
          F1, F2, heq, F4⟩⟩

end Emboss.Bounds
