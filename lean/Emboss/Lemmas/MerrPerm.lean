/-
Order independence of the table writes of `mark_error`.  `putAll A ps` succeeds if every pair of
`ps` is `Free` on `A` and no slot gets two codes (`putAll_of_free`); conversely a successful `putAll`
gives `PutSpec` (`putAll_spec`, Lemmas/Merr.lean): those two conditions (`free`, `code_eq`), and what is
stored is what `A` stored plus the codes of `ps`.  Neither speaks of the order, so lists with the same pairs
succeed together and give observationally equal tables (`TableEqv`: same productions, gotos, flags,
the same entry for every (state, symbol), the same default error for every state, the same rows
present).
-/
import Emboss.Lemmas.Merr
namespace Emboss.Lr1

structure TableEqv (A B : Automaton) : Prop where
  prods : A.prods = B.prods
  goto : A.goto = B.goto
  eoi : A.eoi = B.eoi
  strict : A.strict = B.strict
  val : ∀ sl, val A sl = val B sl
  row : ∀ s, (A.row s).isSome = (B.row s).isSome

theorem TableEqv.entry {A B : Automaton} (h : TableEqv A B) (s a : Nat) : A.entry s a = B.entry s a :=
  h.val (.entry s a)

theorem TableEqv.dflt {A B : Automaton} (h : TableEqv A B) (s : Nat) :
    A.defaultErrors.lookup s = B.defaultErrors.lookup s :=
  Option.map_injective (fun _ _ e => Option.some.inj (Action.error.inj e)) (h.val (.dflt s))

/-- observationally equal tables run alike (up to the order of the expected list) -/
theorem TableEqv.errExt {A B : Automaton} (h : TableEqv A B) : ErrExt A B where
  prods := h.prods.symm
  goto := h.goto.symm
  eoi := h.eoi.symm
  strict := h.strict.symm
  entry := fun s a x hx => by rw [← h.entry]; exact hx
  entryNew := fun s a x hn hx => by rw [← h.entry, hn] at hx; cases hx
  row := fun s hs => by rw [← h.row]; exact hs
  rowStrict := fun _ s hs => by rw [h.row]; exact hs

/-! ### when the writes succeed -/

theorem put_of_free {A : Automaton} {sl : Slot} {c : Nat} (h : Free A sl c) : ∃ B, put A sl c = some B := by
  unfold Free at h
  cases sl with
  | dflt s =>
    simp only [put, val] at h ⊢
    cases hl : A.defaultErrors.lookup s with
    | none => exact ⟨_, rfl⟩
    | some c0 =>
      rw [hl] at h
      rcases h with ⟨h, _⟩ | h <;> cases h
      exact ⟨A, if_pos rfl⟩
  | entry s a =>
    simp only [put, val] at h ⊢
    cases he : A.entry s a with
    | none =>
      rw [he] at h
      rcases h with ⟨_, hs⟩ | h
      · refine ⟨_, if_neg fun hh => ?_⟩
        simp only [Bool.and_eq_true, Option.isNone_iff_eq_none] at hh
        have := hs s a rfl hh.1
        rw [hh.2] at this
        cases this
      · cases h
    | some x =>
      rw [he] at h
      rcases h with ⟨h, _⟩ | h <;> cases h
      exact ⟨A, if_pos rfl⟩

theorem putAll_of_free : ∀ (ps : List (Slot × Nat)) {A : Automaton}, (∀ sl c, (sl, c) ∈ ps → Free A sl c) →
    (∀ sl c c', (sl, c) ∈ ps → (sl, c') ∈ ps → c' = c) → ∃ B, putAll A ps = some B
  | [], A, _, _ => ⟨A, rfl⟩
  | p :: ps, A, hf, hc => by
    obtain ⟨A1, h1⟩ := put_of_free (hf p.1 p.2 List.mem_cons_self)
    -- a later write to the slot of `p` carries the code of `p`
    obtain ⟨B, hB⟩ := putAll_of_free ps (A := A1)
      (fun sl c h => (put_spec h1).free_after (hf sl c (.tail _ h)) fun c' h' => by
        cases List.mem_singleton.mp h'
        exact hc _ c _ (.tail _ h) List.mem_cons_self)
      (fun sl c c' h h' => hc sl c c' (.tail _ h) (.tail _ h'))
    exact ⟨B, by rw [putAll, h1]; exact hB⟩

-- two writes to one slot carry the same code
theorem PutSpec.code_eq {A B : Automaton} {ps : List (Slot × Nat)} (S : PutSpec A B ps) {sl : Slot} {c c' : Nat}
    (h : (sl, c) ∈ ps) (h' : (sl, c') ∈ ps) : c' = c := by
  have e := ((S.valOf sl _).mpr (.inr ⟨c, h, rfl⟩)).symm.trans ((S.valOf sl _).mpr (.inr ⟨c', h', rfl⟩))
  cases e; rfl

theorem PutSpec.tableEqv {A B B' : Automaton} {ps ps' : List (Slot × Nat)} (S : PutSpec A B ps)
    (T : PutSpec A B' ps') (h : ∀ p, p ∈ ps ↔ p ∈ ps') : TableEqv B B' where
  prods := S.prods.trans T.prods.symm
  goto := S.goto.trans T.goto.symm
  eoi := S.eoi.trans T.eoi.symm
  strict := S.strict.trans T.strict.symm
  val := fun sl => Option.ext fun x => by rw [S.valOf, T.valOf]; simp only [h]
  row := fun s => Bool.eq_iff_iff.mpr (by rw [S.row, T.row]; simp only [h])

/-- **Order independence of the table writes**: whether they succeed, and what is stored afterwards,
depends only on which (slot, code) pairs are written. -/
theorem putAll_of_mem_iff {ps ps' : List (Slot × Nat)} (hmem : ∀ p, p ∈ ps ↔ p ∈ ps') {A B : Automaton}
    (hp : putAll A ps = some B) : ∃ B', putAll A ps' = some B' ∧ TableEqv B B' := by
  have S := putAll_spec ps hp
  obtain ⟨B', hB'⟩ := putAll_of_free ps' (fun sl c h => S.free sl c ((hmem _).mpr h))
    fun sl c c' h h' => S.code_eq ((hmem _).mpr h) ((hmem _).mpr h')
  exact ⟨B', hB', S.tableEqv (putAll_spec ps' hB') hmem⟩

theorem slotsOf_eq (A : Automaton) (fuel : Nat) : ∀ es : List ErrExample, slotsOf A fuel es =
    if es.all (fun e => (slotOf A fuel e).isSome) then
      some (es.filterMap fun e => (slotOf A fuel e).map (·, e.code)) else none
  | [] => rfl
  | e :: es => by
    rw [slotsOf, slotsOf_eq A fuel es, List.all_cons, List.filterMap_cons]
    cases slotOf A fuel e <;> cases es.all (fun e => (slotOf A fuel e).isSome) <;> rfl

theorem slotsOf_perm {A : Automaton} {fuel : Nat} {es es' : List ErrExample} (hperm : es.Perm es')
    {ps : List (Slot × Nat)} (h : slotsOf A fuel es = some ps) :
    ∃ ps', slotsOf A fuel es' = some ps' ∧ ps.Perm ps' := by
  rw [slotsOf_eq, hperm.all_eq] at h
  rw [slotsOf_eq]
  split at h
  · next ha => cases h; exact ⟨_, if_pos ha, hperm.filterMap _⟩
  · cases h

theorem markAll_perm {A B : Automaton} {fuel : Nat} {es es' : List ErrExample} (hperm : es.Perm es')
    (h : markAll A fuel es = some B) : ∃ B', markAll A fuel es' = some B' ∧ TableEqv B B' := by
  rw [markAll_eq_putAll fuel es A (ErrExt.refl A)] at h
  cases hs : slotsOf A fuel es with
  | none => simp [hs] at h
  | some ps =>
    simp only [hs, Option.bind_some] at h
    obtain ⟨ps', hs', hp⟩ := slotsOf_perm hperm hs
    obtain ⟨B', hB', he⟩ := putAll_of_mem_iff (fun _ => hp.mem_iff) h
    exact ⟨B', by rw [markAll_eq_putAll fuel es' A (ErrExt.refl A), hs']; exact hB', he⟩

end Emboss.Lr1
