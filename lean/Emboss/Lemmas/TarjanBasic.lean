/- Reachability, edges of a dict graph and of the graphs built with `map` and `dedup`, equations of
`push`/`setLow`, `Keeps`, popping, the fuel measure. -/
import Emboss.Spec.Cycles
namespace Emboss.Deps

/-! ### Reachability, strongly connected components -/

theorem Reach.trans {g : Graph} {a b c : Nat} (h1 : Reach g a b) (h2 : Reach g b c) : Reach g a c := by
  induction h1 with
  | refl => exact h2
  | step e _ ih => exact .step e (ih h2)

theorem Reach.single {g : Graph} {a b : Nat} (e : Edge g a b) : Reach g a b := .step e (.refl _)

theorem ReachP.toReach {g : Graph} {a b : Nat} (h : ReachP g a b) : Reach g a b := by
  induction h with
  | single e => exact .single e
  | step e _ ih => exact .step e ih

theorem ReachP.of_edge_reach {g : Graph} {a b c : Nat} (e : Edge g a b) (h : Reach g b c) : ReachP g a c := by
  induction h generalizing a with
  | refl => exact .single e
  | step e' _ ih => exact .step e (ih e')

theorem ReachP.head {g : Graph} {a c : Nat} (h : ReachP g a c) : ∃ b, Edge g a b ∧ Reach g b c := by
  cases h with
  | single e => exact ⟨_, e, .refl _⟩
  | step e h => exact ⟨_, e, h.toReach⟩

theorem Reach.toReachP_of_ne {g : Graph} {a b : Nat} (h : Reach g a b) (hne : a ≠ b) : ReachP g a b := by
  cases h with
  | refl => exact absurd rfl hne
  | step e h => exact .of_edge_reach e h

theorem ReachP.trans_reach {g : Graph} {a b c : Nat} (h1 : ReachP g a b) (h2 : Reach g b c) : ReachP g a c := by
  obtain ⟨x, e, h⟩ := h1.head
  exact .of_edge_reach e (h.trans h2)

theorem Mutual.refl (g : Graph) (a : Nat) : Mutual g a a := ⟨.refl _, .refl _⟩
theorem Mutual.symm {g : Graph} {a b : Nat} (h : Mutual g a b) : Mutual g b a := ⟨h.2, h.1⟩
theorem Mutual.trans {g : Graph} {a b c : Nat} (h1 : Mutual g a b) (h2 : Mutual g b c) : Mutual g a c :=
  ⟨h1.1.trans h2.1, h2.2.trans h1.2⟩

theorem cyclic_of_mutual_ne {g : Graph} {a b : Nat} (h : Mutual g a b) (hne : a ≠ b) : cyclic g a :=
  (h.1.toReachP_of_ne hne).trans_reach h.2

theorem IsSCC.nontrivial_of_cyclic {g : Graph} {C : List Nat} {a : Nat} (h : IsSCC g C) (ha : a ∈ C)
    (hc : cyclic g a) : C.length > 1 ∨ ∃ a, C = [a] ∧ Edge g a a := by
  match C, h, ha with
  | [x], h, ha =>
    rw [List.mem_singleton.mp ha] at hc
    obtain ⟨b, he, hr⟩ := ReachP.head hc
    rw [List.mem_singleton.mp ((h.2 x (List.mem_singleton_self x) b).mpr ⟨.single he, hr⟩)] at he
    exact .inr ⟨x, rfl, he⟩
  | _ :: _ :: _, _, _ => exact .inl (Nat.le_add_left 2 _)

theorem IsSCC.cyclic_of_nontrivial {g : Graph} {C : List Nat} (h : IsSCC g C) (hnd : C.Nodup)
    (hnt : C.length > 1 ∨ ∃ a, C = [a] ∧ Edge g a a) : ∀ a ∈ C, cyclic g a := by
  intro a ha
  rcases hnt with hlen | ⟨b, rfl, he⟩
  · -- some other member of `C` is mutually reachable with `a`
    have hb : ∃ b ∈ C, a ≠ b :=
      match C, hnd, hlen, ha with
      | x :: y :: l, hnd, _, ha => by
        have hxy : x ≠ y := fun e => (List.nodup_cons.mp hnd).1 (e ▸ List.mem_cons_self ..)
        by_cases hax : a = x
        · exact ⟨y, List.mem_cons_of_mem _ (List.mem_cons_self ..), hax ▸ hxy⟩
        · exact ⟨x, List.mem_cons_self .., hax⟩
    obtain ⟨b, hb, hab⟩ := hb
    exact cyclic_of_mutual_ne ((h.2 a ha b).mp hb) hab
  · rw [List.mem_singleton.mp ha]
    exact .single he

theorem nontrivial_iff {g : Graph} {C : List Nat} :
    nontrivial g C = true ↔ C.length > 1 ∨ ∃ a, C = [a] ∧ Edge g a a := by
  match C with
  | [] => simp [nontrivial]
  | [a] => simp [nontrivial, Edge]
  | _ :: _ :: _ => simp [nontrivial]

theorem Reach.closed {g : Graph} {S : Nat → Prop} (hS : ∀ a b, S a → Edge g a b → S b)
    {a b : Nat} (h : Reach g a b) (ha : S a) : S b := by
  induction h with
  | refl => exact ha
  | step e _ ih => exact ih (hS _ _ ha e)

theorem ReachP.mono {g g' : Graph} (he : ∀ a b, Edge g a b → Edge g' a b) {a b : Nat}
    (h : ReachP g a b) : ReachP g' a b := by
  induction h with
  | single e => exact .single (he _ _ e)
  | step e _ ih => exact .step (he _ _ e) ih

theorem Reach.mono {g g' : Graph} (he : ∀ a b, Edge g a b → Edge g' a b) {a b : Nat}
    (h : Reach g a b) : Reach g' a b := by
  induction h with
  | refl => exact .refl _
  | step e _ ih => exact .step (he _ _ e) ih

/-- Pigeonhole without a walk: drop the nodes of `S` one by one; a path that ended in the dropped
node is prolonged by that node's own path back into the set. -/
theorem cycle_of_no_sink {g : Graph} : ∀ {S : List Nat}, S ≠ [] →
    (∀ x ∈ S, ∃ d ∈ S, ReachP g x d) → ∃ c, cyclic g c
  | [], h, _ => absurd rfl h
  | a :: T, _, h => by
    obtain ⟨d, hd, had⟩ := h a (List.mem_cons_self ..)
    rcases List.mem_cons.mp hd with rfl | hdT
    · exact ⟨d, had⟩
    · refine cycle_of_no_sink (List.ne_nil_of_mem hdT) fun x hx => ?_
      obtain ⟨e, he, hxe⟩ := h x (List.mem_cons_of_mem _ hx)
      rcases List.mem_cons.mp he with rfl | heT
      · exact ⟨d, hdT, hxe.trans_reach had.toReach⟩
      · exact ⟨e, heT, hxe⟩

/-! ### Edges of a dict graph -/

theorem lookup_mem {g : Graph} {a : Nat} {ds : List Nat} (h : g.lookup a = some ds) : (a, ds) ∈ g := by
  obtain ⟨l₁, l₂, rfl, _⟩ := List.lookup_eq_some_iff.mp h
  exact List.mem_append_right _ (List.mem_cons_self ..)

theorem edge_mem {g : Graph} {a b : Nat} (h : Edge g a b) : ∃ ds, (a, ds) ∈ g ∧ b ∈ ds := by
  unfold Edge succs at h
  split at h
  · rename_i ds hl
    exact ⟨ds, lookup_mem hl, h⟩
  · cases h

theorem edge_src_key {g : Graph} {a b : Nat} (h : Edge g a b) : a ∈ keys g := by
  obtain ⟨ds, hm, _⟩ := edge_mem h
  exact List.mem_map.mpr ⟨(a, ds), hm, rfl⟩

theorem closed_edge {g : Graph} (hc : closed g = true) : ∀ a b, Edge g a b → b ∈ keys g := by
  intro a b h
  obtain ⟨ds, hm, hb⟩ := edge_mem h
  exact List.contains_iff_mem.mp (List.all_eq_true.mp (List.all_eq_true.mp hc (a, ds) hm) b hb)

/-! ### Graphs built with `map` and `dedup` (`findDependencies`, `importGraph`) -/

theorem mem_dedup (l : List Nat) (x : Nat) : x ∈ dedup l ↔ x ∈ l := by
  induction l with
  | nil => simp [dedup]
  | cons a t ih =>
    unfold dedup
    split
    · rename_i h
      simp only [List.mem_cons, ih]
      constructor
      · exact .inr
      · rintro (rfl | h')
        · simpa using h
        · exact h'
    · simp only [List.mem_cons, ih]

theorem succs_map {α} {l : List α} {key : α → Nat} {val : α → List Nat}
    (hnd : (l.map key).Nodup) {x : α} (hx : x ∈ l) :
    succs (l.map fun y => (key y, val y)) (key x) = val x := by
  induction l with
  | nil => cases hx
  | cons a t ih =>
    rw [List.map_cons, List.nodup_cons] at hnd
    unfold succs
    rw [List.map_cons, List.lookup_cons]
    rcases List.mem_cons.mp hx with rfl | hx
    · rw [beq_self_eq_true]
    · have hne : key x ≠ key a := fun e => hnd.1 (e ▸ List.mem_map.mpr ⟨x, hx, rfl⟩)
      rw [beq_false_of_ne hne]
      exact ih hnd.2 hx

/-! ### The state after `push` and `setLow` -/

theorem getN_cons (m : List (Nat × Nat)) (k x k' : Nat) :
    getN ((k, x) :: m) k' = if k' = k then x else getN m k' := by
  unfold getN
  rw [List.lookup_cons]
  by_cases h : k' = k
  · rw [if_pos h, beq_iff_eq.mpr h]
  · rw [if_neg h, beq_false_of_ne h]

/-- `ix s w` = `node_indices[w]`, `lw s w` = `node_lowlinks[w]`. -/
scoped macro "ix " s:term:max w:term:max : term => `(getN (TState.idx $s) $w)
@[inherit_doc «termIx__»] scoped macro "lw " s:term:max w:term:max : term => `(getN (TState.low $s) $w)

@[simp] theorem indexed_push (v : Nat) (s : TState) (w : Nat) :
    indexed (push v s) w = (w == v || indexed s w) := by
  show (((v, s.next) :: s.idx).lookup w).isSome = _
  rw [List.lookup_cons]
  cases w == v <;> rfl
@[simp] theorem ix_push (v : Nat) (s : TState) (w : Nat) :
    ix (push v s) w = if w = v then s.next else ix s w := by
  simp [push, getN_cons]
@[simp] theorem lw_push (v : Nat) (s : TState) (w : Nat) :
    lw (push v s) w = if w = v then s.next else lw s w := by
  simp [push, getN_cons]
@[simp] theorem stack_push (v : Nat) (s : TState) : (push v s).stack = v :: s.stack := rfl
@[simp] theorem onStack_push (v : Nat) (s : TState) : (push v s).onStack = v :: s.onStack := rfl
@[simp] theorem next_push (v : Nat) (s : TState) : (push v s).next = s.next + 1 := rfl
@[simp] theorem comps_push (v : Nat) (s : TState) : (push v s).comps = s.comps := rfl
@[simp] theorem oof_push (v : Nat) (s : TState) : (push v s).oof = s.oof := rfl

@[simp] theorem indexed_setLow (v x : Nat) (s : TState) (w : Nat) :
    indexed (setLow v x s) w = indexed s w := rfl
@[simp] theorem ix_setLow (v x : Nat) (s : TState) : (setLow v x s).idx = s.idx := rfl
@[simp] theorem lw_setLow (v x : Nat) (s : TState) (w : Nat) :
    lw (setLow v x s) w = if w = v then x else lw s w := by
  simp [setLow, getN_cons]
@[simp] theorem stack_setLow (v x : Nat) (s : TState) : (setLow v x s).stack = s.stack := rfl
@[simp] theorem onStack_setLow (v x : Nat) (s : TState) : (setLow v x s).onStack = s.onStack := rfl
@[simp] theorem next_setLow (v x : Nat) (s : TState) : (setLow v x s).next = s.next := rfl
@[simp] theorem comps_setLow (v x : Nat) (s : TState) : (setLow v x s).comps = s.comps := rfl
@[simp] theorem oof_setLow (v x : Nat) (s : TState) : (setLow v x s).oof = s.oof := rfl

theorem indexed_ne {s : TState} {v w : Nat} (hv : indexed s v = false) (hw : indexed s w = true) :
    w ≠ v := by
  intro e; subst e; simp [hv] at hw

def Keeps (s s' : TState) : Prop :=
  ∀ w, indexed s w = true → indexed s' w = true ∧ ix s' w = ix s w ∧ lw s' w = lw s w

theorem Keeps.trans {s t u : TState} (h1 : Keeps s t) (h2 : Keeps t u) : Keeps s u := fun w hw =>
  have ⟨a1, a2, a3⟩ := h1 w hw
  have ⟨b1, b2, b3⟩ := h2 w a1
  ⟨b1, b2.trans a2, b3.trans a3⟩

theorem keeps_push {v : Nat} {s : TState} (hv : indexed s v = false) : Keeps s (push v s) := by
  intro w hw
  have hne := indexed_ne hv hw
  rw [indexed_push, ix_push, lw_push, if_neg hne, if_neg hne, hw, Bool.or_true]
  exact ⟨rfl, rfl, rfl⟩

/-! ### Popping a component -/

theorem popUntil_append (v : Nat) (seg old : List Nat) (h : v ∉ seg) :
    popUntil v (seg ++ v :: old) = (seg ++ [v], old) := by
  induction seg with
  | nil => simp [popUntil]
  | cons x xs ih =>
    have hx : x ≠ v := fun e => h (by simp [e])
    have hv : v ∉ xs := fun e => h (by simp [e])
    simp [popUntil, hx, ih hv]

theorem foldl_erase_append (c r : List Nat) : c.foldl List.erase (c ++ r) = r := by
  induction c with
  | nil => rfl
  | cons x xs ih => simp [ih]

/-! ### The fuel measure -/

theorem countP_lt_of_imp {p q : Nat → Bool} (l : List Nat) (h : ∀ x, p x = true → q x = true)
    (v : Nat) (hv : v ∈ l) (hpv : p v = false) (hqv : q v = true) :
    l.countP p < l.countP q := by
  obtain ⟨l₁, l₂, rfl⟩ := List.append_of_mem hv
  have h1 : l₁.countP p ≤ l₁.countP q := List.countP_mono_left fun x _ => h x
  have h2 : l₂.countP p ≤ l₂.countP q := List.countP_mono_left fun x _ => h x
  rw [List.countP_append, List.countP_append, List.countP_cons_of_neg (Bool.eq_false_iff.mp hpv),
    List.countP_cons_of_pos hqv]
  exact Nat.add_lt_add_of_le_of_lt h1 (Nat.lt_succ_of_le h2)

/-- The fuel measure: keys not yet indexed. -/
def unvisited (g : Graph) (s : TState) : Nat := (keys g).countP (fun k => !indexed s k)

theorem not_indexed_mono {s t : TState} (h : Keeps s t) (x : Nat)
    (hx : (!indexed t x) = true) : (!indexed s x) = true := by
  cases hs : indexed s x
  · rfl
  · rw [(h x hs).1] at hx; cases hx

theorem unvisited_mono (g : Graph) {s t : TState} (h : Keeps s t) :
    unvisited g t ≤ unvisited g s :=
  List.countP_mono_left fun x _ => not_indexed_mono h x

theorem unvisited_push {g : Graph} {s : TState} {v : Nat} (hv : v ∈ keys g)
    (hi : indexed s v = false) : unvisited g (push v s) < unvisited g s :=
  countP_lt_of_imp _ (not_indexed_mono (keeps_push hi)) v hv (by simp) (by rw [hi]; rfl)

end Emboss.Deps
