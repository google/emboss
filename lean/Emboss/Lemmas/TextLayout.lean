/-
C06: the syntactic dependency check on leaf descriptions implies the semantic `DepOk`.
-/
import Emboss.Model.TextLayout
import Emboss.Lemmas.TextStruct
namespace Emboss.Text

theorem byteVal_congr (b b' : Buf) (k : Nat) (h : ∀ i, i < 8 → b' (8 * k + i) = b (8 * k + i)) :
    byteVal b' k = byteVal b k := by
  have h0 := h 0 (by omega)
  simp only [Nat.add_zero] at h0
  simp only [byteVal, bitVal, h0, h 1 (by omega), h 2 (by omega), h 3 (by omega), h 4 (by omega),
    h 5 (by omega), h 6 (by omega), h 7 (by omega)]

theorem eval_congr (b b' : Buf) : ∀ (e : LExpr), (∀ k ∈ e.reads, byteVal b' k = byteVal b k) →
    e.eval b' = e.eval b := by
  intro e
  induction e with
  | const n => intro _; rfl
  | byte k => intro h; exact h k (by simp [LExpr.reads])
  | add x y ihx ihy | mul x y ihx ihy | gt x y ihx ihy | eq x y ihx ihy | and x y ihx ihy =>
    intro h
    simp only [LExpr.eval, ihx (List.forall_mem_append.mp h).1, ihy (List.forall_mem_append.mp h).2]
  | not x ihx =>
    intro h
    simp only [LExpr.reads] at h
    simp only [LExpr.eval, ihx h]

/-- An establishing leaf pins the byte: buffers that agree on the emitted fields agree on it. -/
theorem establishes_byte (size : Nat) (p : Leaf) (k : Nat) (h : p.establishes size k = true)
    (pre : List Leaf) (hp : p ∈ pre) (b b' : Buf)
    (hag : AgreeOn (pre.map (Leaf.sem size)) b b') : byteVal b' k = byteVal b k := by
  unfold Leaf.establishes at h
  split at h
  case h_2 => simp at h
  rename_i c o hpr hof
  simp only [Bool.and_eq_true, bne_iff_ne, ne_eq, decide_eq_true_eq] at h
  obtain ⟨hem, ⟨⟨hc, h1⟩, h2⟩, h3⟩ := h
  apply byteVal_congr
  intro i hi
  have hloc : (Leaf.sem size p).loc b = some ((List.range p.width).map (· + o)) := by
    simp [Leaf.sem, Leaf.loc, hpr, hof, LExpr.eval, hc, h3]
  refine hag (Leaf.sem size p) (List.mem_map_of_mem hp) (by simpa [Leaf.sem] using hem) _ hloc _ ?_
  simp only [List.mem_map, List.mem_range]
  exact ⟨8 * k + i - o, by omega, by omega⟩

theorem depCheck_sound (size : Nat) : ∀ (rest pre : List Leaf), depCheck size pre rest = true →
    DepOk (pre.map (Leaf.sem size)) (rest.map (Leaf.sem size)) := by
  intro rest
  induction rest with
  | nil => intro _ _; trivial
  | cons l rest ih =>
    intro pre h
    simp only [depCheck, Bool.and_eq_true, Bool.or_eq_true, Bool.not_eq_true', List.all_eq_true,
      List.any_eq_true] at h
    obtain ⟨hl, hrest⟩ := h
    refine ⟨?_, ?_⟩
    · intro hem b b' hag
      have hem' : l.emitted = true := by simpa [Leaf.sem] using hem
      rcases hl with hl | hl
      · rw [hem'] at hl; cases hl
      · have hby : ∀ k ∈ l.present.reads ++ l.offset.reads, byteVal b' k = byteVal b k := fun k hk =>
          let ⟨p, hpm, hpe⟩ := hl k hk
          establishes_byte size p k hpe pre hpm b b' hag
        simp only [Leaf.sem, Leaf.loc, eval_congr b b' _ (List.forall_mem_append.mp hby).1,
          eval_congr b b' _ (List.forall_mem_append.mp hby).2]
    · have := ih (pre ++ [l]) hrest
      simpa using this

end Emboss.Text
