/-
C14 lemmas: `$default byte_order` propagation — the model's traversal
(`Forest.ctxs`) against the relational `IsPath` / `nearestDefault`.
-/
import Emboss.Spec.Constraints
namespace Emboss.Constraints

theorem gatherDefault_eq (attrs : List Attr) (d : Option AVal) :
    gatherDefault attrs d = (ownDefault attrs).or d := by
  unfold ownDefault gatherDefault
  -- falling back on `d` commutes with a step of the fold
  refine List.foldl_hom (init := none) (fun x : Option AVal => x.or d) fun x a => ?_
  by_cases h : a.isByteOrderDefault <;> simp [h]

theorem nearestDefault_cons (scope : List Attr) (inner : List (List Attr)) :
    nearestDefault (scope :: inner) = (nearestDefault inner).or (ownDefault scope) := by
  simp only [nearestDefault]
  cases nearestDefault inner <;> rfl

theorem ctxs_iff_path (F : Forest) : ∀ (d0 d : Option AVal) (t : TypeInfo),
    (d, t) ∈ F.ctxs d0 ↔
      ∃ path, IsPath F path t ∧ d = (nearestDefault (path.map (·.attrs))).or d0 := by
  induction F with
  | nil =>
    intro d0 d t
    simp only [Forest.ctxs, List.not_mem_nil, false_iff]
    rintro ⟨path, h, _⟩; cases h
  | node u ch sib ihc ihs =>
    intro d0 d t
    -- `Option.or` is associative: the own default of `u` joins the enclosing one
    have hch : ∀ path : List TypeInfo, (nearestDefault ((u :: path).map (·.attrs))).or d0
        = (nearestDefault (path.map (·.attrs))).or (gatherDefault u.attrs d0) := fun path => by
      rw [List.map_cons, nearestDefault_cons, Option.or_assoc, gatherDefault_eq]
    simp only [Forest.ctxs, List.mem_cons, List.mem_append, ihc, ihs]
    constructor
    · rintro (h | ⟨path, hp, hd⟩ | ⟨path, hp, hd⟩)
      · cases h
        exact ⟨[u], IsPath.here u ch sib, (hch []).symm⟩
      · exact ⟨u :: path, IsPath.child u ch sib path t hp, hd.trans (hch path).symm⟩
      · exact ⟨path, IsPath.sibling u ch sib path t hp, hd⟩
    · rintro ⟨path, hp, hd⟩
      cases hp with
      | here => left; rw [hd, hch []]; rfl
      | child _ _ _ path' _ hp' => right; left; exact ⟨path', hp', hd.trans (hch path')⟩
      | sibling _ _ _ _ _ hp' => right; right; exact ⟨path, hp', hd⟩

end Emboss.Constraints
