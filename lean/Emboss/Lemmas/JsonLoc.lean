/-
C18: decimal strings and `SourceLocation.__str__` / `from_str`.
-/
import Emboss.Model.Json
namespace Emboss.Json

theorem natChars_ne_nil (n : Nat) : natChars n ≠ [] := Nat.toDigits_ne_nil

theorem isDigit_of_mem_natChars {n : Nat} {c : Char} (h : c ∈ natChars n) : c.isDigit = true :=
  Nat.isDigit_of_mem_toDigits (by decide) (by decide) h

theorem parseNat_natChars (n : Nat) : parseNat (natChars n) = some n := by
  unfold parseNat
  have h1 : (natChars n).isEmpty = false := List.isEmpty_eq_false_iff.mpr (natChars_ne_nil n)
  have h2 : (natChars n).all Char.isDigit = true :=
    List.all_eq_true.mpr fun _ hc => isDigit_of_mem_natChars hc
  simp only [h1, h2, Bool.not_false, Bool.and_self, if_true]
  simp [natChars]

theorem not_mem_natChars_of_not_isDigit {n : Nat} {d : Char} (hd : d.isDigit = false) : d ∉ natChars n :=
  fun h => Bool.eq_false_iff.mp hd (isDigit_of_mem_natChars h)

/-- `parseNat` fails on a leading `-`, so where it succeeds `parseInt` agrees with it. -/
theorem parseInt_of_parseNat {cs : List Char} {n : Nat} (h : parseNat cs = some n) :
    parseInt cs = some (n : Int) := by
  unfold parseInt
  split
  · cases h
  · rw [h]
    rfl

/-- `"-12"`, `"0"`, `"340282366920938463463374607431768211456"` …: the decimal form denotes
the integer, for integers of any magnitude. -/
theorem parseInt_intChars (i : Int) : parseInt (intChars i) = some i := by
  cases i with
  | ofNat n => exact parseInt_of_parseNat (parseNat_natChars n)
  | negSucc n =>
    simp only [intChars, parseInt, parseNat_natChars]
    rfl

theorem intChars_ne_nil (i : Int) : intChars i ≠ [] := by
  cases i with
  | ofNat n => exact natChars_ne_nil n
  | negSucc n => exact List.cons_ne_nil _ _

theorem splitOn_eq (sep : Char) : ∀ cs : List Char, splitOn sep cs = cs.splitOn sep
  | [] => rfl
  | c :: cs => by
    rw [splitOn, splitOn_eq sep cs, List.splitOn_cons_eq_if_modifyHead]
    cases h : cs.splitOn sep with
    | nil => exact absurd h (List.splitOn_ne_nil sep cs)
    | cons _ _ => simp only [beq_iff_eq, List.modifyHead_cons]

/-- The `[] => [[c]]` arm of `splitOn` is never taken. -/
theorem splitOn_ne_nil (sep : Char) (cs : List Char) : splitOn sep cs ≠ [] :=
  splitOn_eq sep cs ▸ List.splitOn_ne_nil sep cs

theorem splitOn_append_cons {sep : Char} {a b : List Char} (ha : sep ∉ a) (hb : sep ∉ b) :
    splitOn sep (a ++ sep :: b) = [a, b] := by
  rw [splitOn_eq, List.splitOn_append_cons_of_beq a b (beq_self_eq_true sep),
    List.splitOn_eq_singleton ha, List.splitOn_eq_singleton hb]
  rfl

theorem Pos.fromChars_toChars (p : Pos) (h : p.ok = true) : Pos.fromChars p.toChars = some p := by
  unfold Pos.fromChars Pos.toChars
  rw [splitOn_append_cons (not_mem_natChars_of_not_isDigit (by decide))
    (not_mem_natChars_of_not_isDigit (by decide))]
  simp only [parseNat_natChars, mkPos, h, if_true]

theorem Pos.dash_not_mem_toChars (p : Pos) : '-' ∉ p.toChars := by
  unfold Pos.toChars
  intro h
  rw [List.mem_append, List.mem_cons] at h
  rcases h with h | h | h
  · exact not_mem_natChars_of_not_isDigit (by decide) h
  · cases h
  · exact not_mem_natChars_of_not_isDigit (by decide) h

theorem Pos.toChars_eq_concat_digit (p : Pos) :
    ∃ init c, p.toChars = init ++ [c] ∧ c.isDigit = true := by
  unfold Pos.toChars
  have hne := natChars_ne_nil p.column
  refine ⟨natChars p.line ++ ':' :: (natChars p.column).dropLast,
    (natChars p.column).getLast hne, ?_, ?_⟩
  · conv => lhs; rw [← List.dropLast_concat_getLast hne]
    simp
  · exact isDigit_of_mem_natChars (List.getLast_mem hne)

theorem beq_false_of_isDigit {c d : Char} (h : c.isDigit = true) (hd : d.isDigit = false) : (c == d) = false :=
  beq_false_of_ne fun e => Bool.eq_false_iff.mp hd (e ▸ h)

/-- `SourceLocation.from_str(str(l)) == l` for every location the constructor admits — all
four flag combinations, including the falsy `0:0-0:0`. -/
theorem Loc.fromChars_toChars (l : Loc) (h : l.ok = true) : Loc.fromChars l.toChars = some l := by
  obtain ⟨s, e, dis, syn⟩ := l
  have hok := h
  simp only [Loc.ok, Bool.and_eq_true] at h
  obtain ⟨⟨⟨hs, he⟩, _⟩, _⟩ := h
  -- the text before the flags ends in a digit `c`, so neither flag test fires on it
  obtain ⟨init, c, hc, hdig⟩ := Pos.toChars_eq_concat_digit e
  have hcs : (c == '*') = false := beq_false_of_isDigit hdig (by decide)
  have hcc : (c == '^') = false := beq_false_of_isDigit hdig (by decide)
  have hbody : splitOn '-' (s.toChars ++ '-' :: init ++ [c]) = [s.toChars, e.toChars] := by
    rw [List.append_assoc, List.cons_append, ← hc,
      splitOn_append_cons (Pos.dash_not_mem_toChars s) (Pos.dash_not_mem_toChars e)]
  unfold Loc.fromChars Loc.toChars
  rw [hc, ← List.cons_append, ← List.append_assoc]
  -- written as `_ ++ [last]`, the flags peel off by the same rewriting in all four cases
  cases dis <;> cases syn <;>
    simp only [Bool.false_eq_true, if_false, if_true, List.append_nil, List.getLast?_concat, List.dropLast_concat,
      hcs, hcc, beq_self_eq_true, Char.reduceBEq, hbody, Pos.fromChars_toChars s hs,
      Pos.fromChars_toChars e he, mkLoc, hok]

theorem Loc.fromStr_toStr (l : Loc) (h : l.ok = true) : Loc.fromStr l.toStr = some l := by
  unfold Loc.fromStr Loc.toStr
  rw [String.toList_ofList]
  exact Loc.fromChars_toChars l h

theorem Loc.ok_of_fromChars {cs : List Char} {l : Loc} (h : Loc.fromChars cs = some l) : l.ok = true := by
  unfold Loc.fromChars at h
  split at h
  · cases h
  · simp only at h
    split at h
    · cases h
    · split at h
      · split at h
        · simp only [mkLoc] at h
          split at h
          · cases h; assumption
          · cases h
        · cases h
      · cases h

theorem Loc.ok_of_fromStr {s : String} {l : Loc} (h : Loc.fromStr s = some l) : l.ok = true :=
  Loc.ok_of_fromChars h

end Emboss.Json
