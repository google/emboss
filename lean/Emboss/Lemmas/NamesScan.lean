/- Lemmas for C07, the `(cpp) namespace` scanner: whatever it returns consists of identifiers, at
least one (soundness), and every text of the documented shape is accepted, with exactly its
identifiers (completeness). -/
import Emboss.Model.Names
namespace Emboss.Names
open Emboss.Enum (isSpace)

/-- A C++ identifier (`[a-zA-Z_][a-zA-Z0-9_]*`). -/
def IsIdent (n : Name) : Prop :=
  ∃ c cs, n = c :: cs ∧ isIdentStart c = true ∧ cs.all isIdentChar = true

theorem isIdent_snoc (n : Name) (c : Char) (h : IsIdent n) (hc : isIdentChar c = true) :
    IsIdent (n ++ [c]) := by
  obtain ⟨d, ds, rfl, h1, h2⟩ := h
  exact ⟨d, ds ++ [c], rfl, h1, by simp [List.all_append, h2, hc]⟩

def ScanInv : NsState → List Name → Prop
  | .ident cur, acc => IsIdent cur.reverse ∧ ∀ a ∈ acc, IsIdent a
  | .trail, acc => acc ≠ [] ∧ ∀ a ∈ acc, IsIdent a
  | _, acc => ∀ a ∈ acc, IsIdent a

theorem nsScan_sound (st : NsState) (acc : List Name) (text : List Char) (cs : List Name)
    (h : nsScan st acc text = some cs) (hinv : ScanInv st acc) : cs ≠ [] ∧ ∀ c ∈ cs, IsIdent c := by
  fun_induction nsScan st acc text with
  | case1 cur acc =>
    cases h
    exact ⟨by simp, fun c hc => List.forall_mem_cons.mpr hinv c (List.mem_reverse.mp hc)⟩
  | case2 acc =>
    cases h
    exact ⟨by simpa using hinv.1, fun c hc => hinv.2 c (List.mem_reverse.mp hc)⟩
  -- the text ends elsewhere, or no transition
  | case3 | case7 | case9 | case12 | case16 | case19 => cases h
  -- a blank or a colon outside a component
  | case4 _ _ _ _ ih | case5 _ _ _ ih | case8 _ _ ih | case10 _ _ _ _ ih | case17 _ _ _ _ ih => exact ih h hinv
  | case18 _ _ _ ih => exact ih h hinv.2
  -- the first character of a component
  | case6 _ c _ _ _ hc ih | case11 _ c _ _ hc ih => exact ih h ⟨⟨c, [], rfl, hc, rfl⟩, hinv⟩
  -- one more character
  | case13 cur _ c _ hc ih =>
    refine ih h ⟨?_, hinv.2⟩
    rw [List.reverse_cons]
    exact isIdent_snoc _ _ hinv.1 hc
  -- a blank or a colon ends the component
  | case14 _ _ _ _ _ _ ih => exact ih h ⟨List.cons_ne_nil _ _, List.forall_mem_cons.mpr hinv⟩
  | case15 _ _ _ _ _ ih => exact ih h (List.forall_mem_cons.mpr hinv)

theorem nsParse_sound (text : List Char) (cs : List Name) (h : nsParse text = some cs) :
    cs ≠ [] ∧ ∀ c ∈ cs, IsIdent c :=
  nsScan_sound .lead [] text cs h (fun _ ha => nomatch ha)

/-- Identifier characters are ASCII letters, digits and `_`: neither blanks nor `:`. -/
theorem identChar_props (c : Char) (h : isIdentChar c = true) : isSpace c = false ∧ c ≠ ':' := by
  have hr : (48 ≤ c.toNat ∧ c.toNat ≤ 57) ∨ (65 ≤ c.toNat ∧ c.toNat ≤ 122) := by
    have hv : c.toNat = c.val.toNat := rfl
    -- unfold `isAlphanum` down to ranges of `c.toNat`
    simp only [isIdentChar, Char.isAlphanum, Char.isAlpha, Char.isUpper, Char.isLower, Char.isDigit,
      Bool.or_eq_true, Bool.and_eq_true, decide_eq_true_eq, beq_iff_eq, ge_iff_le,
      UInt32.le_iff_toNat_le, ← hv] at h
    change ((65 ≤ c.toNat ∧ c.toNat ≤ 90 ∨ 97 ≤ c.toNat ∧ c.toNat ≤ 122) ∨ 48 ≤ c.toNat ∧ c.toNat ≤ 57) ∨
      c = '_' at h
    rcases h with ((h | h) | h) | rfl
    · omega
    · omega
    · omega
    · decide
  constructor
  · simp only [isSpace, Bool.or_eq_false_iff, Bool.and_eq_false_iff, decide_eq_false_iff_not,
      beq_eq_false_iff_ne]
    omega
  · rintro rfl
    revert hr
    decide

theorem identStart_char (c : Char) (h : isIdentStart c = true) : isIdentChar c = true := by
  simp only [isIdentStart, isIdentChar, Char.isAlphanum, Bool.or_eq_true] at h ⊢
  rcases h with h | h
  · exact Or.inl (Or.inl h)
  · exact Or.inr h

theorem colon_not_space : isSpace ':' = false := by decide

theorem nsScan_skip (w : List Char) (hw : w.all isSpace = true) {acc : List Name} {t : List Char} :
    nsScan .lead acc (w ++ t) = nsScan .lead acc t ∧
    nsScan .sep acc (w ++ t) = nsScan .sep acc t ∧
    nsScan .trail acc (w ++ t) = nsScan .trail acc t := by
  induction w with
  | nil => simp
  | cons c cs ih =>
    simp only [List.all_cons, Bool.and_eq_true] at hw
    obtain ⟨i1, i2, i3⟩ := ih hw.2
    simp only [List.cons_append, nsScan, hw.1, if_true]
    exact ⟨i1, i2, i3⟩

theorem nsScan_ident (xs : List Char) (hx : xs.all isIdentChar = true) (cur : List Char)
    (acc : List Name) (t : List Char) :
    nsScan (.ident cur) acc (xs ++ t) = nsScan (.ident (xs.reverse ++ cur)) acc t := by
  induction xs generalizing cur with
  | nil => simp
  | cons c cs ih =>
    simp only [List.all_cons, Bool.and_eq_true] at hx
    simp only [List.cons_append, nsScan, hx.1, if_true]
    rw [ih hx.2]
    simp

theorem nsScan_start (n : Name) (hn : IsIdent n) {acc : List Name} {t : List Char} :
    nsScan .lead acc (n ++ t) = nsScan (.ident n.reverse) acc t ∧
    nsScan .sep acc (n ++ t) = nsScan (.ident n.reverse) acc t := by
  obtain ⟨c, cs, rfl, hc, hcs⟩ := hn
  have hp := identChar_props c (identStart_char c hc)
  have e : (c :: cs).reverse = cs.reverse ++ [c] := by simp
  simp only [List.cons_append, nsScan, hp.1, Bool.false_eq_true, if_false, hp.2, hc, if_true]
  rw [nsScan_ident cs hcs, e]
  exact ⟨rfl, rfl⟩

/-- One more component `:: ws ident ws`. -/
def nsTail : List (List Char × Name × List Char) → List Char
  | [] => []
  | (w1, n, w2) :: rest => ':' :: ':' :: (w1 ++ n ++ w2 ++ nsTail rest)

theorem nsScan_after {n : Name} {acc : List Name} (w : List Char) (hw : w.all isSpace = true)
    (rest : List (List Char × Name × List Char)) :
    nsScan (.ident n.reverse) acc (w ++ nsTail rest) = nsScan .trail (n :: acc) (nsTail rest) := by
  cases w with
  | nil =>
    have h1 : isIdentChar ':' = false := by decide
    cases rest <;> simp [nsTail, nsScan, h1, colon_not_space]
  | cons c cs =>
    simp only [List.all_cons, Bool.and_eq_true] at hw
    have hc : isIdentChar c = false := by
      cases h : isIdentChar c
      · rfl
      · have := (identChar_props c h).1; rw [hw.1] at this; cases this
    simp only [List.cons_append, nsScan, hc, Bool.false_eq_true, if_false, hw.1, if_true, List.reverse_reverse]
    exact (nsScan_skip cs hw.2).2.2

theorem nsScan_tail (rest : List (List Char × Name × List Char))
    (hr : ∀ p ∈ rest, p.1.all isSpace = true ∧ IsIdent p.2.1 ∧ p.2.2.all isSpace = true)
    (acc : List Name) :
    nsScan .trail acc (nsTail rest) = some (acc.reverse ++ rest.map (·.2.1)) := by
  induction rest generalizing acc with
  | nil => simp [nsTail, nsScan]
  | cons p ps ih =>
    obtain ⟨w1, n, w2⟩ := p
    obtain ⟨h1, h2, h3⟩ := hr (w1, n, w2) (List.mem_cons_self ..)
    simp only at h1 h2 h3
    simp only [nsTail, nsScan, colon_not_space, Bool.false_eq_true, if_false, if_true]
    rw [List.append_assoc, List.append_assoc, (nsScan_skip w1 h1).2.1, (nsScan_start n h2).2,
      nsScan_after w2 h3 ps, ih (fun q hq => hr q (List.mem_cons_of_mem _ hq))]
    simp

/-- The optional leading `::` (followed by blanks). -/
def nsLead : Option (List Char) → List Char
  | some w1 => ':' :: ':' :: w1
  | none => []

/-- **Completeness of the scanner**: every text of the documented shape
`ws [:: ws] ident ws (:: ws ident ws)*` is accepted, with exactly its identifiers. -/
theorem nsParse_complete (w0 : List Char) (lead : Option (List Char)) (n : Name) (w2 : List Char)
    (rest : List (List Char × Name × List Char))
    (h0 : w0.all isSpace = true) (hl : ∀ w1, lead = some w1 → w1.all isSpace = true)
    (hn : IsIdent n) (h2 : w2.all isSpace = true)
    (hr : ∀ p ∈ rest, p.1.all isSpace = true ∧ IsIdent p.2.1 ∧ p.2.2.all isSpace = true) :
    nsParse (w0 ++ nsLead lead ++ n ++ w2 ++ nsTail rest) =
      some (n :: rest.map (·.2.1)) := by
  unfold nsParse
  have fin : ∀ acc, nsScan (.ident n.reverse) acc (w2 ++ nsTail rest) =
      some ((n :: acc).reverse ++ rest.map (·.2.1)) := by
    intro acc
    rw [nsScan_after w2 h2 rest, nsScan_tail rest hr]
  cases lead with
  | none =>
    simp only [nsLead, List.append_nil]
    rw [List.append_assoc, List.append_assoc, (nsScan_skip w0 h0).1, (nsScan_start n hn).1, fin]
    simp
  | some w1 =>
    have hw1 := hl w1 rfl
    rw [List.append_assoc, List.append_assoc, List.append_assoc, (nsScan_skip w0 h0).1]
    simp only [nsLead, List.cons_append, nsScan, colon_not_space, Bool.false_eq_true, if_false, if_true]
    rw [(nsScan_skip w1 hw1).2.1, (nsScan_start n hn).2, fin]
    simp

theorem verifyNamespace_eq_ok (rw : List String) (text : List Char) (cs : List Name) :
    verifyNamespace rw text = .ok cs ↔ nsParse text = some cs ∧ ∀ c ∈ cs, String.ofList c ∉ rw := by
  unfold verifyNamespace
  cases nsParse text with
  | none =>
    refine iff_of_false ?_ nofun
    dsimp only
    split
    · nofun
    · split <;> nofun
  | some ds =>
    simp only [Option.some.injEq]
    split <;> rename_i h <;> simp only [List.filter_eq_nil_iff, List.contains_eq_mem, decide_eq_true_eq] at h
    · exact ⟨fun e => NsVerdict.ok.inj e ▸ ⟨rfl, h⟩, fun e => e.1 ▸ rfl⟩
    · exact iff_of_false nofun fun e => h (e.1 ▸ e.2)

end Emboss.Names
