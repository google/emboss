/-
Write inference.  First half: the inverse expression is an algebraic inverse over ℤ, and
`invert` succeeds exactly on the ADD/SUB fragment with one field reference; then `viaTarget_eq`,
what an alias or transform write method says about its target.  Second half: the
generated C++ evaluates the inverse of a transform virtual field exactly: inside the virtual
field's own value range (which `CouldWriteValue` checks first) every node of the inverse
stays inside the bounds the front end computed for it, so none of `MaybeDo`'s conversions
changes a value and no signed operation overflows; and the comparisons of the range check
itself are evaluated in the parameter type, which holds both operands (so no negative value is
ever converted to an unsigned type).
-/
import Emboss.Spec.WriteInference
import Emboss.Lemmas.CppInt
namespace Emboss.WInf
open Emboss.WInf.Spec Emboss.CppInt

/-! ## The inverse over ℤ -/

/-! ### `find`: reference count and path -/

theorem finish_fst (acc : Nat × List Nat) : (finish acc).1 = acc.1 := by
  unfold finish; split <;> rfl

theorem find_fst (e : Expr) : (find e).1 = refCount e := by
  induction e with
  | const | ref | logical | leaf => rfl
  | un _ a ih => simp only [find, finish_fst, step, refCount, ih, Nat.zero_add]
  | bin _ a b iha ihb => simp only [find, finish_fst, step, refCount, iha, ihb, Nat.zero_add]
  | tern _ a b c iha ihb ihc =>
    simp only [find, finish_fst, step, refCount, iha, ihb, ihc, Nat.zero_add]

theorem finish_eq_one {acc : Nat × List Nat} {p : List Nat} : finish acc = (1, p) ↔ acc = (1, p) := by
  unfold finish
  split
  · rfl
  · rename_i hn
    exact ⟨fun h => absurd (congrArg Prod.fst h) hn, fun h => absurd (congrArg Prod.fst h) hn⟩

theorem step_eq_one {acc r : Nat × List Nat} {i : Nat} {p : List Nat} :
    step acc i r = (1, p) ↔
      (acc = (1, p) ∧ r.1 = 0) ∨ (acc.1 = 0 ∧ ∃ q, r = (1, q) ∧ p = i :: q) := by
  obtain ⟨c, q⟩ := r
  obtain ⟨n, l⟩ := acc
  simp only [step, Prod.mk.injEq]
  constructor
  · rintro ⟨hc, hp⟩
    split at hp
    · rename_i h1; exact .inr ⟨h1.2, q, ⟨h1.1, rfl⟩, hp.symm⟩
    · exact .inl ⟨⟨by omega, hp⟩, by omega⟩
  · rintro (⟨⟨rfl, rfl⟩, rfl⟩ | ⟨rfl, _, ⟨rfl, rfl⟩, rfl⟩) <;> simp

theorem find_bin {op : Op} {a b : Expr} {p : List Nat} :
    find (.bin op a b) = (1, p) ↔
      ((∃ q, find a = (1, q) ∧ p = 0 :: q) ∧ refCount b = 0) ∨
        (refCount a = 0 ∧ ∃ q, find b = (1, q) ∧ p = 1 :: q) := by
  simp only [find, finish_eq_one, step_eq_one, Prod.mk.injEq, Nat.zero_ne_one, false_and, find_fst,
    true_and, false_or, show ∀ r, (step (0, []) 0 r).1 = r.1 from fun _ => Nat.zero_add _]

theorem find_nil {e : Expr} (h : find e = (1, [])) : ∃ x, e = .ref x := by
  cases e with
  | ref x => exact ⟨x, rfl⟩
  | const | logical | leaf => cases h
  | un | bin | tern =>
    -- a path recorded by an iteration starts with the iteration's index
    simp only [find, finish_eq_one, step_eq_one, Prod.mk.injEq, Nat.zero_ne_one, false_and,
      reduceCtorEq, and_false, exists_const, or_self] at h

/-! ### Evaluation -/

theorem eval_env_irrel {e : Expr} (h : refCount e = 0) {env : Nat → Int} {lv y : Int}
    (hy : eval env lv e = some y) (env' : Nat → Int) : eval env' lv e = some y := by
  rw [← hy]; clear hy
  induction e with
  | const | logical | leaf | un | tern => rfl
  | ref => cases h
  | bin op a b iha ihb =>
    have hab := Nat.add_eq_zero_iff.mp h
    cases op <;> simp only [eval, iha hab.1, ihb hab.2]

theorem eval_closed (e : Expr) (h : isClosed e = true) (env env' : Nat → Int) (lv lv' : Int) :
    eval env lv e = eval env' lv' e := by
  induction e with
  | const | leaf | un | tern => rfl
  | ref | logical => cases h
  | bin op a b iha ihb =>
    have hab := Bool.and_eq_true_iff.mp h
    cases op <;> simp only [eval, iha hab.1, ihb hab.2]

theorem constVal_eval {e : Expr} {c : Int} (h : constVal e = some c) (env : Nat → Int) (lv : Int) :
    eval env lv e = some c := by
  unfold constVal at h
  split at h
  · rename_i hc; rw [eval_closed e hc env (fun _ => 0) lv 0]; exact h
  · cases h

theorem eval_add {env : Nat → Int} {lv q : Int} {a b : Expr} :
    eval env lv (.bin .add a b) = some q ↔
      ∃ x, eval env lv a = some x ∧ ∃ y, eval env lv b = some y ∧ x + y = q := by
  simp only [eval, Option.bind_eq_bind, Option.bind_eq_some_iff, Option.pure_def,
    Option.some.injEq]

theorem eval_sub {env : Nat → Int} {lv q : Int} {a b : Expr} :
    eval env lv (.bin .sub a b) = some q ↔
      ∃ x, eval env lv a = some x ∧ ∃ y, eval env lv b = some y ∧ x - y = q := by
  simp only [eval, Option.bind_eq_bind, Option.bind_eq_some_iff, Option.pure_def,
    Option.some.injEq]

/-! ### The inversion loop -/

/-- Invariant of the loop of `_invert_expression` along the path `find` computed: it ends at
a field reference `x`, the expression walked is in the invertible fragment, the inverse
mentions no field beyond those of the accumulated result, and whenever the inverse evaluates
(to `a`) so does the accumulated result, to the value the walked expression takes once `x`
holds `a`. -/
theorem invertAux_spec {path : List Nat} {sub res r inv : Expr} (hf : find sub = (1, path))
    (h : invertAux path sub res = some (r, inv)) :
    ∃ x, r = .ref x ∧ Invertible sub x ∧ (refCount res = 0 → refCount inv = 0) ∧
      ∀ (env : Nat → Int) (lv a : Int), eval env lv inv = some a →
        ∃ q, eval env lv res = some q ∧ eval (update env x a) lv sub = some q := by
  induction path generalizing sub res with
  | nil =>
    obtain ⟨x, rfl⟩ := find_nil hf
    cases h
    exact ⟨x, rfl, .ref x, id, fun env lv a hev => ⟨a, hev, by simp [eval, update]⟩⟩
  | cons i rest ih =>
    cases sub with
    | bin op s0 s1 =>
      rcases find_bin.mp hf with ⟨⟨_, hf0, ⟨⟩⟩, hc1⟩ | ⟨hc0, _, hf1, ⟨⟩⟩
      · cases op with
        | add =>
          -- `s0 + s1 = res` is solved by `s0 = res - s1`
          obtain ⟨x, hx, hi, hfree, hev⟩ := ih hf0 h
          refine ⟨x, hx, .addL hi hc1, fun h0 => hfree (by simp only [refCount, h0, hc1]),
            fun env lv a ha => ?_⟩
          obtain ⟨_, hq', hs0⟩ := hev env lv a ha
          obtain ⟨q, hq, y, hy, rfl⟩ := eval_sub.mp hq'
          exact ⟨q, hq, eval_add.mpr
            ⟨_, hs0, y, eval_env_irrel hc1 hy _, by omega⟩⟩
        | sub =>
          -- `s0 - s1 = res` is solved by `s0 = res + s1`
          obtain ⟨x, hx, hi, hfree, hev⟩ := ih hf0 h
          refine ⟨x, hx, .subL hi hc1, fun h0 => hfree (by simp only [refCount, h0, hc1]),
            fun env lv a ha => ?_⟩
          obtain ⟨_, hq', hs0⟩ := hev env lv a ha
          obtain ⟨q, hq, y, hy, rfl⟩ := eval_add.mp hq'
          exact ⟨q, hq, eval_sub.mpr
            ⟨_, hs0, y, eval_env_irrel hc1 hy _, by omega⟩⟩
        | mul | other => cases h
      · cases op with
        | add =>
          -- `s0 + s1 = res` is solved by `s1 = res - s0`
          obtain ⟨x, hx, hi, hfree, hev⟩ := ih hf1 h
          refine ⟨x, hx, .addR hc0 hi, fun h0 => hfree (by simp only [refCount, h0, hc0]),
            fun env lv a ha => ?_⟩
          obtain ⟨_, hq', hs1⟩ := hev env lv a ha
          obtain ⟨q, hq, y, hy, rfl⟩ := eval_sub.mp hq'
          exact ⟨q, hq, eval_add.mpr
            ⟨y, eval_env_irrel hc0 hy _, _, hs1, by omega⟩⟩
        | sub =>
          -- `s0 - s1 = res` is solved by `s1 = s0 - res`
          obtain ⟨x, hx, hi, hfree, hev⟩ := ih hf1 h
          refine ⟨x, hx, .subR hc0 hi, fun h0 => hfree (by simp only [refCount, h0, hc0]),
            fun env lv a ha => ?_⟩
          obtain ⟨_, hq', hs1⟩ := hev env lv a ha
          obtain ⟨y, hy, q, hq, rfl⟩ := eval_sub.mp hq'
          exact ⟨q, hq, eval_sub.mpr
            ⟨y, eval_env_irrel hc0 hy _, _, hs1, by omega⟩⟩
        | mul | other => cases h
    | const | ref | logical | leaf | un | tern => cases h

theorem invertible_invertAux {e : Expr} {x : Nat} (hi : Invertible e x) :
    ∃ path, find e = (1, path) ∧ ∀ res, ∃ inv, invertAux path e res = some (.ref x, inv) := by
  induction hi with
  | ref x => exact ⟨[], rfl, fun res => ⟨res, rfl⟩⟩
  | addL _ hb ih | subL _ hb ih =>
    obtain ⟨pa, hfa, hinv⟩ := ih
    exact ⟨0 :: pa, find_bin.mpr (.inl ⟨⟨pa, hfa, rfl⟩, hb⟩), fun res => hinv _⟩
  | addR ha _ ih | subR ha _ ih =>
    obtain ⟨pb, hfb, hinv⟩ := ih
    exact ⟨1 :: pb, find_bin.mpr (.inr ⟨ha, pb, hfb, rfl⟩), fun res => hinv _⟩

/-! ### `invert` -/

theorem invert_eq_some {e : Expr} {out : Expr × Expr} :
    invert e = some out ↔
      ∃ path, find e = (1, path) ∧ invertAux path e .logical = some out := by
  unfold invert findPath
  constructor
  · intro h
    split at h
    · cases h
    · rename_i path hp
      split at hp
      · rename_i h1; cases hp; exact ⟨_, by rw [← h1], h⟩
      · cases hp
  · rintro ⟨path, hf, h⟩
    simp only [hf, if_true, h]

theorem invert_spec {e r inv : Expr} (h : invert e = some (r, inv)) :
    ∃ x, r = .ref x ∧ Invertible e x ∧ refCount inv = 0 ∧
      ∀ (env : Nat → Int) (v a : Int), eval env v inv = some a →
        eval (update env x a) v e = some v := by
  obtain ⟨path, hf, h⟩ := invert_eq_some.mp h
  obtain ⟨x, hx, hi, hfree, hev⟩ := invertAux_spec hf h
  refine ⟨x, hx, hi, hfree rfl, fun env v a ha => ?_⟩
  obtain ⟨q, hq, hs⟩ := hev env v a ha
  cases hq
  exact hs

theorem invert_isSome_iff (e : Expr) :
    (∃ x inv, invert e = some (.ref x, inv)) ↔ ∃ x, Invertible e x := by
  constructor
  · rintro ⟨_, inv, h⟩
    obtain ⟨x, _, hi, _⟩ := invert_spec h
    exact ⟨x, hi⟩
  · rintro ⟨x, hi⟩
    obtain ⟨path, hf, hinv⟩ := invertible_invertAux hi
    obtain ⟨inv, h⟩ := hinv .logical
    exact ⟨x, inv, invert_eq_some.mpr ⟨path, hf, h⟩⟩

/-! ## Write methods -/

theorem viaTarget_eq {fields : List Field} {tm : Nat → WriteMethod} {x : Nat}
    {result out : WriteMethod} (h : viaTarget fields tm x result = out) (h1 : out ≠ .readOnly)
    (h2 : out ≠ .outOfFuel) :
    out = result ∧ x < fields.length ∧ tm x ≠ .readOnly ∧ tm x ≠ .outOfFuel := by
  unfold viaTarget at h
  split at h
  · exact absurd h.symm h1
  · rename_i hfx
    split at h
    · exact absurd h.symm h1
    · exact absurd h.symm h2
    · rename_i hn1 hn2
      exact ⟨h.symm, (List.getElem?_eq_some_iff.mp hfx).1, hn1, hn2⟩

/-! ## The inverse and the range check as the generated C++ evaluates them -/

/-! ### The four types of `_cpp_integer_type_for_range` -/

/-- The candidates of `typeForRange`; `(typeForRange_sound h).1` proves it. -/
def Four (t : IntTy) : Prop := t = i32 ∨ t = u32 ∨ t = i64 ∨ t = u64

theorem four_bits_pos {t : IntTy} (h : Four t) : 0 < t.bits := by
  rcases h with rfl | rfl | rfl | rfl <;> decide

theorem wrap_of_typeForRange {lo hi : Int} {t : IntTy} (h : typeForRange lo hi = some t)
    {z : Int} (h1 : lo ≤ z) (h2 : z ≤ hi) : wrap t z = z :=
  wrap_of_holds t z (four_bits_pos (typeForRange_sound h).1) ((typeForRange_sound h).2 h1 h2)

/-! ### One node of the inverse (the induction over the nodes is `C03_inverse_cpp_exact`) -/

theorem imin_le (a b : Int) : imin a b ≤ a ∧ imin a b ≤ b := by unfold imin; split <;> omega

theorem le_imax (a b : Int) : a ≤ imax a b ∧ b ≤ imax a b := by unfold imax; split <;> omega

/-- One `MaybeDo` node: operands inside their ranges, the exact result `z` inside the node's
range ⇒ the C++ result is the exact result (`IntermediateT` covers the hull of the three
ranges, so no conversion changes a value and the operation does not overflow). -/
theorem cppOp_exact {isAdd : Bool} {r ra rb : Rng} {va vb z : Int} {it rt : IntTy}
    (hit : intermediateT r ra rb = some it) (hrt : typeForRange r.lo r.hi = some rt)
    (ha : ra.lo ≤ va ∧ va ≤ ra.hi) (hb : rb.lo ≤ vb ∧ vb ≤ rb.hi)
    (hz : z = if isAdd then va + vb else va - vb) (hr : r.lo ≤ z ∧ z ≤ r.hi) :
    cppOp isAdd r ra rb va vb = .ok z := by
  have h1 := imin_le r.lo (imin ra.lo rb.lo)
  have h2 := imin_le ra.lo rb.lo
  have h3 := le_imax r.hi (imax ra.hi rb.hi)
  have h4 := le_imax ra.hi rb.hi
  have hw : ∀ {u : Int}, (r.lo ≤ u ∧ u ≤ r.hi) ∨ (ra.lo ≤ u ∧ u ≤ ra.hi) ∨ (rb.lo ≤ u ∧ u ≤ rb.hi) →
      it.holds u = true ∧ wrap it u = u := fun hu =>
    ⟨(typeForRange_sound hit).2 (by omega) (by omega),
      wrap_of_typeForRange hit (by omega) (by omega)⟩
  unfold cppOp
  simp only [hit, hrt, (hw (.inr (.inl ha))).2, (hw (.inr (.inr hb))).2, ← hz,
    (hw (.inl hr)).1, (hw (.inl hr)).2, wrap_of_typeForRange hrt hr.1 hr.2, Bool.not_true,
    Bool.and_false, Bool.false_eq_true, if_false]

theorem literal_ok {c : Int} (h : (typeForRange c c).isSome = true) : literal c = .ok c := by
  obtain ⟨t, ht⟩ := Option.isSome_iff_exists.mp h
  simp only [literal, ht]

/-! ### The comparisons of the range check

`cppLt_exact` is the general fact about the generated comparison: for any two of the four types it
is the comparison of the values unless a negative operand is converted to an unsigned common
type.  The range check compares a value of the parameter type with the literal of a bound; there
the common type is the parameter type itself (`literal_type`), and `cppLt_literal` needs no
argument about signs. -/

theorem commonType_range {ta tb : IntTy} (ha : Four ta) (hb : Four tb) :
    0 < (commonType ta tb).bits ∧
    ta.maxVal ≤ (commonType ta tb).maxVal ∧ tb.maxVal ≤ (commonType ta tb).maxVal ∧
    ((commonType ta tb).signed = true →
      (commonType ta tb).minVal ≤ ta.minVal ∧ (commonType ta tb).minVal ≤ tb.minVal) := by
  rcases ha with rfl | rfl | rfl | rfl <;> rcases hb with rfl | rfl | rfl | rfl <;>
    decide +kernel

theorem common_holds {ta tb t : IntTy} (hta : Four ta) (htb : Four tb) (ht : t = ta ∨ t = tb)
    {z : Int} (hz : t.holds z = true) (hs : 0 ≤ z ∨ (commonType ta tb).signed = true) :
    (commonType ta tb).holds z = true := by
  obtain ⟨_, h1, h2, h3⟩ := commonType_range hta htb
  rw [holds_iff] at hz ⊢
  cases hsg : (commonType ta tb).signed with
  | true => have := h3 hsg; rcases ht with rfl | rfl <;> omega
  | false =>
    have h0 : (commonType ta tb).minVal = 0 := by simp only [IntTy.minVal, hsg, Bool.false_eq_true, if_false]
    have hz0 : 0 ≤ z := hs.resolve_right (by simp only [hsg, Bool.false_eq_true, not_false_eq_true])
    rcases ht with rfl | rfl <;> omega

theorem cppLt_exact {ta tb : IntTy} (hta : Four ta) (htb : Four tb) {a b : Int}
    (ha : ta.holds a = true) (hb : tb.holds b = true)
    (hs : (0 ≤ a ∧ 0 ≤ b) ∨ (commonType ta tb).signed = true) :
    cppLt ta a tb b = decide (a < b) := by
  have hbits := (commonType_range hta htb).1
  unfold cppLt
  rw [wrap_of_holds _ a hbits (common_holds hta htb (.inl rfl) ha (hs.imp_left And.left)),
    wrap_of_holds _ b hbits (common_holds hta htb (.inr rfl) hb (hs.imp_left And.right))]

/-- The literal of a value of `t` has a type that does not outrank `t`: `typeForRange` takes the
first of `int32_t`, `uint32_t`, `int64_t`, `uint64_t` that fits, and `t` fits. -/
theorem literal_type {t : IntTy} (h4 : Four t) {z : Int} (hz : t.holds z = true) :
    ∃ t', typeForRange z z = some t' ∧ commonType t t' = t ∧ commonType t' t = t := by
  unfold typeForRange
  by_cases c1 : z ≥ -2147483648 ∧ z ≤ 2147483647
  · exact ⟨i32, if_pos c1, by rcases h4 with rfl | rfl | rfl | rfl <;> exact ⟨rfl, rfl⟩⟩
  rw [if_neg c1]
  rcases h4 with rfl | h4
  · exact absurd ((holds_i32_iff z).mp hz) c1
  by_cases c2 : z ≥ 0 ∧ z ≤ 4294967295
  · exact ⟨u32, if_pos c2, by rcases h4 with rfl | rfl | rfl <;> exact ⟨rfl, rfl⟩⟩
  rw [if_neg c2]
  rcases h4 with rfl | h4
  · exact absurd ((holds_u32_iff z).mp hz) c2
  by_cases c3 : z ≥ -9223372036854775808 ∧ z ≤ 9223372036854775807
  · exact ⟨i64, if_pos c3, by rcases h4 with rfl | rfl <;> exact ⟨rfl, rfl⟩⟩
  rw [if_neg c3]
  rcases h4 with rfl | rfl
  · exact absurd ((holds_i64_iff z).mp hz) c3
  · exact ⟨u64, if_pos ((holds_u64_iff z).mp hz), rfl, rfl⟩

theorem cppLt_literal {t : IntTy} (h4 : Four t) {b v : Int} (hb : t.holds b = true)
    (hv : t.holds v = true) :
    ∃ t', typeForRange b b = some t' ∧ cppLt t v t' b = decide (v < b) ∧
      cppLt t' b t v = decide (b < v) := by
  obtain ⟨t', ht', h1, h2⟩ := literal_type h4 hb
  have hp := four_bits_pos h4
  refine ⟨t', ht', ?_⟩
  unfold cppLt
  rw [h1, h2, wrap_of_holds t v hp hv, wrap_of_holds t b hp hb]
  exact ⟨rfl, rfl⟩

end Emboss.WInf
