/-
C04 (arithmetic half): literals, casts and operations of the C++ evaluation model succeed on
values that lie in gate-accepted, sound annotations; hence on every gate-accepted expression the
model agrees with unbounded-ℤ evaluation or the header does not compile (`Good`; mutual induction
over expressions / argument lists).
-/
import Emboss.Lemmas.BoundsSound
import Emboss.Lemmas.BoundsGate
namespace Emboss.Bounds
open ExtInt

/-! ### The bounds model: what `annot` puts at the root, bound functions, `$max` operands -/

/-- Every clause of `annot` matches on `abs` of the node and puts its value at the root. -/
theorem annot_abs {e : Expr} {t : ATree} : annot e = some t → abs e = some t.ty := by
  fun_cases annot e <;> intro h <;> cases h <;> assumption

theorem annotList_abs : ∀ {es : List Expr} {ts : List ATree},
    annotList es = some ts → absList es = some (argTys ts)
  | [], ts, h => by simp only [annotList, Option.some.injEq] at h; subst h; rfl
  | e :: es, ts, h => by
    simp only [annotList] at h
    split at h <;> try cases h
    rename_i a l ha hl
    simp [absList, annot_abs ha, annotList_abs hl, argTys]

theorem boundFn_const_or_unbounded (up : Bool) (a : AVal) :
    (boundFn up a).modulus = .inf ∨ (boundFn up a).min = .negInf := by
  fun_cases boundFn up a
  · exact Or.inr rfl
  · exact Or.inl rfl

theorem absBound_isConst {up : Bool} {a ty : AType} (h : absBound up a = some ty) (hown : OwnOk ty) :
    isConstType ty = true := by
  cases a with
  | int a =>
    simp only [absBound, Option.some.injEq] at h
    subst h
    rcases boundFn_const_or_unbounded up a with hm | hm
    · simp [isConstType, hm]
    · obtain ⟨lo, hi, h1, -, -⟩ := hown _ rfl
      rw [hm] at h1; cases h1
  | _ => cases h

theorem cvInts_map_val : ∀ (vs : List CVal), cvInts (vs.map .val) = valsInts vs
  | [] => rfl
  | v :: vs => by
    cases v <;> simp [cvInts, valsInts, cvInts_map_val vs]

/-! ### What an accepting gate and soundness give at a node -/

theorem Gamma.range {a : AVal} {n : Int} {p : Int × Int} (hg : Gamma a n) (hr : rangeOf a = some p) :
    p.1 ≤ n ∧ n ≤ p.2 := by
  obtain ⟨g1, g2, -⟩ := hg
  unfold rangeOf at hr
  split at hr <;> cases hr
  rename_i h1 h2
  rw [h1] at g1; rw [h2] at g2
  exact ⟨g1, g2⟩

theorem OwnOk.range {a : AVal} (ho : OwnOk (.int a)) :
    ∃ lo hi rt, rangeOf a = some (lo, hi) ∧ cppTypeForRange lo hi = some rt := by
  obtain ⟨lo, hi, h1, h2, h3⟩ := ho a rfl
  obtain ⟨rt, hrt⟩ := cppTypeForRange_exists h3
  exact ⟨lo, hi, rt, by rw [rangeOf, h1, h2], hrt⟩

/-- what `gate_one_type` (BoundsGate) concludes of the clause types of an accepted run-time operation -/
def OneType (tys : List AType) : Prop :=
  ∃ rs, intRanges tys = some rs ∧
    (hullOf rs = none ∨
     ∃ lo hi it, hullOf rs = some (lo, hi) ∧ cppTypeForRange lo hi = some it ∧
       ∀ p ∈ rs, it.lo ≤ p.1 ∧ p.2 ≤ it.hi)

theorem annot_sound {ρ : Env} {e : Expr} {t : ATree} {v : CVal} (hann : annot e = some t)
    (henv : EnvOk ρ e) (hev : eval ρ e = some v) : GammaT t.ty v :=
  (sound_aux ρ e henv v hev).1 _ (annot_abs hann)

/-! ### The steps of the C++ evaluation succeed on such values -/

theorem fitsT_of {it : CType} {lo hi n : Int} (h : it.lo ≤ lo ∧ hi ≤ it.hi) (hn : lo ≤ n ∧ n ≤ hi) :
    fitsT it n = true := by
  simp only [fitsT, Bool.and_eq_true, decide_eq_true_eq]; omega

theorem cppLiteral_ok {ty : AType} {v : CVal} (hg : GammaT ty v) (hc : isConstType ty = true)
    (ho : OwnOk ty) : cppLiteral ty = .ok v := by
  cases ty with
  | int a =>
    obtain ⟨n, rfl, hn⟩ := GammaT_int_inv hg
    obtain ⟨lo, hi, rt, hr, hrt⟩ := ho.range
    have hmv := hn.const (by simpa [isConstType] using hc)
    -- the literal's own type exists because the value fits the node's `ResultT`
    obtain ⟨t, ht⟩ := cppTypeForRange_of_within (t := rt)
      ⟨Int.le_trans (cppTypeForRange_contains hrt).1 (hn.range hr).1,
        Int.le_trans (hn.range hr).2 (cppTypeForRange_contains hrt).2⟩
    simp only [cppLiteral, hmv, ht]
  | bool ob | enum ob =>
    cases v <;> simp only [GammaT] at hg
    cases ob with
    | none => cases hc
    | some b => rw [hg b rfl]; rfl

theorem castResult_ok {ty : AType} {v : CVal} (hg : GammaT ty v) (ho : OwnOk ty) :
    castResult ty v = .ok v := by
  cases ty with
  | int a =>
    obtain ⟨n, rfl, hn⟩ := GammaT_int_inv hg
    obtain ⟨lo, hi, rt, hr, hrt⟩ := ho.range
    simp only [castResult, hr, hrt, fitsT_of (cppTypeForRange_contains hrt) (hn.range hr), if_true]
  | _ => cases v <;> first | rfl | exact hg.elim

/-- each value lies in the range `intRanges` records for its clause (`Gamma.range`), so a type that
    contains all recorded ranges takes every cast -/
theorem all_castOk {it : CType} {tys : List AType} {vs : List CVal} (h : Forall2 GammaT tys vs) :
    ∀ {rs : List (Int × Int)}, intRanges tys = some rs → (∀ p ∈ rs, it.lo ≤ p.1 ∧ p.2 ≤ it.hi) →
      vs.all (castOk it) = true := by
  induction h with
  | nil => exact fun _ _ => rfl
  | @cons ty v _ _ hg _ ih =>
    intro rs hrs hit
    rw [List.all_cons, Bool.and_eq_true]
    cases ty with
    | int a =>
      obtain ⟨n, rfl, hn⟩ := GammaT_int_inv hg
      simp only [intRanges] at hrs
      split at hrs <;> try cases hrs
      rename_i p l hp hl
      exact ⟨fitsT_of (hit p List.mem_cons_self) (hn.range hp),
        ih hl fun q hq => hit q (List.mem_cons_of_mem _ hq)⟩
    | _ => exact ⟨by cases v <;> first | rfl | exact hg.elim, ih hrs hit⟩

theorem cppOp_ok {ty : AType} {atys : List AType} {vs : List CVal} {v : CVal}
    (h1 : OneType (ty :: atys)) (hown : OwnOk ty)
    (hg : GammaT ty v) (hgs : Forall2 GammaT atys vs) :
    cppOp (ty :: atys) vs (some v) = .ok v := by
  obtain ⟨rs, hrs, hh⟩ := h1
  have hres := castResult_ok hg hown
  simp only [cppOp, hrs]
  rcases hh with hh | ⟨lo, hi, it, hh, hit, hc⟩
  · simp only [hh, hres]
  · have ha := all_castOk (.cons hg hgs) hrs hc
    rw [List.all_cons, Bool.and_eq_true] at ha
    simp only [hh, hit, ha.1, ha.2, hres, Bool.not_true, Bool.false_eq_true, if_false]

/-- the outcomes `C04_no_overflow` allows: the exact value, or a header that does not compile -/
abbrev Good (r : CRes) (v : CVal) : Prop := r = .ok v ∨ r = .staticAssert

theorem cppChoice_ok {ty : AType} {atys : List AType} {v : CVal}
    (h1 : OneType (ty :: atys)) (hown : OwnOk ty) (hg : GammaT ty v) :
    Good (cppChoice (ty :: atys) v) v := by
  obtain ⟨rs, hrs, hh⟩ := h1
  have hres := castResult_ok hg hown
  simp only [cppChoice, hrs]
  rcases hh with hh | ⟨lo, hi, it, hh, hit, hc⟩
  · simp only [hh, hres]
    exact Or.inl rfl
  · simp only [hh, hit]
    cases ty with
    | int a =>
      obtain ⟨lo', hi', rt, hr, hrt⟩ := hown.range
      simp only [resultType, hr, hrt]
      split
      · exact Or.inr rfl
      · exact Or.inl hres
    | _ => exact Or.inr rfl

theorem withType_ok {oty : Option AType} {ty : AType} {k : AType → CRes} {v : CVal}
    (habs : oty = some ty) (hown : OwnOk ty) (hg : GammaT ty v)
    (hk : isConstType ty = false → Good (k ty) v) : Good (withType oty k) v := by
  subst habs
  simp only [withType]
  cases hc : isConstType ty
  · simpa using hk hc
  · simp only [if_true]; exact Or.inl (cppLiteral_ok hg hc hown)

theorem maxVals_eq {vs : List CVal} {l : List Int} {m : Int}
    (hl : valsInts vs = some l) (hm : listMax l = some m) : maxVals vs = some (.int m) := by
  simp only [maxVals, cvInts_map_val, hl]
  rw [← listMax_eq_maxInts, hm]; rfl

mutual
theorem no_overflow_aux (ρ : Env) (e : Expr) (t : ATree) (v : CVal)
    (hann : annot e = some t) (hg : gate t = some []) (henv : EnvOk ρ e) (hev : eval ρ e = some v)
    (hv : vrefsGated e = true) : Good (cppEval ρ e) v := by
  have habs := annot_abs hann
  have hgam := annot_sound hann henv hev
  have hown := gate_own hg
  cases e with
  | const c =>
    simp only [abs, Option.some.injEq] at habs
    rw [← habs] at hgam hown
    exact Or.inl (cppLiteral_ok hgam (by simp [isConstType, constRange]) hown)
  | bconst _ | econst _ | ssize _ | bleaf _ | eleaf _ =>
    simp only [eval, Option.some.injEq] at hev; subst hev; exact Or.inl rfl
  | ileaf _ _ _ | given _ _ =>
    refine withType_ok habs hown hgam (fun _ => ?_)
    simp only [eval, Option.some.injEq] at hev; subst hev; exact Or.inl rfl
  -- bounds and constant references are literals, never computed
  | upper e | lower e =>
    refine withType_ok habs hown hgam (fun hnc => ?_)
    simp only [abs] at habs
    split at habs <;> try cases habs
    rw [absBound_isConst habs hown] at hnc; cases hnc
  | cref e =>
    simp only [abs] at habs
    refine withType_ok habs hown hgam (fun hnc => ?_)
    simp only [annot] at hann
    split at hann <;> try cases hann
    split at hann <;> cases hann
    rename_i hc
    cases hc.symm.trans hnc
  | bin op l r =>
    have hv : vrefsGated l = true ∧ vrefsGated r = true := Bool.and_eq_true _ _ ▸ hv
    refine withType_ok habs hown hgam (fun hnc => ?_)
    simp only [annot] at hann
    split at hann <;> try cases hann
    rename_i ty a b hty ha hb
    obtain ⟨hgates, h1⟩ := gate_one_type hg hnc
    obtain ⟨vl, vr, hvl, hvr, hev⟩ := eval_bin_some hev
    have ga := hgates a List.mem_cons_self
    have gb := hgates b (List.mem_cons_of_mem _ List.mem_cons_self)
    have ihl := no_overflow_aux ρ l a vl ha ga henv.1 hvl hv.1
    have ihr := no_overflow_aux ρ r b vr hb gb henv.2 hvr hv.2
    have gl := annot_sound ha henv.1 hvl
    have gr := annot_sound hb henv.2 hvr
    rw [annot_abs ha, annot_abs hb]
    rcases ihl with hl' | hl' <;> rw [hl']
    · rcases ihr with hr' | hr' <;> rw [hr']
      · dsimp only
        rw [applyBin_eq_evalBin, hev]
        exact Or.inl (cppOp_ok h1 hown hgam (.cons gl (.cons gr .nil)))
      · exact Or.inr rfl
    · exact Or.inr rfl
  | choice c tt ff =>
    have hv : (vrefsGated c && vrefsGated tt && vrefsGated ff) = true := hv
    simp only [Bool.and_eq_true] at hv
    refine withType_ok habs hown hgam (fun hnc => ?_)
    simp only [annot] at hann
    split at hann <;> try cases hann
    rename_i ty a b d hty ha hb hd
    obtain ⟨hgates, h1⟩ := gate_one_type hg hnc
    obtain ⟨bb, x, y, hc, hx, hy, rfl⟩ := eval_choice_some hev
    have ihc := no_overflow_aux ρ c a _ ha (hgates a (by simp)) henv.1 hc hv.1.1
    have iht := no_overflow_aux ρ tt b _ hb (hgates b (by simp)) henv.2.1 hx hv.1.2
    have ihf := no_overflow_aux ρ ff d _ hd (hgates d (by simp)) henv.2.2 hy hv.2
    rw [annot_abs ha, annot_abs hb, annot_abs hd]
    -- the first operand that does not compile decides; otherwise `Choice` is applied
    rcases ihc with hc' | hc' <;> rw [hc']
    · rcases iht with ht' | ht' <;> rw [ht']
      · rcases ihf with hf' | hf' <;> rw [hf']
        · exact cppChoice_ok h1 hown hgam
        · exact Or.inr rfl
      · exact Or.inr rfl
    · exact Or.inr rfl
  | max args =>
    have hv : vrefsGatedList args = true := hv
    refine withType_ok habs hown hgam (fun hnc => ?_)
    simp only [annot] at hann
    split at hann <;> try cases hann
    rename_i ty ts hty hts
    obtain ⟨hgates, h1⟩ := gate_one_type hg hnc
    obtain ⟨l, m, hvs, hm, rfl⟩ := eval_max_some hev
    have ih := no_overflow_list ρ args ts _ hts hgates henv hvs hv
    have gs := (soundList_aux ρ args henv _ hvs).1 _ (annotList_abs hts)
    dsimp only
    rw [annotList_abs hts]
    rcases ih with h' | ⟨h', h''⟩
    · simp only [h', maxVals_eq (valsInts_map l) hm]
      exact Or.inl (cppOp_ok h1 hown hgam gs)
    · simp only [h']
      exact Or.inr h''
  -- the referenced definition is a top-level expression of its own: `vrefsGated` supplies its
  -- annotation and gate, which the referring tree (where it is a leaf) does not contain
  | vref e | present _ e =>
    have hv : vrefsGated e = true ∧
        (match annot e with | some t => decide (gate t = some []) | none => false) = true :=
      Bool.and_eq_true _ _ ▸ hv
    obtain ⟨hv1, hv2⟩ := hv
    split at hv2
    · rename_i t' ht'
      exact no_overflow_aux ρ e t' v ht' (of_decide_eq_true hv2) henv hev hv1
    · cases hv2

theorem no_overflow_list (ρ : Env) : (es : List Expr) → ∀ (ts : List ATree) (vs : List CVal),
    annotList es = some ts → (∀ t ∈ ts, gate t = some []) → EnvOkList ρ es →
    evalList ρ es = some vs → vrefsGatedList es = true →
    okVals (cppEvalList ρ es) = some vs ∨
      (okVals (cppEvalList ρ es) = none ∧ firstBad (cppEvalList ρ es) = .staticAssert)
  | [], ts, vs, hann, hg, henv, hev, hv => by
    simp only [evalList, Option.some.injEq] at hev; subst hev
    left; rfl
  | e :: es, ts, vs, hann, hg, henv, hev, hv => by
    simp only [vrefsGatedList, Bool.and_eq_true] at hv
    simp only [annotList] at hann
    split at hann <;> try cases hann
    rename_i a l ha hl
    obtain ⟨v, vs', hv', hvs, rfl⟩ := evalList_cons_some hev
    have ih1 := no_overflow_aux ρ e a v ha (hg a (by simp)) henv.1 hv' hv.1
    have ih2 := no_overflow_list ρ es l vs' hl (fun t ht => hg t (List.mem_cons_of_mem _ ht)) henv.2 hvs hv.2
    simp only [cppEvalList]
    rcases ih1 with h1 | h1
    · rw [h1]
      rcases ih2 with h2 | ⟨h2, h3⟩
      · left; simp [okVals, h2]
      · right; simp [okVals, firstBad, h2, h3]
    · right
      rw [h1]
      simp [okVals, firstBad]
end
end Emboss.Bounds
