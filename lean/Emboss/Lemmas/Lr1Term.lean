/-
Soundness of the termination analysis `summ` / `TermOK` (Model/Lr1Term.lean): over a table that
passes, `Parser.parse` halts on every token list — accepted or rejected.  Measure: (tokens left,
stack height) lexicographically; a summary `stop` leads to a Shift (fewer tokens left) or to the
end of the run, a summary `pend` to a Reduce after which the stack is strictly lower than it was
when the summary was taken.
-/
import Emboss.Model.Lr1Term
import Emboss.Lemmas.Lr1Basic
namespace Emboss.Lr1

variable {A : Automaton}

theorem nextAction_eq_actionAt (w : List Token) (s i : Nat) :
    nextAction A w s i = A.actionAt s (keyAt A w i) := by
  by_cases h : clientEoi A w i = true <;> simp [nextAction, keyAt, h, Automaton.actionAt]

/-! ### the entry on top is a table successor of the entry below it -/

theorem mem_succs_of_shift {u a s' : Nat} (h : A.entry u a = some (.shift s')) : s' ∈ A.succs u := by
  unfold Automaton.entry at h
  unfold Automaton.succs
  split at h
  · rename_i r hr
    rw [hr]
    refine List.mem_append_left _ (List.mem_filterMap.mpr ⟨(a, .shift s'), lookup_mem h, rfl⟩)
  · cases h

theorem mem_succs_of_goto {u x s' : Nat} (h : A.gotoOf u x = some s') : s' ∈ A.succs u := by
  unfold Automaton.succs
  exact List.mem_append_right _ (List.mem_map.mpr ⟨(x, s'), (Automaton.gotoOf_mem h).2, rfl⟩)

/-- The pairs `TermOK` sweeps.  A summary is taken for the top state and the state below it, so only the top
entry is constrained; every step pushes such an entry whatever the stack was (`topAdj_step`). -/
def TopAdj (A : Automaton) : List (Nat × Tree) → Prop
  | [] => True
  | (s, _) :: rest => topState rest < A.nStates ∧ s ∈ A.succs (topState rest)

theorem topAdj_step {w : List Token} {c c' : Config} (h : step A w c = .next c') : TopAdj A c'.stack := by
  cases step_cases h with
  | shift hact =>
    have he := (nextAction_nonerror hact rfl).2
    exact ⟨Nat.lt_of_lt_of_le (Automaton.entry_mem he).1 (Nat.le_max_left _ _), mem_succs_of_shift he⟩
  | reduce _ _ _ hg =>
    exact ⟨Nat.lt_of_lt_of_le (Automaton.gotoOf_mem hg).1 (Nat.le_max_right _ _), mem_succs_of_goto hg⟩

/-! ### what a summary means -/

/-- from `c` the run reaches, at the same cursor, a configuration whose step ends the run or
shifts a token -/
def Halts (A : Automaton) (w : List Token) (c : Config) : Prop :=
  ∃ n c', stepsTo A w n c c' ∧
    ((∃ r, step A w c' = .done r ∧ r ≠ .outOfFuel) ∨
     (∃ c'', step A w c' = .next c'' ∧ c''.cursor = c.cursor + 1 ∧ c.cursor < w.length))

/-- what a summary claims; `base` is the part of the stack the summarised reductions leave in place -/
def SummOK (A : Automaton) (w : List Token) (c : Config) (base : List (Nat × Tree)) : Summ → Prop
  | .stop => Halts A w c
  | .diverge => True
  | .pend pi r => ∃ p above, A.prods[pi]? = some p ∧ above.length + r = p.rhs.length ∧ 1 ≤ r ∧
      (∃ n, stepsTo A w n c ⟨above ++ base, c.cursor⟩) ∧
      nextAction A w (topState (above ++ base)) c.cursor = .reduce pi

theorem SummOK.of_stepsTo {w : List Token} {c c1 : Config} {base : List (Nat × Tree)} {r : Summ} {m : Nat}
    (hs : stepsTo A w m c c1) (hc : c1.cursor = c.cursor) (h : SummOK A w c1 base r) :
    SummOK A w c base r := by
  cases r with
  | stop =>
    obtain ⟨n, c', hn, hd⟩ := h
    refine ⟨m + n, c', stepsTo_trans hs hn, ?_⟩
    rw [hc] at hd; exact hd
  | diverge => trivial
  | pend pi r =>
    obtain ⟨p, above, hp, hl, hr, ⟨n, hn⟩, hact⟩ := h
    rw [hc] at hn hact
    exact ⟨p, above, hp, hl, hr, ⟨m + n, stepsTo_trans hs hn⟩, hact⟩

theorem Halts.of_step {w : List Token} {c c1 : Config} (hs : step A w c = .next c1)
    (hc : c1.cursor = c.cursor) (h : Halts A w c1) : Halts A w c :=
  SummOK.of_stepsTo (r := .stop) (base := []) (m := 1) ⟨c1, hs, rfl⟩ hc h

theorem halts_of_done {w : List Token} {c : Config} {r : Result} (h : step A w c = .done r)
    (hr : r ≠ .outOfFuel) : Halts A w c :=
  ⟨0, c, rfl, Or.inl ⟨r, h, hr⟩⟩

theorem halts_of_nonreduce {w : List Token} {c : Config}
    (h : ∀ pi, nextAction A w (topState c.stack) c.cursor ≠ .reduce pi) : Halts A w c := by
  generalize ho : step A w c = o
  cases step_cases ho with
  | shift _ hw => exact ⟨0, c, rfl, Or.inr ⟨_, ho, rfl, (List.getElem?_eq_some_iff.mp hw).1⟩⟩
  | reduce hact => exact absurd hact (h _)
  | accept | error | internal => exact halts_of_done ho nofun

/-- Both modes of `summ` at once.  Without a state below (`none`) `base` is the whole stack, its top entry
included; with the state below (`some`) `base` is the stack under the top entry `(s, t)`. -/
theorem summ_sound (w : List Token) (i : Nat) : ∀ (f : Nat),
    (∀ st, SummOK A w ⟨st, i⟩ st (summ A (keyAt A w i) f none (topState st))) ∧
    (∀ s t st, SummOK A w ⟨(s, t) :: st, i⟩ st (summ A (keyAt A w i) f (some (topState st)) s))
  | 0 => ⟨fun _ => trivial, fun _ _ _ => trivial⟩
  | f + 1 => by
    obtain ⟨ihE, ihF⟩ := summ_sound w i f
    constructor
    · intro st
      have hact := nextAction_eq_actionAt (A := A) w (topState st) i
      rw [summ]
      cases ha : A.actionAt (topState st) (keyAt A w i) with
      | reduce pi =>
        rw [ha] at hact
        dsimp only
        cases hp : A.prods[pi]? with
        | none =>
          have hs := step_reduce (c := ⟨st, i⟩) hact
          rw [hp] at hs
          exact halts_of_done hs nofun
        | some p =>
          by_cases h0 : p.rhs.length = 0
          · have hs : step A w ⟨st, i⟩ = _ := step_reduce_pop (above := []) hact hp h0.symm
            simp only [h0, if_true]
            cases hg : A.gotoOf (topState st) p.lhs with
            | none => rw [hg] at hs; exact halts_of_done hs nofun
            | some s1 => rw [hg] at hs; exact SummOK.of_stepsTo (m := 1) ⟨_, hs, rfl⟩ rfl (ihF s1 _ st)
          · simp only [h0, if_false]
            exact ⟨p, [], hp, by simp, by omega, ⟨0, rfl⟩, hact⟩
      | shift _ | accept | error _ =>
        exact halts_of_nonreduce fun pi h => by rw [hact, ha] at h; cases h
    · intro s t st
      have hE := ihE ((s, t) :: st)
      simp only [topState] at hE
      rw [summ]
      cases hres : summ A (keyAt A w i) f none s with
      | stop => rw [hres] at hE; exact hE
      | diverge => trivial
      | pend pi r =>
        rw [hres] at hE
        obtain ⟨p, above, hp, hl, hr1, ⟨n, hn⟩, hact⟩ := hE
        by_cases h1 : r = 1
        · -- the pending reduce pops `above` and the entry of `s`; the goto is taken from below
          subst h1
          dsimp only at hn hact
          rw [List.append_cons] at hn hact
          have hs := step_reduce_pop hact hp (by simpa using hl)
          simp only [if_true, hp]
          cases hg : A.gotoOf (topState st) p.lhs with
          | none => rw [hg] at hs; exact ⟨n, _, hn, Or.inl ⟨_, hs, nofun⟩⟩
          | some s2 =>
            rw [hg] at hs
            exact SummOK.of_stepsTo (stepsTo_trans (m := 1) hn ⟨_, hs, rfl⟩) rfl (ihF s2 _ st)
        · simp only [h1, if_false]
          refine ⟨p, above ++ [(s, t)], hp, by simp; omega, by omega, ⟨n, ?_⟩, ?_⟩
          · simpa using hn
          · simpa using hact

/-! ### keys without a table entry -/

theorem actionAt_error_of_not_key {o : Option Nat} {s : Nat} (h : ∀ a, o = some a → a ∉ A.keysOf s) :
    ∃ c, A.actionAt s o = .error c := by
  cases o with
  | none => exact defaultAction_error s
  | some a =>
    have he : A.entry s a = none := by
      have hk := h a rfl
      unfold Automaton.keysOf at hk
      unfold Automaton.entry
      cases hr : A.row s with
      | none => rfl
      | some r => rw [hr] at hk; exact lookup_none_of_not_mem hk
    simp only [Automaton.actionAt, Automaton.actionOf, he]
    exact defaultAction_error s

/-- under a key that is not in the row the first action is an `Error`: the summary is `stop` -/
theorem summ_stop_of_not_key {o : Option Nat} {s : Nat} (h : ∀ a, o = some a → a ∉ A.keysOf s) (f : Nat)
    (below : Option Nat) : summ A o (f + 2) below s = .stop := by
  obtain ⟨c, hc⟩ := actionAt_error_of_not_key h
  have h1 : ∀ f, summ A o (f + 1) none s = .stop := by intro f; simp [summ, hc]
  cases below with
  | none => exact h1 _
  | some u => rw [summ, h1 f]

-- the shape `f + 2` is the one `summ_stop_of_not_key` speaks of
theorem termFuel_eq (A : Automaton) : A.termFuel = (2 * A.nStates + 62) + 2 := by
  unfold Automaton.termFuel; omega

/-- `TermOK` sweeps the keys of the row of `s`; that covers every key -/
theorem summ_ne_diverge {below : Option Nat} {s : Nat}
    (h : ∀ a ∈ A.keysOf s, summ A (some a) A.termFuel below s ≠ .diverge) (o : Option Nat) :
    summ A o A.termFuel below s ≠ .diverge := by
  by_cases hk : ∃ a ∈ A.keysOf s, o = some a
  · obtain ⟨a, ha, rfl⟩ := hk
    exact h a ha
  · rw [termFuel_eq, summ_stop_of_not_key fun a h hm => hk ⟨a, hm, h⟩]; nofun

/-! ### progress and termination -/

/-- from `c` the run ends, or shifts a token, or gets to a strictly lower stack at the same
cursor -/
def Progress (A : Automaton) (w : List Token) (c : Config) : Prop :=
  ∃ n c', stepsTo A w n c c' ∧
    ((∃ r, step A w c' = .done r ∧ r ≠ .outOfFuel) ∨
     (∃ c'', step A w c' = .next c'' ∧
        (w.length - c''.cursor < w.length - c.cursor ∨
         (c''.cursor = c.cursor ∧ c''.stack.length < c.stack.length))))

theorem Progress.of_halts {w : List Token} {c : Config} : Halts A w c → Progress A w c
  | ⟨n, c', hn, hd⟩ => ⟨n, c', hn, hd.imp_right fun ⟨c'', hs, hcur, hlt⟩ =>
      ⟨c'', hs, .inl (hcur ▸ Nat.sub_succ_lt_self _ _ hlt)⟩⟩

/-- the pending reduce ends the run or leaves `base` minus `r` entries plus one.  `hb`: the summary was taken
under the top entry, or of the empty stack — there a pending reduce wants `r ≥ 1` entries that do not exist, and
the step is the stack-underflow exit -/
theorem Progress.of_summ {w : List Token} {c : Config} {base : List (Nat × Tree)} {r : Summ}
    (hb : base.length < c.stack.length ∨ base = []) (h : SummOK A w c base r) (hd : r ≠ .diverge) :
    Progress A w c := by
  cases r with
  | stop => exact .of_halts h
  | diverge => exact absurd rfl hd
  | pend pi r =>
    obtain ⟨p, above, hp, hl, hr, ⟨n, hn⟩, hact⟩ := h
    generalize ho : step A w ⟨above ++ base, c.cursor⟩ = o
    refine ⟨n, _, hn, ?_⟩
    cases step_cases ho with
    | shift hsh => rw [hact] at hsh; cases hsh
    | reduce hred hp' hle =>
      rw [hact] at hred; cases hred
      rw [hp] at hp'; cases hp'
      refine .inr ⟨_, ho, .inr ⟨rfl, ?_⟩⟩
      simp only [List.length_append, List.length_cons, List.length_drop] at hle ⊢
      rcases hb with hb | rfl
      · omega
      · simp only [List.length_nil] at hle; omega
    | accept | error | internal => exact .inl ⟨_, ho, nofun⟩

theorem progress (hT : TermOK A) (w : List Token) (c : Config) (ha : TopAdj A c.stack) :
    Progress A w c := by
  obtain ⟨st, i⟩ := c
  have hS := summ_sound (A := A) w i A.termFuel
  cases st with
  | nil => exact .of_summ (.inr rfl) (hS.1 []) (summ_ne_diverge hT.1 _)
  | cons e rest =>
    exact .of_summ (.inl (Nat.lt_succ_self _)) (hS.2 e.1 e.2 rest)
      (summ_ne_diverge (hT.2 _ ha.1 _ ha.2) _)

theorem terminates_from (hT : TermOK A) (w : List Token) (c : Config) (ha : TopAdj A c.stack) :
    ∃ fuel, runFrom A w fuel c ≠ .outOfFuel := by
  obtain ⟨n, c', hn, hd⟩ := progress hT w c ha
  rcases hd with ⟨r, hr, hne⟩ | ⟨c'', hs, hm⟩
  · exact ⟨n + 1, by rw [runFrom_stepsTo 1 hn]; simpa [runFrom, hr] using hne⟩
  · obtain ⟨f, hf⟩ := terminates_from hT w c'' (topAdj_step hs)
    exact ⟨n + (f + 1), by rw [runFrom_stepsTo (f + 1) hn]; simpa [runFrom, hs] using hf⟩
termination_by (w.length - c.cursor, c.stack.length)
decreasing_by
  rcases hm with hm | ⟨hcur, hlt⟩
  · exact Prod.Lex.left _ _ hm
  · rw [hcur]; exact Prod.Lex.right _ hlt

theorem run_terminates (hT : TermOK A) (w : List Token) : ∃ fuel, run A fuel w ≠ .outOfFuel :=
  terminates_from hT w init trivial

end Emboss.Lr1
