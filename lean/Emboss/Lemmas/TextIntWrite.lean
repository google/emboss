/-
Helper lemmas for C06: what `WriteIntegerToTextStream` produces, read declaratively (`writeBody_spec`,
`writeInt_textValue_any`), and with `decodeInt_eq_some` the codec round trip `decodeInt_writeInt_any`.
-/
import Emboss.Lemmas.TextInt
import Emboss.Model.TextRead
import Emboss.Lemmas.TextBuf
namespace Emboss.Text
open Spec

theorem digitValue_digitChar : ∀ d, d < 16 → digitValue (digitChar d) = some d := by decide +kernel
theorem digitChar_ne_underscore : ∀ d, d < 16 → digitChar d ≠ '_' := by decide +kernel

theorem digitsOf_digit (b : Nat) (hb16 : b ≤ 16) (d : Nat) (hd : d < b) (cs : List Char) :
    digitsOf b (digitChar d :: cs) = (digitsOf b cs).map (d :: ·) := by
  simp [digitsOf, digitChar_ne_underscore d (by omega), digitValue_digitChar d (by omega), hd]

theorem digitsOf_underscore (b : Nat) (cs : List Char) : digitsOf b ('_' :: cs) = digitsOf b cs := by
  simp [digitsOf]

def IsBodyChar (b : Nat) (ch : Char) : Prop := ch = '_' ∨ ∃ d, d < b ∧ ch = digitChar d

/-- A number body as the writer makes it: starts with a digit, digits and `_` only, denotes `v`. -/
structure IsBody (b : Nat) (l : List Char) (v : Int) : Prop where
  head : ∃ d rest, d < b ∧ l = digitChar d :: rest
  chars : ∀ ch ∈ l, IsBodyChar b ch
  value : ∃ ds, digitsOf b l = some ds ∧ valueFrom b 0 ds = v

theorem writeLoop_body (b : Nat) (g : Bool) (hb2 : 2 ≤ b) (hb16 : b ≤ 16) :
    ∀ (v c : Nat) (buf : List Char) (ds : List Nat), (∀ ch ∈ buf, IsBodyChar b ch) →
      digitsOf b buf = some ds → (v ≠ 0 ∨ ∃ d rest, d < b ∧ buf = digitChar d :: rest) →
      IsBody b (writeLoop b g v c buf) (valueFrom b v ds) := by
  intro v
  induction v using Nat.strongRecOn with
  | _ v ih =>
    intro c buf ds hch hds hhead
    unfold writeLoop
    by_cases h0 : v = 0 ∨ b < 2
    · have hv : v = 0 := by omega
      rw [dif_pos h0, hv]
      exact ⟨hhead.resolve_left (fun h => h hv), hch, ds, hds, rfl⟩
    · rw [dif_neg h0]
      have hmod : v % b < b := Nat.mod_lt _ (by omega)
      have hval : valueFrom b (v / b : Nat) (v % b :: ds) = valueFrom b v ds := by
        rw [valueFrom_cons]
        congr 1
        exact_mod_cast Nat.div_add_mod' v b
      rw [← hval]
      refine ih (v / b) (Nat.div_lt_self (by omega) (by omega)) _ _ _ ?_ ?_ (Or.inr ⟨_, _, hmod, rfl⟩)
      · refine List.forall_mem_cons.mpr ⟨Or.inr ⟨_, hmod, rfl⟩, ?_⟩
        split
        · exact List.forall_mem_cons.mpr ⟨Or.inl rfl, hch⟩
        · exact hch
      · rw [digitsOf_digit b hb16 _ hmod]
        split
        · rw [digitsOf_underscore, hds]; rfl
        · rw [hds]; rfl

theorem Base.toNat_cases (base : Base) : base.toNat = 2 ∨ base.toNat = 10 ∨ base.toNat = 16 := by
  cases base <;> simp [Base.toNat]

/-- The written digits denote `|x|`, for every `x` (no range hypothesis: the `lowest()` branch is
entered for a negative `x` only). -/
theorem writeBody_spec (T : IntTy) (x : Int) (base : Base) (g : Bool) :
    IsBody base.toNat (writeBody T x base.toNat g) (if x < 0 then -x else x) := by
  have hb := Base.toNat_cases base
  generalize base.toNat = b at hb ⊢
  have hb2 : 2 ≤ b := by omega
  have hb16 : b ≤ 16 := by omega
  rw [writeBody_eq T x b g hb2]
  have hx : (if x < 0 then -x else x) = (x.natAbs : Int) := by omega
  rw [hx]
  split
  · next h0 =>
    -- zero does not enter the loop: the body is the digit put down beforehand
    subst h0
    exact ⟨⟨0, [], by omega, rfl⟩, fun ch h => Or.inr ⟨0, by omega, List.mem_singleton.mp h⟩, [0],
      digitsOf_digit b hb16 0 (by omega) [], by rw [valueFrom_cons, valueFrom_nil, Int.zero_mul]; rfl⟩
  · exact writeLoop_body b g hb2 hb16 x.natAbs 0 [] [] (fun _ h => nomatch h) rfl (Or.inl (by omega))

theorem digitChar_ne_minus : ∀ d, d < 16 → digitChar d ≠ '-' := by decide +kernel
theorem digitChar10_not_prefix : ∀ d, d < 10 →
    digitChar d ≠ 'x' ∧ digitChar d ≠ 'X' ∧ digitChar d ≠ 'b' ∧ digitChar d ≠ 'B' := by decide +kernel
theorem isDigitChar_digitChar : ∀ d, d < 10 → isDigitChar (digitChar d) = true := by decide +kernel

theorem bodyChar10_not_prefix (c : Char) (h : IsBodyChar 10 c) :
    c ≠ 'x' ∧ c ≠ 'X' ∧ c ≠ 'b' ∧ c ≠ 'B' := by
  rcases h with rfl | ⟨d, hd, rfl⟩
  · decide
  · exact digitChar10_not_prefix d hd

theorem baseOf_body10 (d0 : Nat) (rest : List Char)
    (hch : ∀ ch ∈ digitChar d0 :: rest, IsBodyChar 10 ch) : baseOf (digitChar d0 :: rest) = 10 := by
  cases rest with
  | nil => simp [baseOf]
  | cons c1 r =>
    have := bodyChar10_not_prefix c1 (hch c1 (by simp))
    simp [baseOf, this.1, this.2.1, this.2.2.1, this.2.2.2]

theorem textValue_sign_prefix_body (signedTy neg : Bool) (base : Base) (l : List Char) (v : Int)
    (hneg : neg = true → signedTy = true) (hl : IsBody base.toNat l v) :
    textValue signedTy ((if neg then ['-'] else []) ++ basePrefix base ++ l) =
      some (if neg then -v else v) := by
  obtain ⟨⟨d0, rest, hd0, rfl⟩, hch, ds, hds, rfl⟩ := hl
  have hm := digitChar_ne_minus d0 (by cases base <;> simp [Base.toNat] at hd0 <;> omega)
  have hB : baseOf (basePrefix base ++ digitChar d0 :: rest) = base.toNat ∧
      bodyOf (basePrefix base ++ digitChar d0 :: rest) = digitChar d0 :: rest := by
    cases base with
    | b10 => simp [basePrefix, bodyOf, Base.toNat, baseOf_body10 d0 rest hch]
    | _ => simp [basePrefix, baseOf, bodyOf, Base.toNat]
  have hs : signOf signedTy (basePrefix base ++ digitChar d0 :: rest) = false := by
    cases base <;> simp [signOf, basePrefix, hm]
  cases neg with
  | true =>
    cases hneg rfl
    simp [textValue, signOf, afterSign, hB, hds]
  | false => simp [textValue, afterSign, hs, hB, hds]

theorem writeInt_eq (T : IntTy) (x : Int) (base : Base) (g : Bool) :
    writeInt T x base g =
      (if decide (x < 0) = true then ['-'] else []) ++ basePrefix base ++ writeBody T x base.toNat g := by
  unfold writeInt
  by_cases hn : x < 0 <;> simp [hn]

/-- The text of a number denotes the number for *any* reading type whose signedness admits the
sign (the enum reader decodes with `uint64_t` / `int64_t`, whatever the enum's own type). -/
theorem writeInt_textValue_any (T : IntTy) (x : Int) (base : Base) (g : Bool)
    (sg : Bool) (hsg : x < 0 → sg = true) :
    textValue sg (writeInt T x base g) = some x := by
  rw [writeInt_eq, textValue_sign_prefix_body sg (decide (x < 0)) base _ _
    (by intro h; exact hsg (by simpa using h)) (writeBody_spec T x base g)]
  by_cases hn : x < 0 <;> simp [hn]

theorem writeInt_head (T : IntTy) (x : Int) (base : Base) (g : Bool) :
    ∃ c cs, writeInt T x base g = c :: cs ∧ c ≠ '_' ∧
      (x < 0 → c = '-') ∧ (0 ≤ x → isDigitChar c = true) := by
  obtain ⟨⟨d0, rest, hd0, hw⟩, _⟩ := writeBody_spec T x base g
  rw [writeInt_eq, hw]
  by_cases hn : x < 0
  · exact ⟨'-', basePrefix base ++ digitChar d0 :: rest, by simp [hn], by decide, fun _ => rfl,
      fun h => by omega⟩
  · cases base with
    | b10 =>
      refine ⟨digitChar d0, rest, by simp [hn, basePrefix], ?_, fun h => absurd h hn, fun _ => ?_⟩
      · exact digitChar_ne_underscore d0 (by simp [Base.toNat] at hd0; omega)
      · exact isDigitChar_digitChar d0 (by simpa [Base.toNat] using hd0)
    | b16 =>
      exact ⟨'0', 'x' :: digitChar d0 :: rest, by simp [hn, basePrefix], by decide,
        fun h => absurd h hn, fun _ => by decide⟩
    | b2 =>
      exact ⟨'0', 'b' :: digitChar d0 :: rest, by simp [hn, basePrefix], by decide,
        fun h => absurd h hn, fun _ => by decide⟩

theorem decodeInt_writeInt_any (T T' : IntTy) (x : Int) (base : Base) (g : Bool)
    (hx : T'.InRange x) : decodeInt T' (writeInt T x base g) = some x := by
  obtain ⟨c, cs, hw, hu, _, _⟩ := writeInt_head T x base g
  exact decodeInt_eq_some.mpr ⟨by rw [hw]; simpa using hu,
    writeInt_textValue_any T x base g T'.signed (IntTy.signed_of_neg T' x hx), hx⟩

end Emboss.Text
