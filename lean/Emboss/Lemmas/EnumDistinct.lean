/- Lemmas for C19/C07: when are the enumerator identifiers pairwise distinct?  The spellings of a
value, the back end's own check, and `$default` propagation of `enum_case`. -/
import Emboss.Lemmas.EnumGen
namespace Emboss.Enum
open Emboss.CppInt

/-- The spellings of a value: none (the back end would crash), the Emboss name alone (no
attribute in force), or one per case of the `enum_case` text in force. -/
theorem namesOf_cases (d : Def) (v : Value) :
    namesOf d v = [] ∨ namesOf d v = [v.name] ∨
    ∃ t, effectiveCase v.attrs (defaultsOf d.levels) = .cases t ∧
      (splitCases t).mapM (fun c => (parseCase c).map (fun k => convertCase k v.name)) = some (namesOf d v) := by
  unfold namesOf
  cases effectiveCase v.attrs (defaultsOf d.levels) with
  | crash => exact .inl rfl
  | unset => exact .inr (.inl rfl)
  | cases t =>
    cases hm : enumeratorNames v.name (.cases t) with
    | none => exact .inl rfl
    | some l => exact .inr (.inr ⟨t, rfl, hm⟩)

theorem namesOf_mem (d : Def) (v : Value) (x : Name) (hx : x ∈ namesOf d v) :
    x = v.name ∨ x = 'k' :: snakeToCamel v.name := by
  rcases namesOf_cases d v with h | h | ⟨t, _, h⟩
  · rw [h] at hx; cases hx
  · rw [h] at hx; exact .inl (List.mem_singleton.mp hx)
  · obtain ⟨c, _, hfc⟩ := List.mem_map.mp ((mapM_option_eq_some ..).mp h ▸ List.mem_map_of_mem hx)
    obtain ⟨k, _, rfl⟩ := Option.map_eq_some_iff.mp hfc
    cases k
    · exact .inl rfl
    · exact .inr rfl

theorem enumerator_names_nodup_of_camel_distinct (d : Def)
    (hshape : ∀ v ∈ d.values, ∃ c cs, v.name = c :: cs ∧ c ≠ 'k')
    (hspell : ∀ v ∈ d.values, (namesOf d v).Nodup)
    (hcamel : d.values.Pairwise (fun a b => snakeToCamel a.name ≠ snakeToCamel b.name)) :
    (d.values.flatMap (namesOf d)).Nodup := by
  unfold List.Nodup
  rw [List.pairwise_flatMap]
  refine ⟨hspell, ?_⟩
  refine (List.Pairwise.and_mem.mp hcamel).imp ?_
  rintro a b ⟨ha, hb, hcm⟩ x hx y hy hxy
  subst hxy
  obtain ⟨ca, csa, hsa, hka⟩ := hshape a ha
  obtain ⟨cb, csb, hsb, hkb⟩ := hshape b hb
  rcases namesOf_mem d a x hx with h1 | h1 <;> rcases namesOf_mem d b x hy with h2 | h2
  · exact hcm (congrArg snakeToCamel (h1.symm.trans h2))
  · rw [h1, hsa] at h2; simp at h2; exact hka h2.1
  · rw [h2, hsb] at h1; simp at h1; exact hkb h1.1
  · rw [h1] at h2; simp at h2; exact hcm h2

theorem parseCase_eq_some (c : List Char) (k : Case) (h : parseCase c = some k) :
    c = if k = .shouty then shoutyText else kCamelText := by
  unfold parseCase at h
  split at h
  · cases h; assumption
  · split at h
    · cases h; assumption
    · cases h

theorem parseCase_inj (c c' : List Char) (k : Case) (h : parseCase c = some k)
    (h' : parseCase c' = some k) : c = c' :=
  (parseCase_eq_some c k h).trans (parseCase_eq_some c' k h').symm

theorem namesOf_nodup (d : Def) (v : Value)
    (hshape : ∃ c cs, v.name = c :: cs ∧ c ≠ 'k')
    (hver : ∀ t, effectiveCase v.attrs (defaultsOf d.levels) = .cases t → verifyCases t = true) :
    (namesOf d v).Nodup := by
  rcases namesOf_cases d v with h | h | ⟨t, hc, h⟩
  · rw [h]; exact List.nodup_nil
  · rw [h]; exact List.pairwise_singleton _ _
  · have hv := hver t hc
    simp only [verifyCases, Bool.and_eq_true, decide_eq_true_eq] at hv
    refine mapM_option_nodup _ ?_ _ _ h hv.1.2
    intro a b y ha hb
    obtain ⟨c, cs, hs, hk⟩ := hshape
    obtain ⟨ka, hpa, rfl⟩ := Option.map_eq_some_iff.mp ha
    obtain ⟨kb, hpb, hb⟩ := Option.map_eq_some_iff.mp hb
    have : ka = kb := by
      cases ka <;> cases kb <;> simp only [convertCase, hs, List.cons.injEq] at hb
      · rfl
      · exact absurd hb.1.symm hk
      · exact absurd hb.1 hk
      · rfl
    subst this
    exact parseCase_inj a b ka hpa hpb

/-! ## the back end's own check (`_verify_generated_enum_value_names_are_distinct`) -/

theorem distinctLoop_iff (seen l : List Name) :
    distinctLoop seen l = true ↔ l.Nodup ∧ ∀ x ∈ l, x ∉ seen := by
  induction l generalizing seen with
  | nil => simp [distinctLoop]
  | cons a as ih =>
    simp only [distinctLoop, Bool.and_eq_true, Bool.not_eq_true', List.contains_eq_mem,
      decide_eq_false_iff_not, ih, List.nodup_cons, List.mem_cons, forall_eq_or_imp]
    constructor
    · rintro ⟨h1, h2, h3⟩
      refine ⟨⟨fun ha => (h3 a ha) (Or.inl rfl), h2⟩, h1, fun x hx hs => h3 x hx (Or.inr hs)⟩
    · rintro ⟨⟨h1, h2⟩, h3, h4⟩
      refine ⟨h3, h2, ?_⟩
      intro x hx hs
      rcases hs with rfl | hs
      · exact h1 hx
      · exact h4 x hx hs

theorem enumerator_idents (d : Def) (g : Gen) (hgen : generate d = some g) :
    g.enumerators.map (·.1) = d.values.flatMap (namesOf d) := by
  rw [(generate_spec d g hgen).2.2.1, List.map_map, entries_map]
  simp

theorem namesDistinct_iff (d : Def) (g : Gen) (hgen : generate d = some g) :
    d.namesDistinct = true ↔ (g.enumerators.map (·.1)).Nodup := by
  rw [enumerator_idents d g hgen]
  simp only [Def.namesDistinct, generate_spellings d g hgen, distinctLoop_iff]
  simp [List.flatMap_def]

theorem enumerators_nodup_of_accepts (d : Def) (g : Gen) (hgen : generate d = some g)
    (hacc : d.backAccepts = true) : (g.enumerators.map (·.1)).Nodup := by
  simp only [Def.backAccepts, Bool.and_eq_true] at hacc
  exact (namesDistinct_iff d g hgen).mp hacc.2

theorem resolves_of_accepts (d : Def) (g : Gen) (hgen : generate d = some g)
    (hacc : d.backAccepts = true) :
    ∀ e ∈ entries (namesOf d) d.values, lookup g.enumerators e.2 = some e.1.value := by
  intro e he
  refine lookup_of_mem_nodup (enumerators_nodup_of_accepts d g hgen hacc) ?_
  rw [(generate_spec d g hgen).2.2.1]
  exact List.mem_map_of_mem (f := fun e => (e.2, e.1.value)) he

/-! ## `$default` propagation -/

theorem defaultsOf_eq (levels : List (List Attr)) : defaultsOf levels = gatherDefault none levels.flatten :=
  List.foldl_flatten.symm

theorem gatherDefault_mem (inh : Option (List Char)) (attrs : List Attr) (t : List Char)
    (h : gatherDefault inh attrs = some t) :
    inh = some t ∨ ∃ a ∈ attrs, a.isCpp = true ∧ a.text = t := by
  induction attrs generalizing inh with
  | nil => exact .inl h
  | cons a l ih =>
    rcases ih _ h with h1 | ⟨b, hb, hp⟩
    · dsimp only at h1
      split at h1
      · rename_i hd
        exact .inr ⟨a, List.mem_cons_self .., (Bool.and_eq_true _ _ ▸ hd).2, Option.some.inj h1⟩
      · exact .inl h1
    · exact .inr ⟨b, List.mem_cons_of_mem _ hb, hp⟩

theorem defaultsOf_mem (levels : List (List Attr)) (t : List Char)
    (h : defaultsOf levels = some t) : ∃ a ∈ levels.flatten, a.isCpp = true ∧ a.text = t :=
  (gatherDefault_mem none _ t (defaultsOf_eq levels ▸ h)).resolve_left nofun

theorem effective_verified (d : Def) (hver : d.attrsVerified = true) (v : Value) (hv : v ∈ d.values)
    (t : List Char) (ht : effectiveCase v.attrs (defaultsOf d.levels) = .cases t) :
    verifyCases t = true := by
  simp only [Def.attrsVerified, List.all_eq_true, List.mem_append, List.mem_flatMap] at hver
  have key : ∀ a, (a ∈ d.levels.flatten ∨ ∃ v ∈ d.values, a ∈ v.attrs) → a.isCpp = true →
      verifyCases a.text = true := fun a ha hc => by simpa [hc] using hver a ha
  unfold effectiveCase at ht
  split at ht
  · split at ht
    · cases ht
    · rename_i t' hd
      cases ht
      obtain ⟨a, ha, hac, rfl⟩ := defaultsOf_mem _ _ hd
      exact key a (.inl ha) hac
  · rename_i a hf
    cases ht
    have hm : a ∈ v.attrs.filter (fun a => !a.isDefault && a.isCpp) := hf ▸ List.mem_cons_self ..
    rw [List.mem_filter, Bool.and_eq_true] at hm
    exact key a (.inr ⟨v, hv, hm.1⟩) hm.2.2
  · cases ht

end Emboss.Enum
