/-
Tightness of the inferred interval on the single-occurrence fragment `LinOnce`
(Spec/BoundsInv.lean): by induction over the expression, an environment attaining the
inferred minimum and one attaining the inferred maximum are constructed; the operands of
an operator mention disjoint leaves, so their witness environments can be merged.  The same
construction gives tightness of `?:` whose condition is independent of the branches.
-/
import Emboss.Lemmas.BoundsInvTree
namespace Emboss.Bounds
open ExtInt

theorem of_not_lin {e : Expr} (h : LinOnce e = false) {p : Prop} (hbe : LinOnce e = true ∨ p) : p :=
  hbe.resolve_left (by rw [h]; exact Bool.false_ne_true)

mutual
/-- evaluation reads only the integer leaves that occur and the boolean / enum leaves; the
    single-occurrence fragment `LinOnce` has no boolean or enum leaf, so there those may differ -/
theorem eval_reads : (e : Expr) → ∀ ρ ρ' : Env, (∀ id ∈ ivars e, ρ.i id = ρ'.i id) →
    (LinOnce e = true ∨ (ρ.b = ρ'.b ∧ ρ.e = ρ'.e)) →
    eval ρ e = eval ρ' e ∧ (EnvOk ρ e ↔ EnvOk ρ' e)
  | .const _ => fun _ _ _ _ => ⟨rfl, Iff.rfl⟩
  | .bconst _ => fun _ _ _ _ => ⟨rfl, Iff.rfl⟩
  | .econst _ => fun _ _ _ _ => ⟨rfl, Iff.rfl⟩
  | .ileaf id _ _ => fun ρ ρ' h _ => by
    simp only [eval, EnvOk, h id List.mem_cons_self, and_self]
  | .ssize id => fun ρ ρ' h _ => by
    simp only [eval, EnvOk, h id List.mem_cons_self, and_self]
  | .given id _ => fun ρ ρ' h _ => by
    simp only [eval, EnvOk, h id List.mem_cons_self, and_self]
  | .bleaf _ => fun ρ ρ' _ hbe => by
    simp only [eval, EnvOk, (of_not_lin rfl hbe).1, and_self]
  | .eleaf _ => fun ρ ρ' _ hbe => by
    simp only [eval, EnvOk, (of_not_lin rfl hbe).2, and_self]
  | .bin op l r => fun ρ ρ' h hbe => by
    have hl : LinOnce (.bin op l r) = true → LinOnce l = true ∧ LinOnce r = true := fun h => by
      simp only [LinOnce, Bool.and_eq_true] at h; exact ⟨h.1.1.2, h.1.2⟩
    have h1 := eval_reads l ρ ρ' (fun id hid => h id (List.mem_append_left _ hid))
      (hbe.imp_left (fun h => (hl h).1))
    have h2 := eval_reads r ρ ρ' (fun id hid => h id (List.mem_append_right _ hid))
      (hbe.imp_left (fun h => (hl h).2))
    simp only [eval, EnvOk, h1, h2, and_self]
  | .choice c t f => fun ρ ρ' h hbe => by
    have hbe' := of_not_lin rfl hbe
    have h1 := eval_reads c ρ ρ'
      (fun id hid => h id (List.mem_append_left _ (List.mem_append_left _ hid))) (Or.inr hbe')
    have h2 := eval_reads t ρ ρ'
      (fun id hid => h id (List.mem_append_left _ (List.mem_append_right _ hid))) (Or.inr hbe')
    have h3 := eval_reads f ρ ρ' (fun id hid => h id (List.mem_append_right _ hid)) (Or.inr hbe')
    simp only [eval, EnvOk, h1, h2, h3, and_self]
  | .max args => fun ρ ρ' h hbe => by
    have h1 := evalList_reads args ρ ρ' h
      (hbe.imp_left (fun h => by simp only [LinOnce, Bool.and_eq_true] at h; exact h.2))
    simp only [eval, EnvOk, h1, and_self]
  | .upper e => fun ρ ρ' h hbe =>
    ⟨rfl, (eval_reads e ρ ρ' h (Or.inr (of_not_lin rfl hbe))).2⟩
  | .lower e => fun ρ ρ' h hbe =>
    ⟨rfl, (eval_reads e ρ ρ' h (Or.inr (of_not_lin rfl hbe))).2⟩
  | .cref e => fun ρ ρ' h hbe => eval_reads e ρ ρ' h (Or.inr (of_not_lin rfl hbe))
  | .vref e => fun ρ ρ' h hbe => eval_reads e ρ ρ' h (Or.inr (of_not_lin rfl hbe))
  | .present _ c => fun ρ ρ' h hbe => eval_reads c ρ ρ' h (Or.inr (of_not_lin rfl hbe))
theorem evalList_reads : (es : List Expr) → ∀ ρ ρ' : Env, (∀ id ∈ ivarsList es, ρ.i id = ρ'.i id) →
    (LinOnceList es = true ∨ (ρ.b = ρ'.b ∧ ρ.e = ρ'.e)) →
    evalList ρ es = evalList ρ' es ∧ (EnvOkList ρ es ↔ EnvOkList ρ' es)
  | [] => fun _ _ _ _ => ⟨rfl, Iff.rfl⟩
  | e :: es => fun ρ ρ' h hbe => by
    have hl : LinOnceList (e :: es) = true → LinOnce e = true ∧ LinOnceList es = true := fun h => by
      simp only [LinOnceList, Bool.and_eq_true] at h; exact ⟨h.1.1, h.1.2⟩
    have h1 := eval_reads e ρ ρ' (fun id hid => h id (List.mem_append_left _ hid))
      (hbe.imp_left (fun h => (hl h).1))
    have h2 := evalList_reads es ρ ρ' (fun id hid => h id (List.mem_append_right _ hid))
      (hbe.imp_left (fun h => (hl h).2))
    simp only [evalList, EnvOkList, h1, h2, and_self]
end

theorem evalList_congr : (es : List Expr) → ∀ ρ ρ' : Env,
    (∀ id ∈ ivarsList es, ρ.i id = ρ'.i id) → ρ.b = ρ'.b → ρ.e = ρ'.e →
    evalList ρ es = evalList ρ' es ∧ (EnvOkList ρ es → EnvOkList ρ' es) :=
  fun es ρ ρ' h hb he => (evalList_reads es ρ ρ' h (Or.inr ⟨hb, he⟩)).imp_right Iff.mp

/-- `mergeEnv (ivars l) ρ1 ρ2` reads `l` as `ρ1` does and whatever shares no leaf with `l` as `ρ2` does -/
theorem transplant {l : Expr} (hl : LinOnce l = true) (ρ1 ρ2 : Env) :
    ∃ ρ, (eval ρ l = eval ρ1 l ∧ (EnvOk ρ l ↔ EnvOk ρ1 l)) ∧
      (∀ r, disjoint (ivars l) (ivars r) = true →
        eval ρ r = eval ρ2 r ∧ (EnvOk ρ r ↔ EnvOk ρ2 r)) ∧
      (∀ rs, disjoint (ivars l) (ivarsList rs) = true →
        evalList ρ rs = evalList ρ2 rs ∧ (EnvOkList ρ rs ↔ EnvOkList ρ2 rs)) := by
  have out : ∀ {vs : List Nat}, disjoint (ivars l) vs = true →
      ∀ id ∈ vs, (mergeEnv (ivars l) ρ1 ρ2).i id = ρ2.i id := fun hd id hid => by
    have : id ∉ ivars l := fun hin => by
      simpa [hid] using List.all_eq_true.mp hd id hin
    simp [mergeEnv, this]
  exact ⟨mergeEnv (ivars l) ρ1 ρ2,
    eval_reads l _ _ (fun id hid => by simp [mergeEnv, hid]) (Or.inl hl),
    fun r hd => eval_reads r _ _ (out hd) (Or.inr ⟨rfl, rfl⟩),
    fun rs hd => evalList_reads rs _ _ (out hd) (Or.inr ⟨rfl, rfl⟩)⟩

@[reducible] def Attained (e : Expr) (x : ExtInt) : Prop :=
  ∃ z, x = .fin z ∧ ∃ ρ, EnvOk ρ e ∧ eval ρ e = some (.int z)

@[reducible] def TightAt (e : Expr) (a : AVal) : Prop := Attained e a.min ∧ Attained e a.max

theorem leaf_tight (id : Nat) (k : LeafKind) (s : Int) (hs : 1 ≤ s) :
    TightAt (.ileaf id k (some s)) (leafRange k (some s)) := by
  rcases leafRange_cases k (some s) with ⟨-, h, -⟩ | ⟨lo, hi, hlt, e, hp⟩
  · have := h s rfl; omega
  · rw [e]
    exact ⟨⟨lo, rfl, ⟨fun _ => lo, fun _ => false, fun _ => 0⟩,
        (hp lo).mpr ⟨Int.le_refl lo, Int.le_of_lt hlt⟩, rfl⟩,
      ⟨hi, rfl, ⟨fun _ => hi, fun _ => false, fun _ => 0⟩,
        (hp hi).mpr ⟨Int.le_of_lt hlt, Int.le_refl hi⟩, rfl⟩⟩

/-- operands with no common leaf vary independently: attained ends are attained together -/
theorem merge_bin {l r : Expr} (hl : LinOnce l = true) (hd : disjoint (ivars l) (ivars r) = true)
    {x y : ExtInt} (hx : Attained l x) (hy : Attained r y) :
    (∀ z, eadd x y = some z → Attained (.bin .add l r) z) ∧
    (∀ z, esub x y = some z → Attained (.bin .sub l r) z) ∧
    Attained (.bin .mul l r) (emul x y) := by
  obtain ⟨vx, rfl, ρ1, ok1, ev1⟩ := hx
  obtain ⟨vy, rfl, ρ2, ok2, ev2⟩ := hy
  obtain ⟨ρ, h1, h2, -⟩ := transplant hl ρ1 ρ2
  have w : ∀ op, ∃ ρ, EnvOk ρ (.bin op l r) ∧
      eval ρ (.bin op l r) = evalBin op (.int vx) (.int vy) := fun op =>
    ⟨ρ, ⟨h1.2.mpr ok1, (h2 r hd).2.mpr ok2⟩, by simp only [eval, h1.1, (h2 r hd).1, ev1, ev2]⟩
  refine ⟨fun z h => ?_, fun z h => ?_, _, rfl, w .mul⟩
  · cases h
    exact ⟨_, rfl, w .add⟩
  · cases h
    exact ⟨_, rfl, Int.sub_eq_add_neg ▸ w .sub⟩

theorem bin_tight {op : BinOp} {l r : Expr} (hop : isArith op = true)
    (hl : LinOnce l = true) (hd : disjoint (ivars l) (ivars r) = true) {al ar : AVal}
    (habl : abs l = some (.int al)) (hil : InvS al) (htl : TightAt l al)
    (habr : abs r = some (.int ar)) (hir : InvS ar) (htr : TightAt r ar) :
    ∃ a, abs (.bin op l r) = some (.int a) ∧ InvS a ∧ TightAt (.bin op l r) a := by
  obtain ⟨a, ha, hia⟩ := absArith_inv hop hil hir
  refine ⟨a, by simp only [abs, habl, habr, absBin, hop, ha, if_true, Option.map_some], hia, ?_⟩
  have att := fun {x y : ExtInt} => merge_bin hl hd (x := x) (y := y)
  cases op <;> cases hop
  · obtain ⟨_, _, hmn, hmx⟩ := additive_shape ha
    exact ⟨(att htl.1 htr.1).1 _ hmn, (att htl.2 htr.2).1 _ hmx⟩
  · obtain ⟨_, _, hmn, hmx⟩ := additive_shape ha
    exact ⟨(att htl.1 htr.2).2.1 _ hmn, (att htl.2 htr.1).2.1 _ hmx⟩
  · obtain ⟨hmn, hmx⟩ := multiplicative_ends ha
    have corner : ∀ e ∈ [emul al.max ar.max, emul al.min ar.max, emul al.max ar.min,
        emul al.min ar.min], Attained (.bin .mul l r) e := by
      simp only [List.forall_mem_cons, List.not_mem_nil, false_imp_iff, implies_true, and_true]
      exact ⟨(att htl.2 htr.2).2.2, (att htl.1 htr.2).2.2, (att htl.2 htr.1).2.2,
        (att htl.1 htr.1).2.2⟩
    exact ⟨corner _ (eminL_mem hmn.symm hia.minNe), corner _ (emaxL_mem hmx.symm hia.maxNe)⟩

/-! ### `$max` and argument lists -/

/-- the tightness statement for an argument list: one environment puts every argument at
    its minimum, one puts every argument at its maximum -/
@[reducible] def TightList (es : List Expr) (avs : List AVal) : Prop :=
  ∃ los his : List Int, avs.map (·.min) = los.map .fin ∧ avs.map (·.max) = his.map .fin ∧
    (∃ ρ, EnvOkList ρ es ∧ evalList ρ es = some (los.map .int)) ∧
    (∃ ρ, EnvOkList ρ es ∧ evalList ρ es = some (his.map .int))

theorem merge_cons {e : Expr} {es : List Expr} (he : LinOnce e = true)
    (hd : disjoint (ivars e) (ivarsList es) = true) {x : Int} {vs : List CVal}
    (w1 : ∃ ρ, EnvOk ρ e ∧ eval ρ e = some (.int x))
    (w2 : ∃ ρ, EnvOkList ρ es ∧ evalList ρ es = some vs) :
    ∃ ρ, EnvOkList ρ (e :: es) ∧ evalList ρ (e :: es) = some (.int x :: vs) := by
  obtain ⟨ρ1, ok1, ev1⟩ := w1
  obtain ⟨ρ2, ok2, ev2⟩ := w2
  obtain ⟨ρ, h1, -, h2⟩ := transplant he ρ1 ρ2
  exact ⟨ρ, ⟨h1.2.mpr ok1, (h2 es hd).2.mpr ok2⟩,
    by simp only [evalList, h1.1, (h2 es hd).1, ev1, ev2]⟩

theorem max_attained {args : List Expr} {xs : List ExtInt} {vs : List Int}
    (hxs : xs = vs.map .fin) (hne : xs ≠ [])
    (w : ∃ ρ, EnvOkList ρ args ∧ evalList ρ args = some (vs.map .int)) :
    Attained (.max args) (emaxL xs) := by
  obtain ⟨ρ, ok, ev⟩ := w
  subst hxs
  obtain ⟨m, hm⟩ := listMax_some (mt (congrArg (List.map ExtInt.fin)) hne)
  exact ⟨m, emaxL_fins (listMax_isMax hm), ρ, ok, by simp [eval, ev, valsInts_map, hm]⟩

theorem max_tight {args : List Expr} {avs : List AVal} (hne : avs ≠ [])
    (habs : absList args = some (avs.map .int)) (hinv : ∀ a ∈ avs, InvS a)
    (ht : TightList args avs) :
    ∃ a, abs (.max args) = some (.int a) ∧ InvS a ∧ TightAt (.max args) a := by
  obtain ⟨los, his, hlos, hhis, w1, w2⟩ := ht
  obtain ⟨a, ha, hia⟩ := maxFn_inv hne hinv
  obtain ⟨hmn, hmx⟩ := maxFn_ends ha
  exact ⟨a, by simp [abs, habs, absMax, atypeInts_map, ha], hia,
    hmn ▸ max_attained hlos (mt List.map_eq_nil_iff.mp hne) w1,
    hmx ▸ max_attained hhis (mt List.map_eq_nil_iff.mp hne) w2⟩

/-- by induction along `LinOnce`: its clauses are the only forms in the fragment -/
theorem tight_both :
    (∀ e, LinOnce e = true → ∃ a, abs e = some (.int a) ∧ InvS a ∧ TightAt e a) ∧
    ∀ es, LinOnceList es = true →
      ∃ avs, absList es = some (avs.map .int) ∧ (∀ a ∈ avs, InvS a) ∧ TightList es avs := by
  refine LinOnce.mutual_induct _ _ ?_ ?_ ?_ ?_ ?_ ?_ ?_ ?_
  · exact fun c _ => ⟨constRange c, rfl, Or.inl ⟨c, rfl⟩,
      ⟨c, rfl, ⟨fun _ => 0, fun _ => false, fun _ => 0⟩, trivial, rfl⟩,
      ⟨c, rfl, ⟨fun _ => 0, fun _ => false, fun _ => 0⟩, trivial, rfl⟩⟩
  · intro id k s h
    simp only [LinOnce, decide_eq_true_eq] at h
    exact ⟨leafRange k (some s), rfl, leafRange_invS k (some s), leaf_tight id k s h⟩
  · exact fun _ _ h => nomatch h
  · intro op l r ihl ihr h
    simp only [LinOnce, Bool.and_eq_true] at h
    obtain ⟨⟨⟨hop, hl⟩, hr⟩, hd⟩ := h
    obtain ⟨al, habl, hil, htl⟩ := ihl hl
    obtain ⟨ar, habr, hir, htr⟩ := ihr hr
    exact bin_tight hop hl hd habl hil htl habr hir htr
  · intro args ih h
    simp only [LinOnce, Bool.and_eq_true] at h
    obtain ⟨hne, hl⟩ := h
    obtain ⟨avs, habs, hinv, ht⟩ := ih hl
    exact max_tight (absList_ne_nil hne habs) habs hinv ht
  · intro t h1 h2 h3 h4 h
    simp [LinOnce, *] at h
  · exact fun _ => ⟨[], rfl, (fun a ha => nomatch ha), [], [], rfl, rfl,
      ⟨⟨fun _ => 0, fun _ => false, fun _ => 0⟩, trivial, rfl⟩,
      ⟨⟨fun _ => 0, fun _ => false, fun _ => 0⟩, trivial, rfl⟩⟩
  · intro e es ihe ihes h
    simp only [LinOnceList, Bool.and_eq_true] at h
    obtain ⟨⟨he, hes⟩, hd⟩ := h
    obtain ⟨a, habs, hia, ⟨lo, hmin, w1⟩, ⟨hi, hmax, w2⟩⟩ := ihe he
    obtain ⟨avs, habss, hinv, los, his, hlos, hhis, ws1, ws2⟩ := ihes hes
    exact ⟨a :: avs, by simp [absList, habs, habss], List.forall_mem_cons.mpr ⟨hia, hinv⟩,
      lo :: los, hi :: his, by simp [hmin, hlos], by simp [hmax, hhis],
      merge_cons he hd w1 ws1, merge_cons he hd w2 ws2⟩

theorem tight_aux : (e : Expr) → LinOnce e = true →
    ∃ a, abs e = some (.int a) ∧ InvS a ∧ TightAt e a :=
  tight_both.1

theorem tightList_aux : (es : List Expr) → LinOnceList es = true →
    ∃ avs, absList es = some (avs.map .int) ∧ (∀ a ∈ avs, InvS a) ∧ TightList es avs :=
  tight_both.2

/-! ### `?:` whose condition is independent of the branches

The branches are in the single-occurrence fragment and mention disjoint leaves, the condition
mentions none of their leaves, is not folded by the analysis, and can evaluate to `true` as well
as to `false`.  Then both ends of the inferred hull are attained. -/

theorem merge_choice {c t f : Expr} (ht : LinOnce t = true) (hf : LinOnce f = true)
    (hdtf : disjoint (ivars t) (ivars f) = true)
    (hdtc : disjoint (ivars t) (ivars c) = true) (hdfc : disjoint (ivars f) (ivars c) = true)
    {x y : ExtInt} (hx : Attained t x) (hy : Attained f y)
    (hT : ∃ ρ, EnvOk ρ c ∧ eval ρ c = some (.bool true))
    (hF : ∃ ρ, EnvOk ρ c ∧ eval ρ c = some (.bool false)) :
    ∀ z ∈ [x, y], Attained (.choice c t f) z := by
  obtain ⟨vx, rfl, ρt, okt, evt⟩ := hx
  obtain ⟨vy, rfl, ρf, okf, evf⟩ := hy
  have key : ∀ b, (∃ ρ, EnvOk ρ c ∧ eval ρ c = some (.bool b)) →
      ∃ ρ, EnvOk ρ (.choice c t f) ∧ eval ρ (.choice c t f) = some (if b then .int vx else .int vy) := by
    intro b ⟨ρc, okc, evc⟩
    obtain ⟨ρ', hf', hc', -⟩ := transplant hf ρf ρc
    obtain ⟨ρ, ht', hr, -⟩ := transplant ht ρt ρ'
    exact ⟨ρ, ⟨(hr c hdtc).2.mpr ((hc' c hdfc).2.mpr okc), ht'.2.mpr okt,
        (hr f hdtf).2.mpr (hf'.2.mpr okf)⟩,
      by simp only [eval, ht'.1, (hr f hdtf).1, hf'.1, (hr c hdtc).1, (hc' c hdfc).1, evt, evf, evc]⟩
  exact List.forall_mem_cons.mpr ⟨⟨vx, rfl, key true hT⟩,
    List.forall_mem_singleton.mpr ⟨vy, rfl, key false hF⟩⟩

theorem choice_tight {c t f : Expr} (ht : LinOnce t = true) (hf : LinOnce f = true)
    (hdtf : disjoint (ivars t) (ivars f) = true)
    (hdtc : disjoint (ivars t) (ivars c) = true) (hdfc : disjoint (ivars f) (ivars c) = true)
    (hc : abs c = some (.bool none))
    (hT : ∃ ρ, EnvOk ρ c ∧ eval ρ c = some (.bool true))
    (hF : ∃ ρ, EnvOk ρ c ∧ eval ρ c = some (.bool false)) :
    ∃ a, abs (.choice c t f) = some (.int a) ∧ InvS a ∧ TightAt (.choice c t f) a := by
  obtain ⟨at', habt, hit, htt⟩ := tight_aux t ht
  obtain ⟨af, habf, hif, htf⟩ := tight_aux f hf
  obtain ⟨a, ha, hia⟩ := choiceHull_inv hit hif
  obtain ⟨hmn, hmx, _⟩ := choiceHull_shape ha
  have lo := merge_choice ht hf hdtf hdtc hdfc htt.1 htf.1 hT hF
  have hi := merge_choice ht hf hdtf hdtc hdfc htt.2 htf.2 hT hF
  exact ⟨a, by simp [abs, hc, habt, habf, absChoice, ha], hia,
    lo _ (eminL_mem hmn.symm hia.minNe), hi _ (emaxL_mem hmx.symm hia.maxNe)⟩

end Emboss.Bounds
