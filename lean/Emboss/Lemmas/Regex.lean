/-
Lemmas about the backtracking matcher (C10).  One fact, `matchK_rel`: the matcher is parametric
in its continuation on the rests of matches of the pattern.  From it fuel sufficiency and
soundness with respect to the declarative language (`matchK_handsOn`), `matchK_congr` and the
fuel-free unfolding of a repetition `matchK_rep`.  Then the equations of the matcher on the
basic forms and `span`, the run of a class at the front of a text.
-/
import Emboss.Model.Regex
import Emboss.Spec.Regex
namespace Emboss.Regex

/-- Related answers fail together, so "the first answer that is not `fail`" goes the same way. -/
structure FailRel (Rel : MRes → MRes → Prop) : Prop where
  fail : Rel .fail .fail
  iff : ∀ {x y}, Rel x y → (x = .fail ↔ y = .fail)

theorem FailRel.eq : FailRel Eq := ⟨rfl, fun h => h ▸ Iff.rfl⟩

theorem FailRel.orElse {Rel} (hR : FailRel Rel) {x y x' y' : MRes} : Rel x y → Rel x' y' →
    Rel (match x with | .fail => x' | r => r) (match y with | .fail => y' | r => r) := by
  intro h h'
  cases x with
  | fail => obtain rfl := (hR.iff h).mp rfl; exact h'
  | _ =>
    cases y with
    | fail => exact absurd ((hR.iff h).mpr rfl) MRes.noConfusion
    | _ => exact h

/-- The fuel, once it exceeds the length of the text, does not bear on the answer. -/
theorem repK_rel {Rel} (hR : FailRel Rel) (r : Regex) (body : List Char → (List Char → MRes) → MRes)
    (hbody : ∀ s k k', (∀ p t, s = p ++ t → Lang r p t → Rel (k' t) (k t)) → Rel (body s k') (body s k)) :
    ∀ f f' mn mx s k k', s.length < f → s.length < f' →
      (∀ p t, s = p ++ t → Lang (.rep r mn mx) p t → Rel (k' t) (k t)) →
      Rel (repK body f mn mx s k') (repK body f' mn mx s k) := by
  intro f
  induction f with
  | zero => exact fun _ _ _ _ _ _ h => absurd h (Nat.not_lt_zero _)
  | succ n ih =>
    intro f' mn mx s k k' hf hf' hk
    cases f' with
    | zero => exact absurd hf' (Nat.not_lt_zero _)
    | succ n' =>
      have hstop : Rel (if mn = 0 then k' s else MRes.fail) (if mn = 0 then k s else .fail) := by
        split
        · rename_i h0; subst h0; exact hk [] s rfl .repStop
        · exact hR.fail
      unfold repK
      split
      · exact hstop
      · rename_i hmx
        refine hR.orElse (hbody s _ _ fun p t hs hl => ?_) hstop
        split
        · rename_i hlt
          exact ih n' _ _ t k k' (Nat.lt_of_lt_of_le hlt (Nat.le_of_lt_succ hf))
            (Nat.lt_of_lt_of_le hlt (Nat.le_of_lt_succ hf')) fun p' u hs' hl' =>
            hk (p ++ p') u (by rw [hs, hs', List.append_assoc]) (.repIter hmx (hs' ▸ hl) hl')
        · exact hR.fail

/-- The matcher calls its continuation only on the rests of matches of `r`, and with an answer
does no more than hand it on or, when it is `fail`, try the next choice. -/
theorem matchK_rel {Rel} (hR : FailRel Rel) (r : Regex) :
    ∀ s k k', (∀ p t, s = p ++ t → Lang r p t → Rel (k' t) (k t)) →
      Rel (matchK r s k') (matchK r s k) := by
  induction r with
  | eps => exact fun s k k' hk => hk [] s rfl (.eps s)
  | chr c =>
    intro s k k' hk
    cases s with
    | nil => exact hR.fail
    | cons x t =>
      simp only [matchK]
      split
      · rename_i hm; exact hk [x] t rfl (.chr c x t hm)
      · exact hR.fail
  | seq a b iha ihb =>
    exact fun s k k' hk => iha s _ _ fun p t hs hl => ihb t k k' fun p' u hs' hl' =>
      hk (p ++ p') u (by rw [hs, hs', List.append_assoc]) (.seq (hs' ▸ hl) hl')
  | alt a b iha ihb =>
    exact fun s k k' hk => hR.orElse (iha s k k' fun p t hs hl => hk p t hs (.altL hl))
      (ihb s k k' fun p t hs hl => hk p t hs (.altR hl))
  | rep r mn mx ih =>
    exact fun s k k' hk => repK_rel hR r _ ih _ _ mn mx s k k' (Nat.lt_succ_self _) (Nat.lt_succ_self _) hk
  | eol =>
    intro s k k' hk
    simp only [matchK]
    split
    · rename_i he; exact hk [] s rfl (.eol he)
    · exact hR.fail

/-- The matcher asks of its continuation only what it answers on the rests of matches of `r`. -/
theorem matchK_congr (r : Regex) : ∀ s k k', (∀ p t, s = p ++ t → Lang r p t → k' t = k t) →
    matchK r s k' = matchK r s k :=
  matchK_rel .eq r

/-- An answer other than `fail` is the continuation's answer on what is left after some match of
`r`.  Soundness is the case of an `ok`, fuel sufficiency that of `fuel`. -/
theorem matchK_handsOn {r : Regex} {s : List Char} {k : List Char → MRes} {x : MRes}
    (h : matchK r s k = x) (hx : x ≠ .fail) :
    ∃ pre rest, s = pre ++ rest ∧ Lang r pre rest ∧ k rest = x :=
  have := matchK_rel
    (Rel := fun a b => a = b ∧ (a = .fail ∨ ∃ pre rest, s = pre ++ rest ∧ Lang r pre rest ∧ k rest = a))
    ⟨⟨rfl, .inl rfl⟩, fun h => h.1 ▸ Iff.rfl⟩ r s k k fun p t hs hl => ⟨rfl, .inr ⟨p, t, hs, hl, rfl⟩⟩
  h ▸ this.2.resolve_left (h ▸ hx)

theorem matchLen_no_fuel (r : Regex) (s : List Char) : matchLen r s ≠ .fuel := fun h =>
  let ⟨_, _, _, _, hk⟩ := matchK_handsOn h MRes.noConfusion
  MRes.noConfusion hk

theorem matchLen_sound (r : Regex) (s : List Char) (n : Nat) (h : matchLen r s = .ok n) :
    MatchesLen r s n := by
  obtain ⟨pre, rest, hs, hl, hk⟩ := matchK_handsOn h MRes.noConfusion
  simp only [MRes.ok.injEq] at hk
  subst hs
  have hn : n = pre.length := by simp at hk; omega
  subst hn
  refine ⟨by simp, ?_⟩
  simpa using hl

theorem matchLen_le (r : Regex) (s : List Char) (n : Nat) (h : matchLen r s = .ok n) :
    n ≤ s.length := (matchLen_sound r s n h).1

theorem matchK_rep (r : Regex) (mn : Nat) (mx : Option Nat) (s : List Char) (k : List Char → MRes) :
    matchK (.rep r mn mx) s k =
      if mx = some 0 then (if mn = 0 then k s else .fail)
      else
        match matchK r s (fun rest =>
            if rest.length < s.length then matchK (.rep r (mn - 1) (mx.map (· - 1))) rest k
            else .fail) with
        | .fail => if mn = 0 then k s else .fail
        | x => x := by
  conv => lhs; simp only [matchK]; unfold repK
  congr 2
  refine congrArg (matchK r s) (funext fun rest => ?_)
  split
  · rename_i hr
    exact repK_rel .eq r _ (matchK_congr r) _ _ _ _ rest k k hr (Nat.lt_succ_self _) fun _ _ _ _ => rfl
  · rfl

/-- Span of a class at the front of a string. -/
def span (c : CClass) (s : List Char) : Nat := (s.takeWhile c.mem).length

@[simp] theorem span_nil (c : CClass) : span c [] = 0 := rfl
theorem span_cons (c : CClass) (x : Char) (t : List Char) :
    span c (x :: t) = if c.mem x then span c t + 1 else 0 := by
  simp only [span, List.takeWhile_cons]; split <;> simp

theorem span_le (c : CClass) (s : List Char) : span c s ≤ s.length :=
  (List.takeWhile_prefix c.mem).length_le

/-! ### The matcher on the basic forms -/

@[simp] theorem matchK_chr_nil (c : CClass) (k : List Char → MRes) : matchK (.chr c) [] k = .fail := rfl

@[simp] theorem matchK_chr_cons (c : CClass) (x : Char) (t : List Char) (k : List Char → MRes) :
    matchK (.chr c) (x :: t) k = if c.mem x then k t else .fail := rfl

@[simp] theorem matchK_seq (a b : Regex) (s : List Char) (k : List Char → MRes) :
    matchK (.seq a b) s k = matchK a s (fun t => matchK b t k) := rfl

@[simp] theorem matchK_eps (s : List Char) (k : List Char → MRes) : matchK .eps s k = k s := rfl

theorem matchK_alt (a b : Regex) (s : List Char) (k : List Char → MRes) :
    matchK (.alt a b) s k = match matchK a s k with | .fail => matchK b s k | x => x := rfl

theorem rep_chr_nil (c : CClass) (mn : Nat) (mx : Option Nat) (k : List Char → MRes) :
    matchK (.rep (.chr c) mn mx) [] k = if mn = 0 then k [] else .fail := by
  rw [matchK_rep]; simp

theorem rep_chr_cons (c : CClass) (mn : Nat) (mx : Option Nat) (x : Char) (t : List Char)
    (k : List Char → MRes) :
    matchK (.rep (.chr c) mn mx) (x :: t) k =
      match (if mx ≠ some 0 ∧ c.mem x = true then matchK (.rep (.chr c) (mn - 1) (mx.map (· - 1))) t k
        else .fail) with
      | .fail => if mn = 0 then k (x :: t) else .fail
      | r => r := by
  rw [matchK_rep]
  by_cases h0 : mx = some 0
  · simp [h0]
  · by_cases hc : c.mem x = true
    · simp [h0, hc]
    · simp [h0, hc]

end Emboss.Regex
