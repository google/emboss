/-
Helper lemmas for C06: reader model ∘ writer model at the text level.  For a value tree of
static shape, at a cursor that sees the writer's pieces, `readVal` / `readElems` / `readFields`
return the tree's emitted leaves and leave the cursor behind the pieces, unless an array with two
or more written elements is written in multi-line mode: then `afterElem` finds the `[` of the
next index marker where `ReadArrayFromTextStream` wants `,` or `}`, and the enclosing readers hand
the failure up (`Reads`; one mutual structural induction over `TVal`/`TVals`/`TFields`; the
single-line array loop `read_elemsSL` never meets that case and is stated for success only).
The fuel section shows that `updateFromText`'s fuel covers the writer's text (`need_val`);
`updateFromText_reads`, which the property theorems use, is `reads_val` at the initial cursor with that fuel.
-/
import Emboss.Lemmas.TextRoundScalar
namespace Emboss.Text

/-! ## Reader steps at a cursor

`readX_case`: one step of the model function `readX`; `read_part`: the reader on the pieces the writer's `part` made. -/

theorem read_marker {r : List Char} {k : Kind} (o : Opts) (i : Nat) (X : List Piece)
    (hi : i < 2 ^ 64) (h : At r k (indexMarker o i ++ X)) :
    ∃ rest r3, discardWs false r = '[' :: rest ∧ readMarker rest = some (i, r3) ∧ At r3 .other X := by
  simp only [indexMarker, List.cons_append, List.nil_append] at h
  obtain ⟨_, hpeek, h1⟩ := h.punct
  obtain ⟨hr1, _, h2⟩ := h1.word
  obtain ⟨hr2, _, h3⟩ := h2.punct
  obtain ⟨hr3, _, h4⟩ := h3.punct
  refine ⟨_, _, hpeek, ?_, h4.skip_space⟩
  have hin : IntTy.u64.InRange (i : Int) := by
    simp only [IntTy.InRange, IntTy.minVal, IntTy.maxVal]
    have : (2 : Nat) ^ 64 = 18446744073709551616 := by decide
    omega
  simp [readMarker, hr1, decodeInt_writeInt_any .u64 .u64 i o.base o.grouping hin, hr2, hr3]

theorem afterElem_comma {r : List Char} {k : Kind} {X : List Piece} (h : At r k (.punct ',' :: X)) :
    afterElem r = some (render X) ∧ At (render X) .other X := by
  obtain ⟨_, hpeek, h1⟩ := h.punct
  exact ⟨by simp [afterElem, hpeek], h1⟩

theorem afterElem_close {r : List Char} {k : Kind} {sp : List Char} {X : List Piece}
    (h : At r k (.space sp :: .punct '}' :: X)) :
    ∃ r3, afterElem r = some r3 ∧ At r3 k (.space sp :: .punct '}' :: X) := by
  obtain ⟨_, hpeek, _⟩ := h.skip_space.punct
  exact ⟨'}' :: render X, by simp [afterElem, hpeek], h.of_peek hpeek⟩

theorem afterElem_bracket {r : List Char} {k : Kind} {X : List Piece} (h : At r k (.punct '[' :: X)) :
    afterElem r = none := by
  obtain ⟨_, hpeek, _⟩ := h.punct
  simp [afterElem, hpeek]

theorem readElems_end {r : List Char} {k : Kind} {sp : List Char} {R : List Piece} (fuel count : Nat)
    (elem : RShape) (path : List Char) (idx : Nat) (h : At r k (.space sp :: .punct '}' :: R)) :
    readElems (fuel + 1) count elem path idx r = .ok [] (render R) ∧ At (render R) .other R := by
  obtain ⟨_, hpeek, h1⟩ := h.skip_space.punct
  exact ⟨by simp [readElems, hpeek], h1⟩

theorem readFields_end {r : List Char} {k : Kind} {sp : List Char} {R : List Piece} (fuel : Nat)
    (rfs : RFields) (path : List Char) (h : At r k (.space sp :: .punct '}' :: R)) :
    readFields (fuel + 1) rfs path r = .ok [] (render R) ∧ At (render R) .other R := by
  obtain ⟨hr, _, h1⟩ := h.skip_space.punct
  exact ⟨by simp [readFields, readFieldName, hr], h1⟩

theorem validWord_ne_punct {w : List Char} (hw : ValidWord w) (c : Char) (hc : isPunct c = true) :
    w ≠ [c] := by
  intro h
  subst h
  have := hw.2 c (by simp)
  simp [isDelim, hc] at this

theorem readFieldName_word {r : List Char} {k : Kind} {w : List Char} {X : List Piece}
    (h : At r k (.word w :: X)) : readFieldName r = (w, render X) ∧ At (render X) .word X := by
  obtain ⟨hr, _, h1⟩ := h.word
  have hw : ValidWord w := h.ws.1
  have := validWord_ne_punct hw ',' (by decide)
  exact ⟨by simp [readFieldName, hr, this], h1⟩

theorem readFieldName_comma_word {r : List Char} {k : Kind} {w s : List Char} {X : List Piece}
    (h : At r k (.punct ',' :: .space s :: .word w :: X)) :
    readFieldName r = (w, render X) ∧ At (render X) .word X := by
  obtain ⟨hr, _, h1⟩ := h.punct
  obtain ⟨hr2, _, h2⟩ := h1.skip_space.word
  exact ⟨by simp [readFieldName, hr, hr2], h2⟩

/-- The lead of a field clause in any layout (fresh line; `, `; blank) leaves the name to be read. -/
theorem readFieldName_lead {r : List Char} {k : Kind} {ml wrote : Bool} {s1 s2 s3 w : List Char}
    {X : List Piece}
    (h : At r k ((if ml = true then [.space s1] else if wrote = true then [.punct ',', .space s2]
      else [.space s3]) ++ (.word w :: X))) :
    readFieldName r = (w, render X) ∧ At (render X) .word X := by
  cases ml
  · cases wrote
    · exact readFieldName_word h.skip_space
    · exact readFieldName_comma_word h
  · exact readFieldName_word h.skip_space

theorem peek_val {r : List Char} {k : Kind} (o : Opts) (v : TVal) (X : List Piece)
    (h : At r k (writeVal o v ++ X)) :
    ∃ c rest, discardWs false r = c :: rest ∧ c ≠ '}' ∧ c ≠ '[' := by
  obtain ⟨ps, hp | ⟨w, hp⟩⟩ := writeVal_head o v
  · rw [hp, List.cons_append] at h
    exact ⟨'{', _, h.punct.2.1, by decide, by decide⟩
  · rw [hp, List.cons_append] at h
    have hw : ValidWord w := h.ws.1
    obtain ⟨hne, hall⟩ := hw
    cases w with
    | nil => exact absurd rfl hne
    | cons c w =>
      have hc : isDelim c = false := hall c (by simp)
      refine ⟨c, _, h.word.2.1, ?_, ?_⟩ <;> (intro hx; subst hx; exact absurd hc (by decide))

/-! ## Inversions of `Matches` -/

theorem matches_scalar {s : RShape} {sc : Scalar} (h : Matches s (.scalar sc)) :
    ∃ rs, s = .scalar rs ∧ ScalarMatches rs sc := by
  cases s with
  | scalar rs => exact ⟨rs, rfl, by simpa [Matches] using h⟩
  | _ => exact absurd h (by simp [Matches])

theorem matches_arr {s : RShape} {a : Bool} {vs : TVals} (h : Matches s (.arr a vs)) :
    ∃ count elem, s = .arr count elem ∧ vs.length = count ∧ count < 2 ^ 64 ∧ MatchesAll elem vs := by
  cases s with
  | arr count elem => exact ⟨count, elem, rfl, by simpa [Matches] using h⟩
  | _ => exact absurd h (by simp [Matches])

theorem matches_struct {s : RShape} {fs : TFields} (h : Matches s (.struct fs)) :
    ∃ rfs, s = .struct rfs ∧ MatchesFields rfs fs := by
  cases s with
  | struct rfs => exact ⟨rfs, rfl, by simpa [Matches] using h⟩
  | _ => exact absurd h (by simp [Matches])

/-! ## One turn of the reader's loops, and results that are determined -/

/-- Sequencing of reader results as in the loops of `readElems` / `readFields`. -/
def RRes.andThen (res : RRes) (k : List Char → RRes) : RRes :=
  match res with
  | .ok w1 r =>
    match k r with
    | .ok w2 r' => .ok (w1 ++ w2) r'
    | e => e
  | e => e

theorem readVal_arr {fuel count : Nat} {elem : RShape} {path text rest : List Char}
    (h : readToken text = (['{'], rest)) :
    readVal (fuel + 1) (.arr count elem) path text = readElems fuel count elem path 0 rest := by
  simp only [readVal, h]

theorem readVal_struct {fuel : Nat} {rfs : RFields} {path text rest : List Char}
    (h : readToken text = (['{'], rest)) :
    readVal (fuel + 1) (.struct rfs) path text = readFields fuel rfs path rest := by
  simp only [readVal, h]

theorem readElems_elem {fuel count index idx : Nat} {elem : RShape} {path text rest r : List Char}
    {c : Char} (hpeek : discardWs false text = c :: rest) (hc : c ≠ '}')
    (hmk : (if c = '[' then readMarker rest else some (index, c :: rest)) = some (idx, r))
    (hlt : idx < count) :
    readElems (fuel + 1) count elem path index text =
      (readVal fuel elem (pathIdx path idx) r).andThen fun r' =>
        match afterElem r' with
        | none => .fail
        | some r3 => readElems fuel count elem path (idx + 1) r3 := by
  simp only [readElems, hpeek, hc, if_false, hmk, Nat.not_le.mpr hlt, pathIdx]
  cases readVal fuel elem _ r with
  | ok w1 r' =>
    dsimp only [RRes.andThen]
    -- `andThen` hands on the `.fail` of a missing separator
    cases afterElem r' <;> rfl
  | _ => rfl

theorem readFields_field {fuel : Nat} {rfs : RFields} {s : RShape} {path text name r1 r2 : List Char}
    (hn : readFieldName text = (name, r1)) (hne : name ≠ ['}']) (hcol : readToken r1 = ([':'], r2))
    (hfind : findField rfs name = some s) :
    readFields (fuel + 1) rfs path text =
      (readVal fuel s (pathField path name) r2).andThen (readFields fuel rfs path) := by
  simp only [readFields, hn, hne, hcol, hfind, pathField]
  rfl

/-- What the reader makes of a part of the writer's text: the writes `ws`, leaving a rest that
satisfies `P`, exactly when `good` holds; a clean failure otherwise. -/
structure Reads (good : Prop) (res : RRes) (ws : List Write) (P : List Char → Prop) : Prop where
  of_good : good → ∃ r', res = .ok ws r' ∧ P r'
  of_bad : ¬ good → res = .fail

namespace Reads
variable {g g' : Prop} {res : RRes} {ws : List Write} {P Q : List Char → Prop}

theorem ok {r' : List Char} (hg : g) (h : res = .ok ws r') (hP : P r') : Reads g res ws P :=
  ⟨fun _ => ⟨r', h, hP⟩, fun hn => absurd hg hn⟩

theorem fail (hn : ¬ g) (h : res = .fail) : Reads g res ws P :=
  ⟨fun hg => absurd hg hn, fun _ => h⟩

theorem iff (h : Reads g res ws P) (hg : g ↔ g') : Reads g' res ws P :=
  ⟨fun x => h.of_good (hg.2 x), fun x => h.of_bad fun y => x (hg.1 y)⟩

theorem mono (h : Reads g res ws P) (hP : ∀ r, P r → Q r) : Reads g res ws Q :=
  ⟨fun x => (h.of_good x).imp fun _ hr => ⟨hr.1, hP _ hr.2⟩, h.of_bad⟩

theorem andThen {g2 : Prop} {k : List Char → RRes} {w2 : List Write} (h1 : Reads g res ws P)
    (h2 : ∀ r, P r → Reads g2 (k r) w2 Q) : Reads (g ∧ g2) (res.andThen k) (ws ++ w2) Q := by
  constructor
  · rintro ⟨hg1, hg2⟩
    obtain ⟨r, hr, hP⟩ := h1.of_good hg1
    obtain ⟨r', hr', hQ⟩ := (h2 r hP).of_good hg2
    exact ⟨r', by simp only [RRes.andThen, hr, hr'], hQ⟩
  · intro hn
    by_cases hg1 : g
    · obtain ⟨r, hr, hP⟩ := h1.of_good hg1
      simp only [RRes.andThen, hr, (h2 r hP).of_bad fun hg2 => hn ⟨hg1, hg2⟩]
    · simp only [RRes.andThen, h1.of_bad hg1]
end Reads

/-! ## The induction along the value tree -/

theorem fuel_succ {n fuel : Nat} (h : 1 + n ≤ fuel) : ∃ f, fuel = f + 1 ∧ n ≤ f :=
  ⟨fuel - 1, by omega, by omega⟩

/-- Behind an element of a multi-line list the rest is read iff nothing more is written: the loop
ends at `}`, whereas `afterElem` refuses the `[` of a next index marker. -/
theorem reads_afterML {fuel count idx : Nat} {elem : RShape} {path sp : List Char} {R : List Piece}
    (o : Opts) : ∀ (vs : TVals) (i : Nat) (k : Kind) (r : List Char), needElems vs ≤ fuel →
    At r k (writeElemsML o i vs ++ (.space sp :: .punct '}' :: R)) →
    Reads (vs.written = 0 ∧ vs.SmallArrays)
      (match afterElem r with
        | none => .fail
        | some r3 => readElems fuel count elem path idx r3)
      (writesElems path i vs) fun r' => At r' .other R
  | .nil => by
    intro i k r hf h
    obtain ⟨f, rfl, _⟩ := fuel_succ (n := 0) hf
    rw [writeElemsML, List.nil_append] at h
    obtain ⟨r3, ha, h4⟩ := afterElem_close h
    obtain ⟨hr4, h5⟩ := readElems_end f count elem path idx h4
    exact .ok ⟨rfl, trivial⟩ (by simp only [ha, hr4, writesElems]) h5
  | .skip vs => by
    intro i k r hf h
    rw [writeElemsML, List.append_assoc] at h
    rw [writesElems]
    exact reads_afterML o vs (i + 1) _ r hf (h.skip (by split <;> rfl))
  | .cons v vs => by
    intro i k r hf h
    simp only [writeElemsML, indexMarker, List.cons_append] at h
    exact .fail (fun hg => nomatch hg.1) (by rw [afterElem_bracket h.skip_space])

mutual
theorem reads_val : ∀ (v : TVal) (s : RShape) (o : Opts) (path r : List Char) (fuel : Nat) (k : Kind)
    (R : List Piece), o.Rereadable → v.WF → Matches s v → needVal v ≤ fuel →
    At r k (writeVal o v ++ R) →
    Reads (noMultilineArray o v) (readVal fuel s path r) (writesVal path v)
      fun r' => At r' (lastKind k (writeVal o v)) R
  | .scalar sc => by
    intro s o path r fuel k R ho hv hm hf h
    obtain ⟨rs, rfl, hms⟩ := matches_scalar hm
    obtain ⟨f, rfl, _⟩ := fuel_succ (n := 0) hf
    rw [writeVal] at h ⊢
    obtain ⟨r', hr, hat⟩ := read_scalar o sc rs path r k R hv hms h
    exact .ok (fun _ => trivial) hr hat
  | .arr a vs => by
    intro s o path r fuel k R ho hv hm hf h
    obtain ⟨count, elem, rfl, hlen, hcnt, hall⟩ := matches_arr hm
    obtain ⟨f, rfl, hf'⟩ := fuel_succ (n := needElems vs) hf
    rw [writeVal] at h
    by_cases hml : o.multiline = true
    · simp only [hml, if_true, List.cons_append, List.append_assoc] at h
      obtain ⟨hread, _, h1⟩ := h.punct
      have h2 := h1.skip (by split <;> first | rfl | exact toks_asciiLines _ _ _)
      rw [readVal_arr hread, writesVal, lastKind_arr]
      exact (reads_elemsML vs elem o path _ f 0 0 count _ _ R ho hml hv hall (by omega) hcnt hf'
        h2).iff ⟨fun hg _ => hg, fun hg => hg hml⟩
    · have hsl : o.multiline = false := by simpa using hml
      simp only [hsl, Bool.false_eq_true, if_false, List.cons_append, List.append_assoc] at h
      obtain ⟨hread, _, h1⟩ := h.punct
      obtain ⟨r', hr', hat⟩ := read_elemsSL vs elem o path _ f 0 false 0 count _ _ R ho hsl hv hall
        (by omega) hcnt (fun _ => rfl) hf' h1
      rw [readVal_arr hread, writesVal, lastKind_arr]
      exact .ok (fun h => absurd h hml) hr' hat
  | .struct fs => by
    intro s o path r fuel k R ho hv hm hf h
    obtain ⟨rfs, rfl, hmf⟩ := matches_struct hm
    obtain ⟨f, rfl, hf'⟩ := fuel_succ (n := needFields fs) hf
    rw [writeVal] at h
    rw [writesVal, lastKind_struct]
    by_cases hml : o.multiline = true
    · simp only [hml, if_true, List.cons_append, List.append_assoc, List.nil_append] at h
      obtain ⟨hread, _, h1⟩ := h.punct
      rw [readVal_struct hread]
      exact reads_fields fs rfs o false path _ f _ _ R ho hv hmf hf' h1.skip_space
    · simp only [hml, List.append_assoc] at h
      obtain ⟨hread, _, h1⟩ := h.punct
      rw [readVal_struct hread]
      exact reads_fields fs rfs o false path _ f _ _ R ho hv hmf hf' h1

theorem read_elemsSL : ∀ (vs : TVals) (elem : RShape) (o : Opts) (path r : List Char)
    (fuel i : Nat) (skipped : Bool) (idx count : Nat) (k : Kind) (sp : List Char) (R : List Piece),
    o.Rereadable → o.multiline = false → vs.WF → MatchesAll elem vs → i + vs.length = count →
    count < 2 ^ 64 → (skipped = false → idx = i) →
    needElems vs ≤ fuel → At r k (writeElemsSL o i skipped vs ++ (.space sp :: .punct '}' :: R)) →
    ∃ r', readElems fuel count elem path idx r = .ok (writesElems path i vs) r' ∧ At r' .other R
  | .nil => by
    intro elem o path r fuel i skipped idx count k sp R ho hsl hvs hall hcount hc64 hidx hf h
    obtain ⟨f, rfl, _⟩ := fuel_succ (n := 0) hf
    rw [writeElemsSL, List.nil_append] at h
    exact ⟨_, readElems_end f count elem path idx h⟩
  | .skip vs => by
    intro elem o path r fuel i skipped idx count k sp R ho hsl hvs hall hcount hc64 hidx hf h
    have hlen : i + (vs.length + 1) = count := hcount
    rw [writeElemsSL, List.append_assoc] at h
    exact read_elemsSL vs elem o path r fuel (i + 1) true idx count _ sp R ho hsl hvs hall
      (by omega) hc64 (fun h => absurd h (by decide)) hf (h.skip (by split <;> rfl))
  | .cons v vs => by
    intro elem o path r fuel i skipped idx count k sp R ho hsl hvs hall hcount hc64 hidx hf h
    obtain ⟨hv, hvs'⟩ : v.WF ∧ vs.WF := hvs
    obtain ⟨hmv, hall'⟩ : Matches elem v ∧ MatchesAll elem vs := hall
    obtain ⟨f, rfl, hf'⟩ := fuel_succ (n := needVal v + needElems vs) (by rw [← Nat.add_assoc]; exact hf)
    have hlen : i + (vs.length + 1) = count := hcount
    have hic : i < count := by omega
    rw [writeElemsSL] at h
    simp only [List.cons_append, List.append_assoc] at h
    have h1 := h.skip_space
    -- the element is found through its index marker or, if none is written, through the reader's running
    -- index `idx`, which is the element's index as long as nothing was skipped since the last marker
    have hA : ∃ c rest r2, discardWs false r = c :: rest ∧ c ≠ '}' ∧
        (if c = '[' then readMarker rest else some (idx, c :: rest)) = some (i, r2) ∧
        At r2 .other (writeVal o.plusOne v ++ ((if vs.isNil = true then [] else [Piece.punct ',']) ++
          (writeElemsSL o (i + 1) false vs ++ (.space sp :: .punct '}' :: R)))) := by
      by_cases hi8 : i % 8 = 0 ∨ skipped = true
      · simp only [hi8, if_true] at h1
        obtain ⟨rest, r3, hpeek, hmk, hat⟩ := read_marker o i _ (Nat.lt_trans hic hc64) h1
        exact ⟨'[', rest, r3, hpeek, by decide, by simpa using hmk, hat⟩
      · simp only [hi8, if_false, List.nil_append] at h1
        have hsk : skipped = false := Bool.eq_false_iff.mpr fun hs => hi8 (Or.inr hs)
        obtain ⟨c, rest, hpeek, hc1, hc2⟩ := peek_val o.plusOne v _ h1
        exact ⟨c, rest, c :: rest, hpeek, hc1, by simp [hc2, hidx hsk], h1.of_peek hpeek⟩
    obtain ⟨c, rest, r2, hpeek, hc, hmk, h2⟩ := hA
    obtain ⟨r', hr', h3⟩ := (reads_val v elem o.plusOne (pathIdx path i) r2 f .other _ ho.plusOne hv hmv
      (Nat.le_of_add_right_le hf') h2).of_good (fun h => absurd h (by simp [Opts.plusOne, hsl]))
    -- behind the element `afterElem` meets the `,` or, after the last element, the closing `}`
    have hB : ∃ r3 k', afterElem r' = some r3 ∧
        At r3 k' (writeElemsSL o (i + 1) false vs ++ (.space sp :: .punct '}' :: R)) := by
      cases vs with
      | nil =>
        simp only [TVals.isNil, if_true, List.nil_append, writeElemsSL] at h3 ⊢
        obtain ⟨r3, ha, hat⟩ := afterElem_close h3
        exact ⟨r3, _, ha, hat⟩
      | _ =>
        simp only [TVals.isNil, Bool.false_eq_true, if_false, List.cons_append, List.nil_append] at h3
        obtain ⟨ha, hat⟩ := afterElem_comma h3
        exact ⟨_, .other, ha, hat⟩
    obtain ⟨r3, k', ha, h4⟩ := hB
    obtain ⟨r4, hr4, h5⟩ := read_elemsSL vs elem o path r3 f (i + 1) false (i + 1) count k' sp R ho hsl
      hvs' hall' (by omega) hc64 (fun _ => rfl) (Nat.le_of_add_left_le hf') h4
    refine ⟨r4, ?_, h5⟩
    rw [readElems_elem hpeek hc hmk hic, writesElems]
    simp only [RRes.andThen, hr', ha, hr4]

theorem reads_elemsML : ∀ (vs : TVals) (elem : RShape) (o : Opts) (path r : List Char)
    (fuel i idx count : Nat) (k : Kind) (sp : List Char) (R : List Piece), o.Rereadable →
    o.multiline = true → vs.WF → MatchesAll elem vs → i + vs.length = count → count < 2 ^ 64 →
    needElems vs ≤ fuel → At r k (writeElemsML o i vs ++ (.space sp :: .punct '}' :: R)) →
    Reads (vs.written ≤ 1 ∧ vs.SmallArrays) (readElems fuel count elem path idx r)
      (writesElems path i vs) fun r' => At r' .other R
  | .nil => by
    intro elem o path r fuel i idx count k sp R ho hml hvs hall hcount hc64 hf h
    obtain ⟨f, rfl, _⟩ := fuel_succ (n := 0) hf
    rw [writeElemsML, List.nil_append] at h
    obtain ⟨hr, hat⟩ := readElems_end f count elem path idx h
    exact .ok ⟨Nat.zero_le _, trivial⟩ hr hat
  | .skip vs => by
    intro elem o path r fuel i idx count k sp R ho hml hvs hall hcount hc64 hf h
    have hlen : i + (vs.length + 1) = count := hcount
    rw [writeElemsML, List.append_assoc] at h
    exact reads_elemsML vs elem o path r fuel (i + 1) idx count _ sp R ho hml hvs hall (by omega) hc64
      hf (h.skip (by split <;> rfl))
  | .cons v vs => by
    intro elem o path r fuel i idx count k sp R ho hml hvs hall hcount hc64 hf h
    obtain ⟨hv, _⟩ : v.WF ∧ vs.WF := hvs
    obtain ⟨hmv, _⟩ : Matches elem v ∧ MatchesAll elem vs := hall
    obtain ⟨f, rfl, hf'⟩ := fuel_succ (n := needVal v + needElems vs) (by rw [← Nat.add_assoc]; exact hf)
    have hlen : i + (vs.length + 1) = count := hcount
    have hic : i < count := by omega
    rw [writeElemsML] at h
    simp only [List.cons_append, List.append_assoc] at h
    obtain ⟨rest, r2, hpeek, hmk, h2⟩ := read_marker o i _ (Nat.lt_trans hic hc64) h.skip_space
    rw [readElems_elem hpeek (by decide) (by simpa using hmk) hic, writesElems]
    refine ((reads_val v elem o.plusOne (pathIdx path i) r2 f .other _ ho.plusOne hv hmv
      (Nat.le_of_add_right_le hf') h2).andThen fun r' h3 =>
        reads_afterML o vs (i + 1) _ r' (Nat.le_of_add_left_le hf') h3).iff ⟨?_, ?_⟩
    · rintro ⟨hg, hw0, hs⟩
      exact ⟨by show vs.written + 1 ≤ 1; omega, hg hml, hs⟩
    · rintro ⟨hw, hsv, hs⟩
      exact ⟨fun _ => hsv, by have : vs.written + 1 ≤ 1 := hw; omega, hs⟩

theorem reads_fields : ∀ (fs : TFields) (rfs : RFields) (o : Opts) (wrote : Bool) (path r : List Char)
    (fuel : Nat) (k : Kind) (sp : List Char) (R : List Piece), o.Rereadable → fs.WF →
    MatchesFields rfs fs → needFields fs ≤ fuel →
    At r k (writeFields o wrote fs ++ (.space sp :: .punct '}' :: R)) →
    Reads (o.multiline = true → fs.SmallArrays) (readFields fuel rfs path r) (writesFields path fs)
      fun r' => At r' .other R
  | .nil => by
    intro rfs o wrote path r fuel k sp R ho hfs hm hf h
    obtain ⟨f, rfl, _⟩ := fuel_succ (n := 0) hf
    rw [writeFields, List.nil_append] at h
    obtain ⟨hr, hat⟩ := readFields_end f rfs path h
    exact .ok (fun _ => trivial) hr hat
  | .cons name false v fs => by
    intro rfs o wrote path r fuel k sp R ho hfs hm hf h
    obtain ⟨hname, _, hv, hfs'⟩ : ValidWord name ∧ _ ∧ v.WF ∧ fs.WF := hfs
    obtain ⟨⟨s, hfind, hmv⟩, hm'⟩ :
      (∃ s, findField rfs name = some s ∧ Matches s v) ∧ MatchesFields rfs fs := hm
    obtain ⟨f, rfl, hf'⟩ := fuel_succ (n := needVal v + needFields fs) (by rw [← Nat.add_assoc]; exact hf)
    rw [writeFields] at h
    simp only [List.cons_append, List.append_assoc] at h
    obtain ⟨hn, h1⟩ := readFieldName_lead h
    obtain ⟨hcol, _, h2⟩ := h1.punct
    rw [readFields_field hn (validWord_ne_punct hname '}' (by decide)) hcol hfind, writesFields]
    refine ((reads_val v s o.plusOne (pathField path name) _ f .other _ ho.plusOne hv hmv
      (Nat.le_of_add_right_le hf') h2.skip_space).andThen fun r' h4 => ?_).iff imp_and.symm
    exact reads_fields fs rfs o true path r' f _ sp R ho hfs' hm' (Nat.le_of_add_left_le hf')
      (h4.skip (by split <;> rfl))
  | .cons name true v fs => by
    intro rfs o wrote path r fuel k sp R ho hfs hm hf h
    obtain ⟨_, hro, _, hfs'⟩ : ValidWord name ∧ (true = true → ∃ s, v = .scalar s) ∧ v.WF ∧ fs.WF := hfs
    obtain ⟨sc, rfl⟩ := hro rfl
    rw [writeFields, List.append_assoc] at h
    rw [writesFields]
    exact (reads_fields fs rfs o wrote path r fuel _ sp R ho hfs' hm hf
      (h.skip (by split <;> rfl))).iff
        ⟨fun hg hml => ⟨trivial, hg hml⟩, fun hg hml => (hg hml).2⟩
  | .skip name fs => by
    intro rfs o wrote path r fuel k sp R ho hfs hm hf h
    rw [writeFields, List.append_assoc] at h
    rw [writesFields]
    exact reads_fields fs rfs o wrote path r fuel _ sp R ho hfs.2 hm hf
      (h.skip (by split <;> first | rfl | (split <;> rfl)))
end

/-! The accepting (`read_*`) and the rejecting (`neg_*`) half of `reads_elemsML` / `reads_fields` on their own. -/

theorem read_elemsML : ∀ (vs : TVals) (elem : RShape) (o : Opts) (path r : List Char)
    (fuel i idx count : Nat) (k : Kind) (sp : List Char) (R : List Piece), o.Rereadable →
    o.multiline = true → vs.WF → MatchesAll elem vs → i + vs.length = count → count < 2 ^ 64 →
    vs.written ≤ 1 → vs.SmallArrays →
    needElems vs ≤ fuel → At r k (writeElemsML o i vs ++ (.space sp :: .punct '}' :: R)) →
    ∃ r', readElems fuel count elem path idx r = .ok (writesElems path i vs) r' ∧ At r' .other R :=
  fun vs elem o path r fuel i idx count k sp R ho hml hvs hall hcount hc64 hl1 hsm hf h =>
    (reads_elemsML vs elem o path r fuel i idx count k sp R ho hml hvs hall hcount hc64 hf h).of_good ⟨hl1, hsm⟩

theorem read_fields : ∀ (fs : TFields) (rfs : RFields) (o : Opts) (wrote : Bool) (path r : List Char)
    (fuel : Nat) (k : Kind) (sp : List Char) (R : List Piece), o.Rereadable → fs.WF →
    MatchesFields rfs fs → (o.multiline = true → fs.SmallArrays) → needFields fs ≤ fuel →
    At r k (writeFields o wrote fs ++ (.space sp :: .punct '}' :: R)) →
    ∃ r', readFields fuel rfs path r = .ok (writesFields path fs) r' ∧ At r' .other R :=
  fun fs rfs o wrote path r fuel k sp R ho hfs hm hsa hf h =>
    (reads_fields fs rfs o wrote path r fuel k sp R ho hfs hm hf h).of_good hsa

theorem neg_elemsML : ∀ (vs : TVals) (elem : RShape) (o : Opts) (path r : List Char)
    (fuel i idx count : Nat) (k : Kind) (sp : List Char) (R : List Piece), o.Rereadable →
    o.multiline = true → vs.WF → MatchesAll elem vs → i + vs.length = count → count < 2 ^ 64 →
    (2 ≤ vs.written ∨ ¬ vs.SmallArrays) →
    needElems vs ≤ fuel → At r k (writeElemsML o i vs ++ (.space sp :: .punct '}' :: R)) →
    readElems fuel count elem path idx r = .fail :=
  fun vs elem o path r fuel i idx count k sp R ho hml hvs hall hcount hc64 hbad hf h =>
    (reads_elemsML vs elem o path r fuel i idx count k sp R ho hml hvs hall hcount hc64 hf h).of_bad
      fun hg => hbad.elim (fun h2 => absurd hg.1 (by omega)) (fun hs => hs hg.2)

theorem neg_fields : ∀ (fs : TFields) (rfs : RFields) (o : Opts) (wrote : Bool) (path r : List Char)
    (fuel : Nat) (k : Kind) (sp : List Char) (R : List Piece), o.Rereadable → o.multiline = true →
    fs.WF → MatchesFields rfs fs → ¬ fs.SmallArrays → needFields fs ≤ fuel →
    At r k (writeFields o wrote fs ++ (.space sp :: .punct '}' :: R)) →
    readFields fuel rfs path r = .fail :=
  fun fs rfs o wrote path r fuel k sp R ho hml hfs hm hbad hf h =>
    (reads_fields fs rfs o wrote path r fuel k sp R ho hfs hm hf h).of_bad fun hg => hbad (hg hml)

/-! ## Fuel

The fuel `updateFromText` grants (twice the text length + 8) covers what the reader model spends
on the writer's output: one unit per value / loop iteration, each of which is matched by at least
one character of the text. -/

theorem scalar_length (o : Opts) (s : Scalar) (hs : s.WF) : 1 ≤ (render (writeScalar o s)).length := by
  obtain ⟨c, heq, _⟩ := writeScalar_eq o s
  have := List.length_pos_iff.mpr (scalarWord_valid o s hs).1
  rw [heq, render, List.length_append, Piece.render]
  omega

mutual
theorem need_val : ∀ (v : TVal) (o : Opts), v.WF → needVal v ≤ (render (writeVal o v)).length
  | .scalar s => by
    intro o hv
    rw [writeVal, needVal]; exact scalar_length o s hv
  | .arr a vs => by
    intro o hv
    have h1 := need_elemsML vs o 0 hv
    have h2 := need_elemsSL vs o 0 false hv
    rw [writeVal, needVal]
    split <;> simp only [render_append, render, Piece.render, List.length_append, List.length_cons,
      List.length_nil] <;> omega
  | .struct fs => by
    intro o hv
    have := need_fields fs o false hv
    rw [writeVal, needVal]
    cases o.multiline <;> simp only [if_true, Bool.false_eq_true, if_false, render_append, render,
      Piece.render, List.length_append, List.length_cons, List.length_nil] <;> omega

theorem need_elemsSL : ∀ (vs : TVals) (o : Opts) (i : Nat) (skipped : Bool), vs.WF →
    needElems vs ≤ (render (writeElemsSL o i skipped vs)).length + 1
  | .nil => by
    intro o i skipped _
    simp [needElems, writeElemsSL, render]
  | .cons v vs => by
    intro o i skipped hvs
    have h1 := need_val v o.plusOne hvs.1
    have h2 := need_elemsSL vs o (i + 1) false hvs.2
    rw [writeElemsSL, needElems]
    simp only [render_append, render, Piece.render, List.length_append, List.length_cons,
      List.length_nil]
    omega
  | .skip vs => by
    intro o i skipped hvs
    have h2 := need_elemsSL vs o (i + 1) true hvs
    rw [writeElemsSL, needElems]
    simp only [render_append, List.length_append]
    omega

theorem need_elemsML : ∀ (vs : TVals) (o : Opts) (i : Nat), vs.WF →
    needElems vs ≤ (render (writeElemsML o i vs)).length + 1
  | .nil => by
    intro o i _
    simp [needElems, writeElemsML, render]
  | .cons v vs => by
    intro o i hvs
    have h1 := need_val v o.plusOne hvs.1
    have h2 := need_elemsML vs o (i + 1) hvs.2
    rw [writeElemsML, needElems]
    simp only [render_append, render, Piece.render, List.length_append, List.length_cons]
    omega
  | .skip vs => by
    intro o i hvs
    have h2 := need_elemsML vs o (i + 1) hvs
    rw [writeElemsML, needElems]
    simp only [render_append, List.length_append]
    omega

theorem need_fields : ∀ (fs : TFields) (o : Opts) (wrote : Bool), fs.WF →
    needFields fs ≤ (render (writeFields o wrote fs)).length + 1
  | .nil => by
    intro o wrote _
    simp [needFields, writeFields, render]
  | .cons name false v fs => by
    intro o wrote hfs
    have h1 := need_val v o.plusOne hfs.2.2.1
    have h2 := need_fields fs o true hfs.2.2.2
    rw [writeFields, needFields]
    simp only [render_append, render, Piece.render, List.length_append, List.length_cons]
    omega
  | .cons name true v fs => by
    intro o wrote hfs
    have h2 := need_fields fs o wrote hfs.2.2.2
    rw [writeFields, needFields]
    simp only [render_append, List.length_append]
    omega
  | .skip name fs => by
    intro o wrote hfs
    have h2 := need_fields fs o wrote hfs.2
    rw [writeFields, needFields]
    simp only [render_append, List.length_append]
    omega
end

theorem updateFromText_reads (o : Opts) (v : TVal) (s : RShape) (ho : o.Rereadable) (hv : v.WF)
    (hm : Matches s v) :
    Reads (noMultilineArray o v) (updateFromText s (writeToString o v)) (writesVal [] v)
      fun rest => discardWs false rest = [] := by
  have hat : At (render (writeVal o v)) .other (writeVal o v ++ []) := by
    simpa using At.start (wellSep_val v o ho hv).1 (by decide)
  have hfuel : needVal v ≤ 2 * (writeToString o v).length + 8 := by
    have := need_val v o hv
    simp only [writeToString]; omega
  refine (reads_val v s o [] _ _ .other [] ho hv hm hfuel hat).mono fun r' hat' => ?_
  rw [hat'.sees]
  cases lastKind Kind.other (writeVal o v) <;> rfl

end Emboss.Text
