/-
The scratch array of `WriteIntegerToTextStream` (C04, text layer): the access trace
(Model/TextBuf.lean) is the NUL store, `(writeInt …).length` stores at descending indices, the read
start; `writeInt` writes at most digits + `(digits - 1) / groupSize` separators + prefix + sign;
that plus the NUL fits the array size the header computes (Generated/TextBuf.lean).
-/
import Emboss.Model.TextBuf

namespace Emboss.Text
open Emboss.Generated.TextBuf

/-- The header had the shape harness/translate/textbuf.py understands (otherwise the numbers of
Generated/TextBuf.lean mean nothing and the obligations below are open again). -/
theorem textBuf_parsed : parsed = true := by decide

theorem BufSt.puts_succ (n : Nat) (s : BufSt) : (s.puts n).put = s.puts (n + 1) := rfl

theorem BufSt.puts_add (s : BufSt) (m : Nat) : ∀ n, (s.puts m).puts n = s.puts (m + n)
  | 0 => rfl
  | n + 1 => congrArg BufSt.put (BufSt.puts_add s m n)

/-- `n` stores from `s` on touch `s.next, s.next - 1, …, s.next - (n-1)` (most recent first in the
state, hence the `reverse`). -/
theorem BufSt.puts_eq (s : BufSt) : ∀ n, s.puts n =
    ⟨s.next - (n : Int), ((List.range n).map (fun (k : Nat) => s.next - (k : Int))).reverse ++ s.trace⟩
  | 0 => by rw [Int.natCast_zero, Int.sub_zero]; rfl
  | n + 1 => by
    show (s.puts n).put = _
    rw [BufSt.puts_eq s n, BufSt.put, Int.natCast_succ, ← Int.sub_sub, List.range_succ, List.map_append,
      List.reverse_append]
    rfl

/-- Simulation: the state reached after as many stores as `buf` has characters is carried by
the loop to the state after as many stores as `writeLoop … buf` has characters. -/
theorem loopTrace_eq (b : Nat) (g : Bool) (s : BufSt) (v c : Nat) (buf : List Char) :
    loopTrace b g v c (s.puts buf.length) = s.puts (writeLoop b g v c buf).length := by
  fun_induction writeLoop b g v c buf with
  | case1 v c buf h => rw [loopTrace, dif_pos h]
  | case2 v c buf h buf1 ih =>
    rw [loopTrace, dif_neg h, ← ih]
    congr 1
    simp only [buf1]
    split <;> rfl

theorem bodyTrace_eq (T : IntTy) (x : Int) (b : Nat) (g : Bool) (s : BufSt) :
    bodyTrace T x b g s = s.puts (writeBody T x b g).length := by
  have start : (if x = 0 then s.put else s) = s.puts (if x = 0 then ['0'] else []).length := by
    split <;> rfl
  unfold bodyTrace writeBody
  simp only [start]
  by_cases hneg : x < 0
  · by_cases hmin : x = T.minVal
    · simp only [if_pos hneg, if_pos hmin]
      exact loopTrace_eq b g s _ 1 (_ :: _)
    · simp only [if_pos hneg, if_neg hmin]
      exact loopTrace_eq b g s _ 0 _
  · simp only [if_neg hneg]
    exact loopTrace_eq b g s _ 0 _

theorem prefixTrace_eq (base : Base) (s : BufSt) :
    prefixTrace base s = s.puts (basePrefix base).length := by
  cases base <;> rfl

theorem signTrace_eq (x : Int) (s : BufSt) : signTrace x s = s.puts (if x < 0 then 1 else 0) := by
  unfold signTrace
  split <;> rfl

theorem writeInt_length (T : IntTy) (x : Int) (base : Base) (g : Bool) :
    (writeInt T x base g).length =
      (writeBody T x base.toNat g).length + (basePrefix base).length + (if x < 0 then 1 else 0) := by
  unfold writeInt
  simp only
  split
  · rw [List.length_cons, List.length_append, Nat.add_comm (basePrefix base).length]
  · rw [List.length_append, Nat.add_comm (basePrefix base).length]; rfl

theorem writeIntState_eq (size : Nat) (T : IntTy) (x : Int) (base : Base) (g : Bool) :
    writeIntState size T x base g = (bufInit size).puts (writeInt T x base g).length := by
  rw [writeIntState, bodyTrace_eq, prefixTrace_eq, signTrace_eq, BufSt.puts_add, BufSt.puts_add,
    writeInt_length, Nat.add_assoc]

/-- **Trace = NUL store, then one store per character of `writeInt`, consecutively descending
from `size - firstBack`, then the read start.**  (`nulBack`, `firstBack` from the header.) -/
theorem writeIntTrace_eq (size : Nat) (T : IntTy) (x : Int) (base : Base) (g : Bool) :
    writeIntTrace size T x base g =
      ((size : Int) - (nulBack : Int)) ::
        ((List.range (writeInt T x base g).length).map
            (fun (k : Nat) => (size : Int) - (firstBack : Int) - (k : Int)) ++
          [1 + ((size : Int) - (firstBack : Int) - ((writeInt T x base g).length : Int))]) := by
  unfold writeIntTrace
  simp only [writeIntState_eq, BufSt.puts_eq, bufInit]
  simp

theorem writeIntTrace_length (size : Nat) (T : IntTy) (x : Int) (base : Base) (g : Bool) :
    (writeIntTrace size T x base g).length = (writeInt T x base g).length + 2 := by
  rw [writeIntTrace_eq]; simp

/-- A separator is written exactly when the number of positive multiples of `G` up to `c` goes up. -/
theorem sep_length_le (G c : Nat) (p : Prop) [Decidable p] (buf : List Char) :
    (if c ≠ 0 ∧ c % G = 0 ∧ p then '_' :: buf else buf).length + (c - 1) / G ≤
      buf.length + c / G := by
  split
  · next h =>
    obtain ⟨c, rfl⟩ := Nat.exists_eq_succ_of_ne_zero h.1
    rw [Nat.succ_div_of_mod_eq_zero h.2.1, Nat.succ_sub_one, List.length_cons]
    omega
  · exact Nat.add_le_add_left (Nat.div_le_div_right (Nat.sub_le c 1)) _

/-- Characters added by the loop: one per digit, plus at most one `_` before each digit whose
index (`digit_count`, running from `c`) is a non-zero multiple of the group size. -/
theorem writeLoop_length_le (b : Nat) (g : Bool) (k v c : Nat) (buf : List Char) (h : v < b ^ k) :
    (writeLoop b g v c buf).length + (c - 1) / groupSize b ≤
      buf.length + k + (c + k - 1) / groupSize b := by
  induction k generalizing v c buf with
  | zero =>
    have hv : v = 0 := by simpa using h
    rw [writeLoop, dif_pos (Or.inl hv)]
    exact Nat.le_refl _
  | succ k ih =>
    rw [writeLoop, ← Nat.add_assoc c, Nat.add_sub_cancel]
    by_cases h0 : v = 0 ∨ b < 2
    · have : (c - 1) / groupSize b ≤ (c + k) / groupSize b :=
        Nat.div_le_div_right (Nat.le_trans (Nat.sub_le c 1) (Nat.le_add_right c k))
      rw [dif_pos h0]
      omega
    · have hlt : v / b < b ^ k := Nat.div_lt_of_lt_mul (by rwa [Nat.pow_succ, Nat.mul_comm] at h)
      have := ih (v / b) (c + 1)
        (digitChar (v % b) :: if c ≠ 0 ∧ c % groupSize b = 0 ∧ g = true then '_' :: buf else buf) hlt
      rw [Nat.add_right_comm c 1, Nat.add_sub_cancel, Nat.add_sub_cancel, List.length_cons] at this
      have hsep := sep_length_le (groupSize b) c (g = true) buf
      simp only [dif_neg h0]
      omega

theorem writeLoop_first (b : Nat) (g : Bool) (hb : 2 ≤ b) (v : Nat) (hv : v ≠ 0) :
    writeLoop b g v 0 [] = writeLoop b g (v / b) 1 [digitChar (v % b)] := by
  rw [writeLoop, dif_neg (by omega)]
  rfl

/-- The `lowest()` branch is the first round of the loop on `|x| = m + 1`, computed without `-x`. -/
theorem writeBody_eq (T : IntTy) (x : Int) (b : Nat) (g : Bool) (hb : 2 ≤ b) :
    writeBody T x b g = if x = 0 then ['0'] else writeLoop b g x.natAbs 0 [] := by
  unfold writeBody
  by_cases hneg : x < 0
  · have hx0 : ¬ x = 0 := by omega
    simp only [if_pos hneg, if_neg hx0]
    split
    · generalize hm : (-(x + 1)).toNat = m
      have habs : x.natAbs = m + 1 := by omega
      have hmod : (m + 1) % b = (m % b + 1) % b := (Nat.mod_add_mod m b 1).symm
      rw [habs, writeLoop_first b g hb (m + 1) (Nat.succ_ne_zero m)]
      by_cases hd : m % b + 1 = b
      · rw [hd, Nat.mod_self] at hmod
        rw [if_pos hd, if_pos hd, hmod, Nat.succ_div_of_mod_eq_zero hmod]
      · have hlt : m % b + 1 < b := Nat.lt_of_le_of_ne (Nat.mod_lt m (by omega)) hd
        rw [Nat.mod_eq_of_lt hlt] at hmod
        rw [if_neg hd, if_neg hd, hmod, Nat.succ_div_of_mod_ne_zero (by omega)]
    · congr 1; omega
  · simp only [if_neg hneg]
    split
    · next h0 => subst h0; rw [writeLoop, dif_pos (Or.inl Int.toNat_zero)]
    · congr 1; omega

theorem writeBody_length_le (T : IntTy) (x : Int) (b : Nat) (g : Bool) (K : Nat) (hb : 2 ≤ b)
    (hK : 1 ≤ K) (hmag : x.natAbs < b ^ K) :
    (writeBody T x b g).length ≤ K + (K - 1) / groupSize b := by
  rw [writeBody_eq T x b g hb]
  split
  · exact Nat.le_trans hK (Nat.le_add_right _ _)
  · simpa using writeLoop_length_le b g K _ 0 [] hmag

/-- Upper bound on the number of digits of a `T` value in `base`. -/
def digitBound (T : IntTy) : Base → Nat
  | .b2 => T.bits
  | .b16 => T.bits / 4
  | .b10 => match T.bits with
    | 8 => 3
    | 16 => 5
    | 32 => 10
    | _ => 20

theorem digitBound_spec (T : IntTy) (base : Base) :
    1 ≤ digitBound T base ∧ 2 ^ T.bits ≤ base.toNat ^ digitBound T base := by
  cases T <;> cases base <;> decide

theorem natAbs_lt_two_pow_bits (T : IntTy) (x : Int) (hx : T.InRange x) : x.natAbs < 2 ^ T.bits := by
  have hT : -((2 ^ T.bits : Nat) : Int) < T.minVal ∧ T.maxVal < ((2 ^ T.bits : Nat) : Int) := by
    cases T <;> decide
  obtain ⟨h1, h2⟩ := hx
  generalize 2 ^ T.bits = N at hT
  omega

theorem writeInt_length_succ_le_bufferSize (T : IntTy) (x : Int) (base : Base) (g : Bool)
    (hx : T.InRange x) : (writeInt T x base g).length + 1 ≤ bufferSize T.bits := by
  have hbody := writeBody_length_le T x base.toNat g (digitBound T base) (by cases base <;> decide)
    (digitBound_spec T base).1
    (Nat.lt_of_lt_of_le (natAbs_lt_two_pow_bits T x hx) (digitBound_spec T base).2)
  have hsign : (if x < 0 then 1 else 0) ≤ (if T.signed then 1 else 0) := by
    have hT : T.signed = true ∨ T.minVal = 0 := by cases T <;> decide
    rcases hT with hs | h0
    · rw [if_pos hs]
      split <;> omega
    · rw [if_neg (by have := hx.1; omega)]
      exact Nat.zero_le _
  -- the size is only bounded from below: a header that allocates *more* passes too
  have hsize : (basePrefix base).length + (if T.signed then 1 else 0) +
      (digitBound T base + (digitBound T base - 1) / groupSize base.toNat) + 1 ≤
        bufferSize T.bits := by
    cases T <;> cases base <;> decide
  rw [writeInt_length]
  omega

end Emboss.Text
