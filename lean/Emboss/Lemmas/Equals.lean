/-
What the clauses of the generated `Equals` compute (helper lemmas for C20): they are symmetric,
of the left view they see only its definition and what an expression sees, and the clause of a
scalar field compares what the two views read one fuel level up, that of a field of structure type
the two views over real storage (these two in namespace `Emboss.ViewRef`, with their users).
-/
import Emboss.Model.ViewObs
import Emboss.Lemmas.ViewStep
namespace Emboss.View

theorem typeEquals_congr_left {m : Module} {o : Oracle} (eqView : SView → SView → Bool) {w0 w : SView}
    (hsd : w0.sd = w.sd) (he : envOf o w0 = envOf o w) (wb : SView) (bo : ByteOrder) :
    ∀ (ty : PType) (sa sb : Storage),
      typeEquals o m eqView w0 wb bo ty sa sb = typeEquals o m eqView w wb bo ty sa sb
  | .scalar k bits req, sa, sb => by
    unfold typeEquals leafRead valueIsOk
    rw [he, hsd]
  | .struct name bits args, sa, sb => by
    unfold typeEquals
    rw [he, hsd]
  | .array e es, sa, sb => by
    simp only [typeEquals, typeEquals_congr_left eqView hsd he wb bo e]

theorem typeEquals_symm (o : Oracle) (m : Module) (eqView : SView → SView → Bool)
    (hsym : ∀ a b : SView, a.sd = b.sd → eqView a b = eqView b a) (wa wb : SView) (bo : ByteOrder) :
    ∀ (ty : PType) (sa sb : Storage),
      typeEquals o m eqView wa wb bo ty sa sb = typeEquals o m eqView wb wa bo ty sb sa
  | .scalar k bits req, sa, sb => by
    simp only [typeEquals]
    cases leafRead o wa k bits req (sa.adaptFor wa.sd.unit 1 bo bits) <;>
      cases leafRead o wb k bits req (sb.adaptFor wb.sd.unit 1 bo bits) <;>
      first | rfl | exact BEq.comm
  | .struct name bits args, sa, sb => by
    simp only [typeEquals]
    cases m.find name with
    | none => rfl
    | some sd =>
      cases evalArgs (envOf o wa none) args <;> cases evalArgs (envOf o wb none) args <;>
        first | rfl | exact hsym _ _ rfl
  | .array elem es, sa, sb => by
    simp only [typeEquals, typeEquals_symm o m eqView hsym wa wb bo elem]
    rw [BEq.comm (a := sa.size / es)]
    cases hn : sb.size / es == sa.size / es
    · simp only [Bool.and_false, Bool.false_and]
    · rw [eq_of_beq hn]

theorem fieldEquals_symm (o : Oracle) (m : Module) (eqView : SView → SView → Bool)
    (hsym : ∀ a b : SView, a.sd = b.sd → eqView a b = eqView b a) (wa wb : SView) :
    fieldEquals o m eqView wa wb = fieldEquals o m eqView wb wa := by
  funext f
  unfold fieldEquals
  cases f.kind with
  | virt v r => rfl
  | alias t => rfl
  | phys start size ty bo =>
    have h := typeEquals_symm o m eqView hsym wa wb bo ty
    dsimp only
    generalize typeEquals o m eqView wa wb bo ty = T at h ⊢
    generalize typeEquals o m eqView wb wa bo ty = T' at h ⊢
    generalize hasField o wa f = ha
    generalize hasField o wb f = hb
    generalize (if argsKnown (envOf o wa none) ty = true then physStorage o wa f start size else none) = sa
    generalize (if argsKnown (envOf o wb none) ty = true then physStorage o wb f start size else none) = sb
    cases ha with
    | none => cases hb <;> rfl
    | some a =>
      cases hb with
      | none => rfl
      | some b =>
        -- split on the storages first, so that both sides reduce to the same `match` arm
        cases sa with
        | none => cases sb <;> cases a <;> cases b <;> rfl
        | some x =>
          cases sb with
          | none => cases a <;> cases b <;> rfl
          | some y =>
            dsimp only
            rw [h x y]
            cases a <;> cases b <;> rfl

end Emboss.View

namespace Emboss.ViewRef
open Emboss.View

theorem fieldEquals_scalar (m : Module) (n : Nat) (wa wb : SView) (hsd : wb.sd = wa.sd)
    (eqv : SView → SView → Bool) {f : Field} (hf : wa.sd.field f.name = some f)
    {start size : Expr} {k : ScalarKind} {bits : Nat} {req : Option Expr} {bo : ByteOrder}
    (hk : f.kind = .phys start size (.scalar k bits req) bo) :
    fieldEquals (G m n) m eqv wa wb f =
      match (G m (n + 1)).has wa [f.name], (G m (n + 1)).has wb [f.name] with
      | some ha, some hb =>
        ha == hb && (!ha ||
          (match (G m (n + 1)).read wa [f.name], (G m (n + 1)).read wb [f.name] with
           | some x, some y => x == y
           | _, _ => false))
      | _, _ => false := by
  generalize ho : G m n = o
  simp only [G, ho]
  have hfb : wb.sd.field f.name = some f := by rw [hsd]; exact hf
  simp only [step_has_nil m o _ hf, step_has_nil m o _ hfb, step_read_cons m o _ hf,
    step_read_cons m o _ hfb, fieldEquals, hk, argsKnown, ↓reduceIte, typeEquals]
  cases hasField o wa f <;> cases hasField o wb f <;> try rfl
  cases physStorage o wa f start size with
  | none => rfl
  | some sa =>
    cases physStorage o wb f start size with
    | some sb => rfl
    | none =>
      dsimp only
      cases leafRead o wa k bits req (sa.adaptFor wa.sd.unit 1 bo bits) <;> rfl

theorem fieldEquals_struct (o : Oracle) (m : Module) (eqv : SView → SView → Bool) (wa wb : SView)
    (f : Field) {start size : Expr} {name : String} {bits : Nat} {args : Exprs} {bo : ByteOrder}
    (hk : f.kind = .phys start size (.struct name bits args) bo) :
    fieldEquals o m eqv wa wb f =
      match hasField o wa f, hasField o wb f with
      | some ha, some hb =>
        ha == hb && (!ha ||
          (match realSub o m wa f start size name bits args bo,
                 realSub o m wb f start size name bits args bo with
           | some wa', some wb' => eqv wa' wb'
           | _, _ => false))
      | _, _ => false := by
  simp only [fieldEquals, hk, realSub, typeEquals]
  have hka : argsKnown (envOf o wa none) (.struct name bits args) =
      (evalArgs (envOf o wa none) args).isSome := rfl
  have hkb : argsKnown (envOf o wb none) (.struct name bits args) =
      (evalArgs (envOf o wb none) args).isSome := rfl
  generalize argsKnown (envOf o wa none) (.struct name bits args) = ka at hka ⊢
  generalize argsKnown (envOf o wb none) (.struct name bits args) = kb at hkb ⊢
  generalize hasField o wa f = ha
  generalize hasField o wb f = hb
  generalize physStorage o wa f start size = pa
  generalize physStorage o wb f start size = pb
  generalize evalArgs (envOf o wa none) args = ea at hka ⊢
  generalize evalArgs (envOf o wb none) args = eb at hkb ⊢
  generalize m.find name = fd
  subst hka hkb
  cases ha <;> cases hb <;> try rfl
  -- arguments first: with an unknown argument on either side both forms are `false` at once
  cases ea with
  | none => cases fd <;> rfl
  | some va =>
    cases eb with
    | none => cases fd <;> cases pa <;> rfl
    | some vb => cases fd <;> cases pa <;> cases pb <;> rfl

end Emboss.ViewRef
