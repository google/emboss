/-
Blank erasure (`despace`) commutes with the string primitives of the formatter.  The content of
rows (`rowsContent`) and their renderability (`PlainRows`) depend only on the column lists of the
rows that have columns (`cols`), which is what indentation and
`_strip_empty_leading_trailing_comment_lines` keep (and the other row passes: FmtPasses.lean).
-/
import Emboss.Spec.Fmt
import Emboss.Lemmas.FmtBasic
namespace Emboss.Fmt

@[simp] theorem despace_nil : despace [] = [] := rfl

@[simp] theorem despace_append (a b : Str) : despace (a ++ b) = despace a ++ despace b := by
  simp [despace]

@[simp] theorem despace_cons_space (s : Str) : despace (' ' :: s) = despace s := rfl

@[simp] theorem despace_cons_nl (s : Str) : despace ('\n' :: s) = despace s := rfl

@[simp] theorem despace_spaces : ∀ n : Nat, despace (spaces n) = []
  | 0 => rfl
  | n + 1 => despace_spaces n

@[simp] theorem despace_sp : despace sp = [] := by decide
@[simp] theorem despace_sp2 : despace sp2 = [] := by decide

@[simp] theorem despace_ljust (s : Str) (n : Int) : despace (ljust s n) = despace s := by
  simp [ljust]

theorem despace_eq_nil_of_all {s : Str} (h : ∀ c ∈ s, isPySpace c = true) : despace s = [] := by
  simp only [despace, List.filter_eq_nil_iff]
  intro c hc; simp [h c hc]

@[simp] theorem despace_rstrip (s : Str) : despace (rstrip s) = despace s := by
  obtain ⟨b, h, hb⟩ := dropEnd_spec isPySpace s
  conv => rhs; rw [h]
  rw [despace_append, despace_eq_nil_of_all hb, List.append_nil]
  rfl

theorem despace_flatten (l : List Str) : despace l.flatten = (l.map despace).flatten :=
  List.filter_flatten

theorem despace_joinWith (j : Str) (hj : despace j = []) (l : List Str) :
    despace (joinWith j l) = despace l.flatten := by
  induction l with
  | nil => rfl
  | cons a r ih =>
    cases r with
    | nil => simp [joinWith]
    | cons b r' => simp only [joinWith, despace_append, hj, ih, List.flatten_cons]; simp

@[simp] theorem despace_concatWith (j : Str) (hj : despace j = []) (l : List Str) :
    despace (concatWith j l) = despace l.flatten := by
  rw [concatWith, despace_joinWith j hj, List.flatten_filter_not_isEmpty]

@[simp] theorem despace_concatPrefixSpaces (l : List Str) :
    despace (concatPrefixSpaces l) = despace l.flatten := by
  rw [concatPrefixSpaces, despace_flatten, List.map_map, ← List.flatten_filter_not_isEmpty (L := l),
    despace_flatten]
  rfl  -- `despace (' ' :: s)` computes to `despace s`

@[simp] theorem rowsContent_nil : rowsContent [] = [] := rfl
@[simp] theorem rowsContent_cons (r : Row) (l : List Row) :
    rowsContent (r :: l) = r.content ++ rowsContent l := by simp [rowsContent]
@[simp] theorem rowsContent_append (a b : List Row) :
    rowsContent (a ++ b) = rowsContent a ++ rowsContent b := by simp [rowsContent]

def cols (l : List Row) : List (List Str) := (l.map (·.columns)).filter (fun c => !c.isEmpty)

@[simp] theorem cols_nil : cols [] = [] := rfl

theorem cols_cons (r : Row) (l : List Row) :
    cols (r :: l) = if r.columns.isEmpty then cols l else r.columns :: cols l := by
  cases h : r.columns.isEmpty <;> simp [cols, h]

@[simp] theorem cols_append (a b : List Row) : cols (a ++ b) = cols a ++ cols b := by
  simp [cols]

theorem cols_flatten (secs : List (List Row)) : cols secs.flatten = (secs.map cols).flatten := by
  induction secs with
  | nil => rfl
  | cons s secs ih => simp [ih]

theorem cols_of_columns {a b : List Row} (h : a.map (·.columns) = b.map (·.columns)) : cols a = cols b := by
  rw [cols, h, cols]

theorem cols_eq_nil {l : List Row} (h : AllEmpty l) : cols l = [] := by
  simp only [cols, List.filter_eq_nil_iff, List.mem_map]
  rintro c ⟨r, hr, rfl⟩
  simp [h r hr]

theorem mem_cols {l : List Row} {c : List Str} : c ∈ cols l ↔ c ≠ [] ∧ ∃ r ∈ l, r.columns = c := by
  simp only [cols, List.mem_filter, List.mem_map, Bool.not_eq_true', List.isEmpty_eq_false_iff]
  exact and_comm

theorem rowsContent_eq_cols (l : List Row) :
    rowsContent l = ((cols l).map fun c => despace c.flatten).flatten := by
  induction l with
  | nil => rfl
  | cons r l ih =>
    rw [cols_cons, rowsContent_cons, ih]
    split
    · rename_i h
      rw [Row.content, List.isEmpty_iff.1 h]; rfl
    · rfl

theorem plainRows_iff_cols {l : List Row} : PlainRows l ↔ ∀ c ∈ cols l, c.length < 2 := by
  constructor
  · intro h c hc
    obtain ⟨-, r, hr, rfl⟩ := mem_cols.1 hc
    exact h r hr
  · intro h r hr
    by_cases hc : r.columns = []
    · simp [hc]
    · exact h _ (mem_cols.2 ⟨hc, r, hr, rfl⟩)

theorem rowsContent_congr {a b : List Row} (h : cols a = cols b) : rowsContent a = rowsContent b := by
  rw [rowsContent_eq_cols, h, ← rowsContent_eq_cols]

theorem PlainRows.congr {a b : List Row} (h : cols a = cols b) (ha : PlainRows a) : PlainRows b := by
  rw [plainRows_iff_cols, ← h, ← plainRows_iff_cols]; exact ha

/-- `l` is assembled from the sections `secs` and rows without columns. -/
theorem rowsContent_of_cols {l : List Row} {secs : List (List Row)} (h : cols l = (secs.map cols).flatten) :
    rowsContent l = (secs.map rowsContent).flatten := by
  rw [rowsContent_eq_cols, h]
  clear h
  induction secs with
  | nil => rfl
  | cons s secs ih =>
    simp only [List.map_cons, List.flatten_cons, List.map_append, List.flatten_append, ih, rowsContent_eq_cols s]

theorem PlainRows.of_cols {l : List Row} {secs : List (List Row)} (h : cols l = (secs.map cols).flatten)
    (hs : ∀ s ∈ secs, PlainRows s) : PlainRows l := by
  rw [plainRows_iff_cols, h]
  intro c hc
  obtain ⟨_, hm, hc⟩ := List.mem_flatten.1 hc
  obtain ⟨s, hs', rfl⟩ := List.mem_map.1 hm
  exact plainRows_iff_cols.1 (hs s hs') c hc

theorem PlainRows.nil : PlainRows [] := by intro r hr; cases hr
theorem PlainRows.cons {r : Row} {l : List Row} (hr : r.columns.length < 2) (hl : PlainRows l) :
    PlainRows (r :: l) := List.forall_mem_cons.2 ⟨hr, hl⟩
theorem PlainRows.append {a b : List Row} (ha : PlainRows a) (hb : PlainRows b) : PlainRows (a ++ b) :=
  List.forall_mem_append.2 ⟨ha, hb⟩
theorem PlainRows.of_sublist {a b : List Row} (h : a.Sublist b) (hb : PlainRows b) : PlainRows a :=
  fun r hr => hb r (h.subset hr)
theorem PlainRows.tail {r : Row} {l : List Row} (h : PlainRows (r :: l)) : PlainRows l :=
  (List.forall_mem_cons.1 h).2
theorem PlainRows.head {r : Row} {l : List Row} (h : PlainRows (r :: l)) : r.columns.length < 2 :=
  (List.forall_mem_cons.1 h).1

theorem cols_indentRows (l : List Row) : cols (indentRows l) = cols l :=
  cols_of_columns (by simp [indentRows, indentRow, Function.comp_def])

@[simp] theorem rowsContent_indentRows (l : List Row) : rowsContent (indentRows l) = rowsContent l :=
  rowsContent_congr (cols_indentRows l)

theorem PlainRows.indent {l : List Row} (h : PlainRows l) : PlainRows (indentRows l) :=
  PlainRows.congr (cols_indentRows l).symm h

theorem cols_stripEmptyRows (l : List Row) : cols (stripEmptyRows l) = cols l := by
  obtain ⟨a, b, h, ha, hb⟩ := stripEmptyRows_spec l
  conv => rhs; rw [h]
  simp [cols_eq_nil ha, cols_eq_nil hb]

@[simp] theorem rowsContent_stripEmptyRows (l : List Row) : rowsContent (stripEmptyRows l) = rowsContent l :=
  rowsContent_congr (cols_stripEmptyRows l)

theorem PlainRows.stripEmpty {l : List Row} (h : PlainRows l) : PlainRows (stripEmptyRows l) :=
  PlainRows.congr (cols_stripEmptyRows l).symm h

end Emboss.Fmt
