/-
Level B: the ACTION / GOTO tables of the generator model and the assembly of
`Valid G (gen G).aut (gen G).cert` from the invariant of the state graph (`gen_valid`); a grammar for
which `gen` reports nothing is reduced (`gen_reduced`).
-/
import Emboss.Lemmas.Lr1GenBfs
import Emboss.Lemmas.Lr1GenReduced
namespace Emboss.Lr1
namespace Gen

variable {G : Grammar} {C : Cert}

theorem mem_dedupActs {e : Nat × Action} {l : List (Nat × Action)} : e ∈ dedupActs l ↔ e ∈ l := by
  fun_induction dedupActs l with
  | case1 => exact Iff.rfl
  | case2 a l hc ih =>
    have ha : a ∈ l := by simpa using hc
    rw [ih, List.mem_cons]
    exact ⟨Or.inr, fun h => h.elim (fun h => h ▸ ha) id⟩
  | case3 a l _ ih => rw [List.mem_cons, List.mem_cons, ih]

/-- the row is a function of the key -/
def NoConf (l : List (Nat × Action)) : Prop := ∀ e ∈ l, ∀ e' ∈ l, e.1 = e'.1 → e.2 = e'.2

theorem noConf_of_hasConflict {l : List (Nat × Action)} (h : hasConflict l = false) : NoConf l := by
  intro e he e' he' hk
  unfold hasConflict at h
  have h1 := List.any_eq_false.mp h e he
  have h2 := List.any_eq_false.mp (Bool.eq_false_iff.mpr h1) e' he'
  simp only [Bool.and_eq_true, beq_iff_eq, bne_iff_ne, ne_eq, not_and, Decidable.not_not] at h2
  exact h2 hk

theorem lookup_of_noConf {l : List (Nat × Action)} (hn : NoConf l) : ∀ e ∈ l, l.lookup e.1 = some e.2 := by
  intro e he
  obtain ⟨v, hv⟩ := Option.isSome_iff_exists.mp (List.lookup_isSome_iff.mpr ⟨e, he, beq_self_eq_true _⟩)
  exact hv.trans (congrArg some (hn _ (lookup_mem hv) e he rfl))

theorem lookup_filter {x : Nat} (f : Nat → Bool) (hx : f x = true) (row : List (Nat × Nat)) :
    (row.filter fun e => f e.1).lookup x = row.lookup x := by
  induction row with
  | nil => rfl
  | cons a row ih =>
    obtain ⟨k, v⟩ := a
    rw [List.filter_cons]
    split
    · rw [List.lookup_cons, List.lookup_cons, ih]
    · next hk =>
      have : (x == k) = false := beq_false_of_ne fun h => hk (h ▸ hx)
      rw [List.lookup_cons, this, ih]

theorem mem_wanted {eoi : Nat} {row : List (Nat × Nat)} {I : List Item} {e : Nat × Action} :
    e ∈ wanted C eoi row I ↔ ∃ it ∈ I, ∃ p, C.ruleAt it.pi = some p ∧
      ((p.rhs[it.dot]? = none ∧
          ((it.pi = C.seedIdx ∧ it.dot = 1 ∧ it.la = eoi ∧ e = (eoi, .accept)) ∨
           (it.pi ≠ C.seedIdx ∧ e = (it.la, .reduce it.pi)))) ∨
       (∃ x, p.rhs[it.dot]? = some x ∧ C.isNT x = false ∧ ∃ t, row.lookup x = some t ∧ e = (x, .shift t))) := by
  unfold wanted
  rw [List.mem_flatMap]
  constructor
  · rintro ⟨it, hit, h⟩
    refine ⟨it, hit, ?_⟩
    split at h
    · cases h
    · next p hp =>
      refine ⟨p, hp, ?_⟩
      split at h
      · next hx =>
        refine .inl ⟨hx, ?_⟩
        split at h
        · next hs =>
          split at h
          · next hc => exact .inl ⟨hs, hc.1, hc.2, List.mem_singleton.mp h⟩
          · cases h
        · next hs => exact .inr ⟨hs, List.mem_singleton.mp h⟩
      · next x hx =>
        refine .inr ⟨x, hx, ?_⟩
        split at h
        · cases h
        · next hn =>
          split at h
          · next t hl => exact ⟨Bool.eq_false_iff.mpr hn, t, hl, List.mem_singleton.mp h⟩
          · cases h
  · rintro ⟨it, hit, p, hp, h⟩
    refine ⟨it, hit, ?_⟩
    simp only [hp]
    rcases h with ⟨hx, h⟩ | ⟨x, hx, hn, t, hl, rfl⟩
    · simp only [hx]
      rcases h with ⟨hs, h1, h2, rfl⟩ | ⟨hs, rfl⟩
      · simp [hs, h1, h2]
      · simp [hs]
    · simp [hx, hn, hl]

def withItems (C : Cert) (items : Array (List Item)) : Cert := { C with items := items }

theorem firstSeq_withItems (C : Cert) (items : Array (List Item)) (β t : List Nat) :
    (withItems C items).firstSeq β t = C.firstSeq β t := by
  induction β with
  | nil => rfl
  | cons x β ih =>
    simp only [Cert.firstSeq, ih]
    rfl

theorem justOrder_withItems (C : Cert) (items : Array (List Item)) (l : List Item) : ∀ (seen : List Nat),
    JustOrder (withItems C items) seen l ↔ JustOrder C seen l := by
  induction l with
  | nil => exact fun _ => Iff.rfl
  | cons it l ih =>
    intro seen
    simp only [JustOrder]
    exact and_congr Iff.rfl (ih _)

theorem itemsOf_withItems {just : Array (List Item)} {s : Nat} {L : List Item}
    (h : just[s]? = some L) : (withItems C just).itemsOf s = L := by
  simp [Cert.itemsOf, withItems, h]

def autOf (G : Grammar) (C : Cert) (st : St) : Automaton :=
  { prods := G.all
    action := ((rowsOf C G.eoi st).map fun r => if r.isEmpty then none else some r).toArray
    goto := st.trans.map fun row => row.filter fun e => C.isNT e.1
    defaultErrors := [], strict := false, eoi := G.eoi }

theorem gen_eq {o : Out} (h : gen G = some o) : ∃ C I0 st, tables G = some C ∧
    closure C [⟨C.seedIdx, 0, G.eoi⟩] = some I0 ∧
    bfs C (bfsFuel C) 0 ⟨#[norm I0], #[I0.reverse], #[]⟩ = some st ∧
    o = ⟨autOf G C st, withItems C st.just, st.states,
      (rowsOf C G.eoi st).any hasConflict || !allProductive G⟩ := by
  revert h
  fun_cases gen G with
  | case1 => nofun
  | case2 => nofun
  | case3 => nofun
  | case4 C hC I0 hI st hb => exact fun h => ⟨C, I0, st, hC, hI, hb, (Option.some.inj h).symm⟩

/-- the row of a generated state -/
def rowAt (C : Cert) (eoi : Nat) (st : St) (s : Nat) : List (Nat × Action) :=
  dedupActs (wanted C eoi ((st.trans[s]?).getD []) ((st.states[s]?).getD []))

theorem rowsOf_eq (eoi : Nat) (st : St) :
    rowsOf C eoi st = (List.range st.states.size).map (rowAt C eoi st) := rfl

theorem action_size (st : St) : (autOf G C st).action.size = st.states.size := by
  simp only [autOf, rowsOf, List.size_toArray, List.length_map, List.length_range]

theorem row_autOf {st : St} {s : Nat} (hs : s < st.states.size) : (autOf G C st).row s =
    if (rowAt C G.eoi st s).isEmpty then none else some (rowAt C G.eoi st s) := by
  simp only [Automaton.row, autOf, rowsOf_eq, List.map_map, tab_get, if_pos hs, Function.comp_apply,
    Option.join_some]

theorem entry_autOf {st : St} {s : Nat} (hs : s < st.states.size) (a : Nat) :
    (autOf G C st).entry s a = (rowAt C G.eoi st s).lookup a := by
  unfold Automaton.entry
  rw [row_autOf hs]
  by_cases he : (rowAt C G.eoi st s).isEmpty
  · rw [if_pos he, List.isEmpty_iff.mp he]; rfl
  · rw [if_neg he]

theorem gotoOf_autOf {st : St} {s x : Nat} {row : List (Nat × Nat)} (hr : st.trans[s]? = some row)
    (hx : C.isNT x = true) : (autOf G C st).gotoOf s x = row.lookup x := by
  unfold Automaton.gotoOf
  simp only [autOf, Array.getElem?_map, hr, Option.map_some, Option.getD_some]
  exact lookup_filter C.isNT hx row

/-- Everything known about the state graph when `bfs` is through. -/
structure Done (G : Grammar) (C : Cert) (I0 : List Item) (st : St) : Prop where
  tab : TabOK G C
  wf : WfG G
  inv : Inv G C st
  full : st.trans.size = st.states.size
  zero : st.just[0]? = some I0.reverse
  clo : closure C [⟨C.seedIdx, 0, G.eoi⟩] = some I0
  noConf : ∀ s, s < st.states.size → NoConf (rowAt C G.eoi st s)

section
variable {I0 : List Item} {st : St}

theorem Done.row (d : Done G C I0 st) {s : Nat} (hs : s < st.just.size) :
    ∃ I row, st.states[s]? = some I ∧ st.trans[s]? = some row :=
  have hs := d.inv.size ▸ hs
  ⟨_, _, Array.getElem?_eq_getElem hs, Array.getElem?_eq_getElem (d.full ▸ hs)⟩

theorem Done.mem_itemsOf (d : Done G C I0 st) {s : Nat} {I : List Item} (hI : st.states[s]? = some I)
    {it : Item} : it ∈ (withItems C st.just).itemsOf s ↔ it ∈ I := by
  have hs : s < st.just.size := d.inv.size ▸ (Array.getElem?_eq_some_iff.mp hI).1
  have hL : st.just[s]? = some st.just[s] := Array.getElem?_eq_getElem hs
  rw [itemsOf_withItems hL]
  exact d.inv.mem s I _ hI hL it

theorem Done.entry_of_wanted (d : Done G C I0 st) {s : Nat} {I : List Item} {row : List (Nat × Nat)}
    (hI : st.states[s]? = some I) (hr : st.trans[s]? = some row) {e : Nat × Action}
    (he : e ∈ wanted C G.eoi row I) : (autOf G C st).entry s e.1 = some e.2 := by
  have hs : s < st.states.size := (Array.getElem?_eq_some_iff.mp hI).1
  rw [entry_autOf hs]
  refine lookup_of_noConf (d.noConf s hs) e ?_
  simp only [rowAt, hI, hr, Option.getD_some]
  exact mem_dedupActs.mpr he

theorem Done.wanted_of_row (d : Done G C I0 st) {s : Nat} (hs : s < st.states.size) {r : Row}
    (hr : (autOf G C st).row s = some r) {e : Nat × Action} (he : e ∈ r) :
    ∃ I row, st.states[s]? = some I ∧ st.trans[s]? = some row ∧ e ∈ wanted C G.eoi row I := by
  obtain ⟨I, row, hI, hrow⟩ := d.row (d.inv.size ▸ hs)
  rw [row_autOf hs] at hr
  split at hr
  · cases hr
  · cases hr
    refine ⟨I, row, hI, hrow, ?_⟩
    simpa only [rowAt, hI, hrow, Option.getD_some] using mem_dedupActs.mp he

end

/-- the target of a recorded transition satisfies the validator's `TargetOK` -/
theorem Done.target {I0 : List Item} {st : St} (d : Done G C I0 st) {s : Nat} {row : List (Nat × Nat)}
    (hr : st.trans[s]? = some row) {x t : Nat} (he : (x, t) ∈ row) :
    TargetOK (listMem (withItems C st.just)) (autOf G C st) (withItems C st.just) s x t := by
  obtain ⟨I, J, hI, hJ, ⟨it0, hit0, hn0⟩, e2, e3⟩ := d.inv.edges s row hr (x, t) he
  refine ⟨?_, fun h => (by cases h), ?_⟩
  · intro hnil
    have := (d.mem_itemsOf hJ).mpr (e2 it0 hit0 hn0)
    rw [hnil] at this; cases this
  · intro y hy
    rcases e3 y ((d.mem_itemsOf hJ).mp hy) with ⟨h0, hns⟩ | ⟨it, hit, hn, rfl⟩
    · exact ⟨fun _ => hns, fun hne => absurd h0 hne⟩
    · obtain ⟨p, hp, hx⟩ := nextSyms_eq_singleton_iff.mp hn
      exact ⟨fun h0 => absurd h0 (Nat.succ_ne_zero _), fun _ => ⟨⟨p, hp, hx⟩, (d.mem_itemsOf hI).mpr hit⟩⟩

theorem Done.valid {I0 : List Item} {st : St} (d : Done G C I0 st) : Valid G (autOf G C st) (withItems C st.just) := by
  have hT := d.tab
  have hW := d.wf
  obtain ⟨c1, _, c3⟩ := closure_spec d.clo
  refine ⟨?wf, ?start, ?trans, ?closure, ?complete, ?kernel, ?order, ?actJust, ?first⟩
  case wf =>
    exact ⟨rfl, rfl, hW.1, hW.2.1, hW.2.2.1, hW.2.2.2.1, hW.2.2.2.2, hT.rules, hT.prodsC, hT.ntC,
      fun x _ hx => hT.ntS x hx, fun h => (by cases h)⟩
  case start =>
    -- state 0 is the closure of the seed item
    unfold VStart listMem
    rw [itemsOf_withItems d.zero]
    refine ⟨List.mem_reverse.mpr (c1 _ List.mem_cons_self), fun it hit => ?_⟩
    rcases c3 it (List.mem_reverse.mp hit) with hs | ⟨h0, _⟩
    · rw [List.mem_singleton.mp hs]
    · exact h0
  case trans =>
    -- the row has an entry for the symbol after the dot, and its target is `goto`
    intro s hs it hit x hx
    obtain ⟨I, row, hI, hr⟩ := d.row hs
    rw [d.mem_itemsOf hI] at hit
    have hx' : x ∈ C.nextSyms it := hx
    obtain ⟨k, hl⟩ := Option.isSome_iff_exists.mp (d.inv.total s row I hr hI it hit x hx')
    obtain ⟨I', J, hI', hJ, _, e2, _⟩ := d.inv.edges s row hr (x, k) (lookup_mem hl)
    cases hI.symm.trans hI'
    have hadv : listMem (withItems C st.just) k ⟨it.pi, it.dot + 1, it.la⟩ :=
      (d.mem_itemsOf hJ).mpr (e2 it hit (nextSyms_singleton.mp hx'))
    constructor
    · intro hnt
      exact ⟨k, (gotoOf_autOf hr hnt).trans hl, hadv⟩
    · intro hnt
      obtain ⟨p, hp, hpx⟩ := mem_nextSyms_iff.mp hx'
      have hw : (x, Action.shift k) ∈ wanted C G.eoi row I :=
        mem_wanted.mpr ⟨it, hit, p, hp, Or.inr ⟨x, hpx, hnt, k, hl, rfl⟩⟩
      exact ⟨.shift k, d.entry_of_wanted hI hr hw, k, rfl, hadv⟩
  case closure =>
    intro s hs it hit p hp x hx j hj c hc
    obtain ⟨I, row, hI, hr⟩ := d.row hs
    rw [firstSeq_withItems] at hc
    exact (d.mem_itemsOf hI).mpr
      ((d.inv.closed s I hI).vclosure it ((d.mem_itemsOf hI).mp hit) p hp x hx j hj c hc)
  case complete =>
    -- a complete item asks for its reduction (or accept)
    intro s hs it hit p hp hdot
    obtain ⟨I, row, hI, hr⟩ := d.row hs
    rw [d.mem_itemsOf hI] at hit
    have hp' : C.ruleAt it.pi = some p := hp
    have hnone : p.rhs[it.dot]? = none := List.getElem?_eq_none (Nat.le_of_eq hdot.symm)
    show _ = some (if it.pi = C.seedIdx then Action.accept else Action.reduce it.pi)
    by_cases hseed : it.pi = C.seedIdx
    · rw [if_pos hseed]
      have hla := (d.inv.ok s I hI it hit).seedLa hseed
      have hd1 : it.dot = 1 := by
        rw [hseed, Cert.ruleAt_seed hT.rules] at hp'
        cases hp'; exact hdot
      rw [hla]
      exact d.entry_of_wanted hI hr (e := (G.eoi, .accept))
        (mem_wanted.mpr ⟨it, hit, p, hp', Or.inl ⟨hnone, Or.inl ⟨hseed, hd1, hla, rfl⟩⟩⟩)
    · rw [if_neg hseed]
      exact d.entry_of_wanted hI hr (e := (it.la, .reduce it.pi))
        (mem_wanted.mpr ⟨it, hit, p, hp', Or.inl ⟨hnone, Or.inr ⟨hseed, rfl⟩⟩⟩)
  case kernel =>
    -- shift targets and goto targets are recorded transitions
    constructor
    · intro s hs r hr e he s' hs'
      obtain ⟨I, row, hI, hrow, he'⟩ := d.wanted_of_row (action_size st ▸ hs) hr he
      obtain ⟨it, hit, p, hp, h⟩ := mem_wanted.mp he'
      rcases h with ⟨_, ⟨_, _, _, rfl⟩ | ⟨_, rfl⟩⟩ | ⟨x, hx, hn, t, hl, rfl⟩
      · cases hs'
      · cases hs'
      · cases hs'
        exact d.target hrow (lookup_mem hl)
    · intro s hs e he
      have hs1 : s < st.trans.size := Array.size_map (xs := st.trans) ▸ hs
      have hrow : st.trans[s]? = some st.trans[s] := Array.getElem?_eq_getElem hs1
      simp only [autOf, Array.getElem?_map, hrow, Option.map_some, Option.getD_some] at he
      exact d.target hrow (List.mem_filter.mp he).1
  case order =>
    intro s hs
    have hL : st.just[s]? = some st.just[s] := Array.getElem?_eq_getElem hs
    rw [itemsOf_withItems hL, justOrder_withItems]
    exact d.inv.order s _ hL
  case actJust =>
    -- every entry is asked for by an item of its state
    intro s hs r hr e he
    obtain ⟨I, row, hI, hrow, he'⟩ := d.wanted_of_row (action_size st ▸ hs) hr he
    obtain ⟨it, hit, p, hp, h⟩ := mem_wanted.mp he'
    have hok := d.inv.ok s I hI it hit
    have hitL := (d.mem_itemsOf hI).mpr hit
    rcases h with ⟨hnone, ⟨hseed, hd1, hla, rfl⟩ | ⟨hseed, rfl⟩⟩ | ⟨x, hx, hn, t, hl, rfl⟩
    · refine ⟨hT.eoi_terminal hW, rfl, ?_⟩
      show (⟨C.seedIdx, 1, G.eoi⟩ : Item) ∈ _
      rw [← hseed, ← hd1, ← hla]
      exact hitL
    · refine ⟨hok.laT, Nat.lt_of_le_of_ne (Cert.le_seedIdx hp) hseed, p, hp, ?_⟩
      obtain ⟨q, hq, hle⟩ := hok.rule
      cases hp.symm.trans hq
      have hd : p.rhs.length = it.dot :=
        Nat.le_antisymm (List.getElem?_eq_none_iff.mp hnone) hle
      show (⟨it.pi, p.rhs.length, it.la⟩ : Item) ∈ _
      rw [hd]
      exact hitL
    · exact ⟨hn, (hW.no_eoi (Cert.ruleAt_mem hT.rules hp)).2 x (List.mem_of_getElem? hx)⟩
  case first =>
    intro p hp
    have h := hT.vfirst p hp
    refine ⟨h.1, fun c hc => h.2 c ?_⟩
    rwa [firstSeq_withItems] at hc

end Gen

open Gen in
theorem gen_valid {G : Grammar} {o : Gen.Out} (h : gen G = some o) (hW : WfG G)
    (hc : o.conflicts = false) : Valid G o.aut o.cert := by
  obtain ⟨C, I0, st, hC, hI, hb, rfl⟩ := gen_eq h
  have hT := tables_ok hC
  have hinv0 := inv_init hT hW hI
  obtain ⟨b1, b2, b4⟩ := bfs_inv hT hW hb hinv0 rfl
  have d : Done G C I0 st := ⟨hT, hW, b1, b2, b4.get (k := 0) (by simp), hI, fun s hs =>
    noConf_of_hasConflict (Bool.eq_false_iff.mpr (List.any_eq_false.mp (Bool.or_eq_false_iff.mp hc).1 _
      (List.mem_map.mpr ⟨s, List.mem_range.mpr hs, rfl⟩)))⟩
  exact d.valid

open Gen in
/-- A grammar for which the generator model reports nothing (no conflict, no unproductive
nonterminal) is reduced. -/
theorem gen_reduced {G : Grammar} {o : Gen.Out} (h : gen G = some o) (hW : WfG G)
    (hc : o.conflicts = false) : Reduced G := by
  obtain ⟨C, I0, st, _, _, _, rfl⟩ := gen_eq h
  have hp : allProductive G = true := by simpa using (Bool.or_eq_false_iff.mp hc).2
  exact reducedB_sound (reducedB_of_allProductive hp hW.start_ne_startPrime)

end Emboss.Lr1
