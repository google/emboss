/-
C17 — invariants of the cache/counter state machine, and the renaming of anonymous numbers
that connects the `View`s of two compilations of the same files.
The import queue `compileAux` is `only_parse_emboss_file` once more (Emboss/Model/Pipeline.lean has it
as `queueLoop`, over a parser without state and with error groups); that it terminates and visits
exactly the reachable files is proved for that model (`C16_import_queue_terminates`,
`C16_import_queue_result` in Emboss/Properties/C16.lean, from `queueLoop_exit` in
Emboss/Lemmas/Pipeline.lean), not for this one.
-/
import Emboss.Spec.Purity
namespace Emboss.Purity

/-! ### one `parse_module_text` call -/

theorem step_cases (P : Parser) (σ : St) (t f : String) :
    (∃ m, cacheGet σ.cache (t, f) = some m ∧ step P σ t f = (σ, .ok m)) ∨
    (cacheGet σ.cache (t, f) = none ∧ ∃ d, P t f = .error d ∧ step P σ t f = (σ, .error d)) ∨
    (cacheGet σ.cache (t, f) = none ∧ ∃ sk, P t f = .ok sk ∧
      step P σ t f = (⟨((t, f), ⟨t, f, σ.counter, sk⟩) :: σ.cache, σ.counter + sk.anon⟩,
                      .ok ⟨t, f, σ.counter, sk⟩)) := by
  unfold step
  cases h : cacheGet σ.cache (t, f) with
  | some m => exact .inl ⟨m, rfl, rfl⟩
  | none =>
    cases hp : P t f with
    | error d => exact .inr (.inl ⟨rfl, d, rfl, rfl⟩)
    | ok sk => exact .inr (.inr ⟨rfl, sk, rfl, rfl⟩)

theorem cacheGet_cons (k k' : Key) (m : ModIR) (c : List (Key × ModIR)) :
    cacheGet ((k', m) :: c) k = if k = k' then some m else cacheGet c k := rfl

open Spec List

/-! ### the invariants, and that a call keeps them -/

/-- `σ'` knows everything `σ` knows (entries are never changed or evicted). -/
def Ext (σ σ' : St) : Prop := ∀ k m, cacheGet σ.cache k = some m → cacheGet σ'.cache k = some m

theorem Ext.refl (σ : St) : Ext σ σ := fun _ _ h => h
theorem Ext.trans {a b c : St} (h₁ : Ext a b) (h₂ : Ext b c) : Ext a c :=
  fun k m h => h₂ k m (h₁ k m h)

theorem Ext.cons {σ : St} {k : Key} (hn : cacheGet σ.cache k = none) (m : ModIR) (c : Nat) :
    Ext σ ⟨(k, m) :: σ.cache, c⟩ := by
  intro k' m' hk
  rw [cacheGet_cons, if_neg]
  · exact hk
  · rintro rfl
    rw [hn] at hk
    cases hk

/-- Every cached IR is what parsing its key gives. -/
def Genuine (P : Parser) (σ : St) : Prop :=
  ∀ t f m, cacheGet σ.cache (t, f) = some m → P t f = .ok m.skel ∧ m.text = t ∧ m.file = f

def InCache (σ : St) (m : ModIR) : Prop := cacheGet σ.cache (m.text, m.file) = some m

/-- `n` is one of the anonymous numbers of `m`: they are `base + 1 … base + anon`. -/
def InRange (m : ModIR) (n : Nat) : Prop := m.base < n ∧ n ≤ m.base + m.skel.anon

/-- Every cached module's numbers lie below the counter, and `own` sends each of them to the module's
key: ranges of different entries are disjoint. -/
def Owned (own : Nat → Key) (σ : St) : Prop :=
  ∀ k m, cacheGet σ.cache k = some m →
    m.base + m.skel.anon ≤ σ.counter ∧ ∀ n, InRange m n → own n = k

def Numbered (σ : St) : Prop := ∃ own, Owned own σ

theorem genuine_init (P : Parser) : Genuine P St.init := fun _ _ _ h => nomatch h

theorem numbered_init : Numbered St.init := ⟨fun _ => default, fun _ _ h => nomatch h⟩

/-- Only a miss that parses changes the state. -/
theorem step_inv {P : Parser} {I : St → Prop} {σ : St} (t f : String) (hI : I σ)
    (hmiss : ∀ sk, cacheGet σ.cache (t, f) = none → P t f = .ok sk →
      I ⟨((t, f), ⟨t, f, σ.counter, sk⟩) :: σ.cache, σ.counter + sk.anon⟩) :
    I (step P σ t f).1 := by
  rcases step_cases P σ t f with ⟨m, _, hs⟩ | ⟨_, d, _, hs⟩ | ⟨hn, sk, hp, hs⟩ <;> rw [hs]
  · exact hI
  · exact hI
  · exact hmiss sk hn hp

theorem step_ext (P : Parser) (σ : St) (t f : String) : Ext σ (step P σ t f).1 :=
  step_inv t f (Ext.refl σ) fun _ hn _ => Ext.cons hn _ _

theorem step_genuine {P : Parser} (σ : St) (t f : String) (hg : Genuine P σ) :
    Genuine P (step P σ t f).1 := by
  refine step_inv t f hg fun sk _ hp t' f' m hk => ?_
  rw [cacheGet_cons] at hk
  split at hk
  · rename_i heq
    cases heq
    cases hk
    exact ⟨hp, rfl, rfl⟩
  · exact hg t' f' m hk

theorem step_numbered {P : Parser} (σ : St) (t f : String) (hn : Numbered σ) :
    Numbered (step P σ t f).1 := by
  obtain ⟨own, ho⟩ := hn
  -- the new entry owns what lies above the counter
  refine step_inv t f ⟨own, ho⟩ fun sk _ _ =>
    ⟨fun n => if σ.counter < n then (t, f) else own n, fun k m hk => ?_⟩
  rw [cacheGet_cons] at hk
  split at hk
  · rename_i hk'
    cases hk
    exact ⟨Nat.le_refl _, fun n hn => (if_pos hn.1).trans hk'.symm⟩
  · obtain ⟨hb, hown⟩ := ho k m hk
    exact ⟨Nat.le_trans hb (Nat.le_add_right _ _),
      fun n hn => (if_neg (Nat.not_lt.2 (Nat.le_trans hn.2 hb))).trans (hown n hn)⟩

section Call
variable {P : Parser} {σ σ' : St} {t f : String}

theorem step_hit {m : ModIR} (h : cacheGet σ.cache (t, f) = some m) :
    step P σ t f = (σ, .ok m) := by
  simp only [step, h]

/-- From a genuine state the parser's answer alone decides how a call ends. -/
theorem step_spec {r : Except String Skel} (hg : Genuine P σ) :
    P t f = r →
    match r with
    | .error d => step P σ t f = (σ, .error d)
    | .ok sk => ∃ σ' b, step P σ t f = (σ', .ok ⟨t, f, b, sk⟩) ∧ InCache σ' ⟨t, f, b, sk⟩ ∧
        Genuine P σ' ∧ Ext σ σ' := by
  rintro rfl
  have hg' := step_genuine σ t f hg
  have he := step_ext P σ t f
  rcases step_cases P σ t f with ⟨m, hm, hs⟩ | ⟨_, d, hp, hs⟩ | ⟨_, sk, hp, hs⟩ <;>
    rw [hs] at hg' he
  · obtain ⟨hp, rfl, rfl⟩ := hg t f m hm
    rw [hp]
    exact ⟨σ, m.base, hs, hm, hg', he⟩
  · rw [hp]
    exact hs
  · rw [hp]
    exact ⟨_, _, hs, by rw [InCache, cacheGet_cons, if_pos rfl], hg', he⟩

theorem step_stable {σ'' : St} {r : Except String ModIR}
    (h : step P σ t f = (σ', r)) (hg : Genuine P σ'') (he : Ext σ' σ'') :
    step P σ'' t f = (σ'', r) := by
  rcases step_cases P σ t f with ⟨m, hm, hs⟩ | ⟨_, d, hp, hs⟩ | ⟨_, sk, _, hs⟩ <;>
    cases hs.symm.trans h
  · exact step_hit (he _ _ hm)
  · exact step_spec hg hp
  · exact step_hit (he _ _ (by rw [cacheGet_cons, if_pos rfl]))

end Call

/-! ### a whole compilation -/

section Compilation
variable {P : Parser} {read : Reader} {fuel : Nat} {σ σ' : St} {f text : String}
  {q seen : List String} {acc : List ModIR}

theorem compileAux_read_error {e : String} (hr : read f = .error e) :
    compileAux P read (fuel + 1) σ (f :: q) seen acc =
      (σ, .error ("Unable to read file. " ++ f ++ ": " ++ e)) := by
  simp only [compileAux, hr]

theorem compileAux_step_error {d : String} (hr : read f = .ok text)
    (hs : step P σ text f = (σ', .error d)) :
    compileAux P read (fuel + 1) σ (f :: q) seen acc = (σ', .error d) := by
  simp only [compileAux, hr, hs]

theorem compileAux_step_ok {m : ModIR} (hr : read f = .ok text)
    (hs : step P σ text f = (σ', .ok m)) :
    compileAux P read (fuel + 1) σ (f :: q) seen acc =
      compileAux P read fuel σ' (enqueue q seen m.skel.imports).1
        (enqueue q seen m.skel.imports).2 (acc ++ [m]) := by
  simp only [compileAux, hr, hs]

theorem compileAux_inv {I : St → Prop} (hstep : ∀ σ t f, I σ → I (step P σ t f).1) (hI : I σ) :
    I (compileAux P read fuel σ q seen acc).1 := by
  fun_induction compileAux P read fuel σ q seen acc with
  | case1 | case2 | case3 => exact hI
  | case4 _ σ f _ _ _ text _ σ' _ hs =>
    have := hstep σ text f hI
    rwa [hs] at this
  | case5 _ σ f _ _ _ text _ σ' _ hs _ _ _ ih =>
    have := hstep σ text f hI
    rw [hs] at this
    exact ih this

theorem runHistory_inv {I : St → Prop} (hstep : ∀ σ t f, I σ → I (step P σ t f).1) :
    ∀ (hist : List Job) (σ : St), I σ → I (runHistory P σ hist)
  | [], _, hI => hI
  | _ :: r, _, hI => runHistory_inv hstep r _ (compileAux_inv hstep hI)

theorem runHistory_genuine (P : Parser) (hist : List Job) : Genuine P (runHistory P St.init hist) :=
  runHistory_inv step_genuine hist _ (genuine_init P)

theorem runHistory_numbered (P : Parser) (hist : List Job) : Numbered (runHistory P St.init hist) :=
  runHistory_inv step_numbered hist _ numbered_init

theorem compileAux_genuine (hg : Genuine P σ) :
    Genuine P (compileAux P read fuel σ q seen acc).1 :=
  compileAux_inv step_genuine hg

theorem compileAux_numbered (hn : Numbered σ) :
    Numbered (compileAux P read fuel σ q seen acc).1 :=
  compileAux_inv (P := P) step_numbered hn

theorem compileAux_ext : Ext σ (compileAux P read fuel σ q seen acc).1 :=
  compileAux_inv (fun σ' t f h => h.trans (step_ext P σ' t f)) (Ext.refl σ)

theorem compileAux_stable {σ₂ : St} (hg₂ : Genuine P σ₂)
    (he : Ext (compileAux P read fuel σ q seen acc).1 σ₂) :
    compileAux P read fuel σ₂ q seen acc = (σ₂, (compileAux P read fuel σ q seen acc).2) := by
  fun_induction compileAux P read fuel σ q seen acc with
  | case1 | case2 => simp only [compileAux]
  | case3 _ _ _ _ _ _ _ hr => exact compileAux_read_error hr
  | case4 _ _ _ _ _ _ _ hr _ _ hs => exact compileAux_step_error hr (step_stable hs hg₂ he)
  | case5 fuel σ f q seen acc text hr σ' m hs q' seen' hq ih =>
    have hs₂ := step_stable hs hg₂ (compileAux_ext.trans he)
    rw [compileAux_step_ok hr hs₂, hq]
    exact ih he

/-! ### two compilations of the same files from different process states -/

def ModIR.rebase (β : Key → Nat) (m : ModIR) : ModIR := { m with base := β (m.text, m.file) }

def Outcome.rebase (β : Key → Nat) : Outcome → Outcome
  | .ok ms => .ok (ms.map (·.rebase β))
  | o => o

/-- The base the cache gives a key; the `0` for a key not cached is never looked at. -/
def baseIn (σ : St) (k : Key) : Nat :=
  match cacheGet σ.cache k with
  | some m => m.base
  | none => 0

theorem InCache.baseIn_eq {m : ModIR} (h : InCache σ m) : baseIn σ (m.text, m.file) = m.base := by
  unfold baseIn
  rw [h]

theorem InCache.rebase {m : ModIR} (h : InCache σ m) : m.rebase (baseIn σ) = m := by
  unfold ModIR.rebase
  rw [h.baseIn_eq]

theorem Outcome.rebase_of_inCache {o : Outcome} (h : ∀ ms, o = .ok ms → ∀ m ∈ ms, InCache σ m) :
    o.rebase (baseIn σ) = o := by
  cases o with
  | ok ms =>
    exact congrArg Outcome.ok
      ((map_congr_left fun m hm => (h ms rfl m hm).rebase).trans (map_id' ms))
  | _ => rfl

theorem compileAux_rebase {σa σb : St} {acca accb : List ModIR} (β : Key → Nat)
    (ha : Genuine P σa) (hb : Genuine P σb) (hacc : acca.map (·.rebase β) = accb.map (·.rebase β)) :
    (compileAux P read fuel σa q seen acca).2.rebase β =
      (compileAux P read fuel σb q seen accb).2.rebase β := by
  -- both calls end as `P` alone decides (`step_spec`), so the two runs go in lock-step: induction
  -- on the fuel, not along one run
  induction fuel generalizing σa σb q seen acca accb with
  | zero => rfl
  | succ fuel ih =>
    cases q with
    | nil => exact congrArg Outcome.ok hacc
    | cons f q =>
      cases hr : read f with
      | error e => rw [compileAux_read_error hr, compileAux_read_error hr]
      | ok text =>
        cases hp : P text f with
        | error d =>
          rw [compileAux_step_error hr (step_spec ha hp),
            compileAux_step_error hr (step_spec hb hp)]
        | ok sk =>
          obtain ⟨σa', ba, hsa, -, hga, -⟩ := step_spec ha hp
          obtain ⟨σb', bb, hsb, -, hgb, -⟩ := step_spec hb hp
          rw [compileAux_step_ok hr hsa, compileAux_step_ok hr hsb]
          refine ih hga hgb ?_
          rw [map_append, map_append, hacc]
          rfl

theorem compileAux_inCache (hg : Genuine P σ) (hacc : ∀ m ∈ acc, InCache σ m) :
    ∀ ms, (compileAux P read fuel σ q seen acc).2 = .ok ms →
      ∀ m ∈ ms, InCache (compileAux P read fuel σ q seen acc).1 m := by
  fun_induction compileAux P read fuel σ q seen acc with
  | case2 => intro ms h; cases h; exact hacc
  | case5 _ σ f _ _ acc text _ σ' m hs _ _ _ ih =>
    cases hp : P text f with
    | error d => cases hs.symm.trans (step_spec hg hp)
    | ok sk =>
      obtain ⟨_, _, hs', hc, hg', he⟩ := step_spec hg hp
      cases hs.symm.trans hs'
      refine ih hg' fun m' hm' => ?_
      rcases mem_append.1 hm' with hm' | hm'
      · exact he _ _ (hacc m' hm')
      · cases mem_singleton.1 hm'
        exact hc
  | _ => nofun

end Compilation

/-! ### from "every number has one owner" to an injective renaming of anonymous numbers -/

theorem hole_lt_holesBound {body : List Tok} {i : Nat} (h : Tok.hole i ∈ body) : i < holesBound body := by
  fun_induction holesBound body with
  | case1 => nomatch h
  | case2 _ r ih => exact ih ((mem_cons.1 h).resolve_left nofun)
  | case3 j r ih =>
    rcases mem_cons.1 h with h | h
    · cases h
      exact Nat.lt_of_lt_of_le (Nat.lt_succ_self _) (Nat.le_max_left _ _)
    · exact Nat.lt_of_lt_of_le (ih h) (Nat.le_max_right _ _)

theorem inRange_of_hole {m : ModIR} {i : Nat} (h : Tok.hole i ∈ m.skel.body) :
    InRange m (m.base + 1 + i) :=
  ⟨Nat.lt_of_lt_of_le (Nat.lt_succ_self _) (Nat.le_add_right _ _),
   by rw [Nat.add_assoc, Nat.add_comm 1]; exact Nat.add_le_add_left (hole_lt_holesBound h) _⟩

/-- A number moves with its owner: from the owner's base in `σ₀` to the base `β` gives the owner. -/
def renameOf (own : Nat → Key) (σ₀ : St) (β : Key → Nat) (n : Nat) : Nat :=
  β (own n) + (n - baseIn σ₀ (own n))

section Rename
variable {own₀ own : Nat → Key} {σ₀ σ : St} {β : Key → Nat} {m : ModIR}

theorem renameOf_hole (ho : Owned own₀ σ₀) (hm : InCache σ₀ m) {i : Nat}
    (hi : Tok.hole i ∈ m.skel.body) :
    renameOf own₀ σ₀ β (m.base + 1 + i) = β (m.text, m.file) + 1 + i := by
  rw [renameOf, (ho _ _ hm).2 _ (inRange_of_hole hi), hm.baseIn_eq, Nat.add_assoc m.base,
    Nat.add_sub_cancel_left, Nat.add_assoc]

theorem atoms_rename (ho : Owned own₀ σ₀) (hm : InCache σ₀ m) :
    (m.rebase β).atoms = m.atoms.map (Atom.rename (renameOf own₀ σ₀ β)) := by
  unfold ModIR.atoms
  rw [map_map]
  refine map_congr_left fun tok htok => ?_
  cases tok with
  | lit s => rfl
  | hole i => exact congrArg Atom.anon (renameOf_hole ho hm htok).symm

theorem mem_anonsOf_atoms {m : ModIR} {a : Nat} :
    a ∈ anonsOf m.atoms ↔ ∃ i, Tok.hole i ∈ m.skel.body ∧ a = m.base + 1 + i := by
  unfold anonsOf ModIR.atoms
  simp only [mem_filterMap, mem_map]
  constructor
  · rintro ⟨at', ⟨tok, htok, rfl⟩, hat⟩
    cases tok with
    | lit s => cases hat
    | hole i => exact ⟨i, htok, (Option.some.inj hat).symm⟩
  · rintro ⟨i, hi, rfl⟩
    exact ⟨_, ⟨_, hi, rfl⟩, rfl⟩

/-- Renaming back from `σ` to `σ₀` undoes it: the image lies in the range `σ` gives the same key. -/
theorem renameOf_inverse (ho₀ : Owned own₀ σ₀) (ho : Owned own σ) (hm : InCache σ₀ m)
    (hc : InCache σ (m.rebase β)) {a : Nat} (ha : a ∈ anonsOf m.atoms) :
    renameOf own σ (baseIn σ₀) (renameOf own₀ σ₀ β a) = a := by
  obtain ⟨i, hi, rfl⟩ := mem_anonsOf_atoms.1 ha
  rw [renameOf_hole ho₀ hm hi]
  exact (renameOf_hole ho hc hi).trans (congrArg (· + 1 + i) hm.baseIn_eq)

theorem renameOf_translation (ho : Owned own₀ σ₀) (hm : InCache σ₀ m) {a b : Nat}
    (ha : a ∈ anonsOf m.atoms) (hb : b ∈ anonsOf m.atoms) (hab : a ≤ b) :
    renameOf own₀ σ₀ β a + (b - a) = renameOf own₀ σ₀ β b := by
  obtain ⟨i, hi, rfl⟩ := mem_anonsOf_atoms.1 ha
  obtain ⟨j, hj, rfl⟩ := mem_anonsOf_atoms.1 hb
  rw [renameOf_hole ho hm hi, renameOf_hole ho hm hj, Nat.add_sub_add_left, Nat.add_assoc _ i,
    Nat.add_sub_of_le (Nat.le_of_add_le_add_left hab)]

end Rename

/-- `σ₀`, `σ` are the states two runs *end* in, `o₀`, `o` their outcomes: `o` is `o₀` with each
module's base replaced by the one its key has in `σ`.  Both final states are `Numbered`: every number
of `o₀` has one owner in `σ₀`, its image one owner in `σ`, and `renameOf` is the renaming. -/
theorem view_renaming {σ₀ σ : St} (hn₀ : Numbered σ₀) (hn : Numbered σ) {o₀ o : Outcome}
    (hre : o₀.rebase (baseIn σ) = o) (hc₀ : ∀ ms, o₀ = .ok ms → ∀ m ∈ ms, InCache σ₀ m)
    (hc : ∀ ms, o = .ok ms → ∀ m ∈ ms, InCache σ m) :
    ∃ ρ : Nat → Nat, (∀ a ∈ anons o₀.view, ∀ b ∈ anons o₀.view, ρ a = ρ b → a = b) ∧
      o.view = rename ρ o₀.view ∧ TranslationPerModule ρ o₀.view := by
  subst hre
  obtain ⟨own₀, ho₀⟩ := hn₀
  obtain ⟨own, ho⟩ := hn
  obtain ms | _ | _ := o₀
  case error | outOfFuel => exact ⟨id, nofun, rfl, trivial⟩
  have hc₀ := hc₀ ms rfl
  have hc : ∀ m ∈ ms, InCache σ (m.rebase (baseIn σ)) := fun m hm => hc _ rfl _ (mem_map_of_mem hm)
  refine ⟨renameOf own₀ σ₀ (baseIn σ), ?_, ?_, ?_⟩
  · intro a ha b hb hab
    simp only [Outcome.view, anons, mem_flatMap, mem_map] at ha hb
    obtain ⟨_, ⟨ma, hma, rfl⟩, ha⟩ := ha
    obtain ⟨_, ⟨mb, hmb, rfl⟩, hb⟩ := hb
    exact (renameOf_inverse ho₀ ho (hc₀ _ hma) (hc _ hma) ha).symm.trans
      ((congrArg (renameOf own σ (baseIn σ₀)) hab).trans
        (renameOf_inverse ho₀ ho (hc₀ _ hmb) (hc _ hmb) hb))
  · simp only [Outcome.rebase, Outcome.view, rename, map_map]
    exact congrArg _ (map_congr_left fun m hm => by
      simp only [Function.comp]
      rw [atoms_rename ho₀ (hc₀ m hm)]
      rfl)
  · simp only [Outcome.view, TranslationPerModule, mem_map]
    rintro _ ⟨m, hm, rfl⟩ a ha b hb hab
    exact renameOf_translation ho₀ (hc₀ m hm) ha hb hab

/-- `compileAux_rebase` makes the two outcomes equal once both are rebased by the second run's final
cache; on the second outcome that rebasing does nothing, its modules being in that cache
(`compileAux_inCache`).  The rest is `view_renaming`. -/
theorem compile_view_renaming (P : Parser) (read : Reader) (fuel : Nat) (main : String)
    {σ₀ σ : St} (hg₀ : Genuine P σ₀) (hn₀ : Numbered σ₀) (hg : Genuine P σ) (hn : Numbered σ) :
    ∃ ρ : Nat → Nat,
      (∀ a ∈ anons (compile P read fuel σ₀ main).2.view,
        ∀ b ∈ anons (compile P read fuel σ₀ main).2.view, ρ a = ρ b → a = b) ∧
      (compile P read fuel σ main).2.view = rename ρ (compile P read fuel σ₀ main).2.view ∧
      TranslationPerModule ρ (compile P read fuel σ₀ main).2.view :=
  have hc := compileAux_inCache (acc := []) hg nofun
  view_renaming (compileAux_numbered hn₀) (compileAux_numbered hn)
    ((compileAux_rebase _ hg₀ hg rfl).trans (Outcome.rebase_of_inCache hc))
    (compileAux_inCache hg₀ fun _ h => nomatch h) hc

/-! ### import directories -/

theorem findInDirs_eq_findSome? (fs : String → String → Option String) (f : String)
    (dirs : List String) : findInDirs fs f dirs = dirs.findSome? (fs · f) := by
  induction dirs with
  | nil => rfl
  | cons d r ih =>
    rw [findInDirs, findSome?_cons, ih]
    cases fs d f <;> rfl

end Emboss.Purity
