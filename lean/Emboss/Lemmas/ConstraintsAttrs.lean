/-
C14 lemmas: when a list of errors is empty (the shapes every rule of the model is written in),
the attribute-table pass (`_check_attributes`) against `AttrListOK`, and the attribute lookup
`getAttr` against the documented `declared`.
-/
import Emboss.Spec.Constraints
namespace Emboss.Constraints
open Emboss.Generated

theorem errIf_nil {α} {c : Prop} [Decidable c] (e : α) : (if c then [e] else []) = [] ↔ ¬ c := by
  by_cases h : c <;> simp [h]

theorem errUnless_nil {α} {c : Prop} [Decidable c] (e : α) : (if c then [] else [e]) = [] ↔ c := by
  by_cases h : c <;> simp [h]

theorem errIf_else_nil {α} {c : Prop} [Decidable c] (e : α) (x : List α) :
    (if c then [e] else x) = [] ↔ ¬ c ∧ x = [] := by
  by_cases h : c <;> simp [h]

theorem errUnless_else_nil {α} {c : Prop} [Decidable c] (e : α) (x : List α) :
    (if c then x else [e]) = [] ↔ c ∧ x = [] := by
  by_cases h : c <;> simp [h]

theorem firstErrs_nil {α} (x y : List α) : (if x ≠ [] then x else y) = [] ↔ x = [] ∧ y = [] := by
  by_cases h : x = [] <;> simp [h]

theorem checkAttrType_nil (a : Attr) : checkAttrType a = [] ↔ ValueOK a := by
  unfold checkAttrType ValueOK
  generalize a.val = v
  cases AttrTable.attrTypes.lookup a.name with
  | none => simp
  | some ty => rcases v with s | (_ | n) | ⟨_ | b, l⟩ | e | _ <;> cases ty <;> simp

theorem frontKeys_cons (a : Attr) (rest : List Attr) :
    frontKeys (a :: rest) =
      if a.backEnd = "" then (a.name, a.isDefault) :: frontKeys rest else frontKeys rest := by
  by_cases h : a.backEnd = "" <;> simp [frontKeys, h]

theorem checkAttrList_nil (specs : List (String × Bool)) (attrs : List Attr) :
    ∀ seen, seen.Nodup → (checkAttrList specs seen attrs = [] ↔
      ((seen ++ frontKeys attrs).Nodup ∧
        ∀ a ∈ attrs, a.backEnd = "" → (a.name, a.isDefault) ∈ specs ∧ ValueOK a)) := by
  induction attrs with
  | nil => intro seen hs; simp [checkAttrList, frontKeys, hs]
  | cons a rest ih =>
    intro seen hs
    rw [checkAttrList, frontKeys_cons]
    by_cases hq : a.backEnd = ""
    · simp only [hq, ne_eq, not_true_eq_false, ↓reduceIte, List.forall_mem_cons, forall_const]
      by_cases hk : (a.name, a.isDefault) ∈ seen
      · simp only [hk, ↓reduceIte, List.cons_ne_nil, false_iff]
        exact fun h => (List.nodup_append.1 h.1).2.2 _ hk _ (List.mem_cons_self ..) rfl
      · -- the key passes from the keys to come to `seen`: the same list up to `perm_middle`
        rw [if_neg hk, List.append_eq_nil_iff, ih _ (List.nodup_cons.2 ⟨hk, hs⟩),
          List.perm_middle.nodup_iff, and_left_comm]
        refine and_congr_right fun _ => and_congr_left fun _ => ?_
        by_cases hsp : (a.name, a.isDefault) ∈ specs
        · simp only [hsp, ↓reduceIte, checkAttrType_nil, true_and]
        · simp only [hsp, ↓reduceIte, false_and, iff_false]
          split <;> exact List.cons_ne_nil _ _
    · simp only [ne_eq, hq, not_false_eq_true, ↓reduceIte, ih seen hs, List.forall_mem_cons,
        false_implies, true_and]

theorem checkAttrList_ok (specs : List (String × Bool)) (attrs : List Attr) :
    checkAttrList specs [] attrs = [] ↔ AttrListOK specs attrs := by
  rw [checkAttrList_nil specs attrs [] List.nodup_nil, List.nil_append]
  constructor
  · rintro ⟨h2, h3⟩
    exact ⟨h2, fun a ha hq => (h3 a ha hq).1, fun a ha hq => (h3 a ha hq).2⟩
  · rintro ⟨h1, h2, h3⟩
    exact ⟨h1, fun a ha hq => ⟨h2 a ha hq, h3 a ha hq⟩⟩

theorem getAttr_mem {attrs : List Attr} {n : String} {v : AVal} (h : getAttr attrs n = some v) :
    ∃ a ∈ attrs, a.name = n ∧ a.backEnd = "" ∧ a.val = v := by
  simp only [getAttr, Option.map_eq_some_iff] at h
  obtain ⟨a, ha, rfl⟩ := h
  have hn := List.find?_some ha
  simp only [Attr.named, decide_eq_true_eq] at hn
  exact ⟨a, List.mem_of_find?_eq_some ha, hn.1, hn.2.2, rfl⟩

/-! `getAttr` against the documented `declared`.  As the model stands `Attr.named` tests the
qualifier itself and the two sides are one term (`C14_lookup_documented`); this proof goes through
`UnqAttrs` instead, so that it stands however `Attr.named` treats the qualifier (notes/C14.md §3). -/

theorem getAttr_eq_declared (attrs : List Attr) (n : String) (h : UnqAttrs attrs) :
    getAttr attrs n = declared attrs n := by
  unfold getAttr declared
  rw [← List.head?_filter, ← List.head?_filter]
  refine congrArg (fun l : List Attr => l.head?.map (·.val)) (List.filter_congr fun a ha => ?_)
  simp [Attr.named, h a ha]

end Emboss.Constraints
