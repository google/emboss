/-
C11, normal form modulo trailing blanks of Comment tokens: `fold_equivC` — on trees that
differ only in layout-token texts and in trailing blanks of Documentation and Comment
tokens the fold yields related values at every node (`Res3`), hence the same text at the root
(`fold_equivC_str`).
-/
import Emboss.Lemmas.FmtRelCHandlers
namespace Emboss.Fmt

theorem CArg.refl_str (x : Str) : CArg (.str x) (.str x) := ⟨x, x, rfl, rfl, CRel.refl x⟩

/-- Values of two `equivC` trees. -/
def Res3 (tbl : Table) : Tree → Fmt → Fmt → Prop
  | .tok s _, v, v' =>
    if isLayoutSym s = true then True
    else if s = docSym then ∃ x x', v = .str x ∧ v' = .str x' ∧ rstrip x = rstrip x'
    else if s = commentSym then CArg v v'
    else ∃ x, v = .str x ∧ v' = .str x
  | .node p cs, v, v' =>
    if isCommentSym (rootSym tbl (.node p cs)) = true then CArg v v' else VRel v v'

def Res3L (tbl : Table) : List Tree → List Fmt → List Fmt → Prop
  | [], [], [] => True
  | t :: ts, v :: vs, v' :: vs' => Res3 tbl t v v' ∧ Res3L tbl ts vs vs'
  | _, _, _ => False

theorem res3_tok (tbl : Table) {s : String} {x x' : Str} (hte : tokEquivC s x x' = true) :
    Res3 tbl (.tok s x) (.str x) (.str x') := by
  simp only [tokEquivC, Bool.or_eq_true, beq_iff_eq] at hte
  simp only [Res3]
  split
  · trivial
  · rename_i hl
    replace hte := hte.resolve_left hl
    split
    · rename_i hd
      rw [if_pos hd] at hte
      exact ⟨x, x', rfl, rfl, eq_of_beq hte⟩
    · rename_i hd
      rw [if_neg hd] at hte
      split
      · rename_i hc
        rw [if_pos hc, Bool.and_eq_true] at hte
        exact ⟨x, x', rfl, rfl, eq_of_beq hte.1, by
          rw [← List.isEmpty_iff, ← List.isEmpty_iff, eq_of_beq hte.2]⟩
      · rename_i hc
        rw [if_neg hc] at hte
        exact ⟨x, rfl, congrArg Fmt.str (eq_of_beq hte).symm⟩

theorem res3L_nil {tbl : Table} {cs : List Tree} {args' : List Fmt} (h : Res3L tbl cs [] args') :
    cs = [] ∧ args' = [] := by
  cases cs <;> cases args' <;> first | exact ⟨rfl, rfl⟩ | exact False.elim h

theorem res3L_single {tbl : Table} {cs : List Tree} {a : Fmt} {args' : List Fmt}
    (h : Res3L tbl cs [a] args') : ∃ c a', cs = [c] ∧ args' = [a'] ∧ Res3 tbl c a a' := by
  cases cs with
  | nil => cases args' <;> exact False.elim h
  | cons c cs =>
    cases args' with
    | nil => exact False.elim h
    | cons a' as' =>
      obtain ⟨rfl, rfl⟩ := res3L_nil h.2
      exact ⟨c, a', rfl, rfl, h.1⟩

theorem res3_sym {tbl : Table} {c : Tree} {v v' : Fmt} (hl : isLayoutSym (rootSym tbl c) = false)
    (hd : rootSym tbl c ≠ docSym) (h : Res3 tbl c v v') :
    if isCommentSym (rootSym tbl c) = true then CArg v v' else VRel v v' := by
  cases c with
  | node p cs => exact h
  | tok s x =>
    change isLayoutSym s = false at hl
    change s ≠ docSym at hd
    change if isCommentSym s = true then CArg v v' else VRel v v'
    simp only [Res3, hl, Bool.false_eq_true, if_false, hd] at h
    split at h
    · rename_i hc
      rw [if_pos (by simp only [isCommentSym, hc, beq_self_eq_true, Bool.true_or])]
      exact h
    · obtain ⟨y, rfl, rfl⟩ := h
      split
      · exact CArg.refl_str y
      · exact rfl

theorem res3L_argsRel (tbl : Table) (h : Handler) (hdoc : (h == Handler.docRstrip) = false) :
    ∀ (cs : List Tree) (args args' : List Fmt) (i : Nat),
      normPos h i (cs.map (rootSym tbl)) = true → commentPosOK h i (cs.map (rootSym tbl)) = true →
      Res3L tbl cs args args' → ArgsRel h i args args' := by
  intro cs
  induction cs with
  | nil =>
    intro args args' i _ _ hr
    cases args <;> cases args' <;> first | trivial | exact False.elim hr
  | cons c cs ih =>
    intro args args' i hn hcp hr
    cases args with
    | nil => exact False.elim hr
    | cons a as =>
      cases args' with
      | nil => exact False.elim hr
      | cons a' as' =>
        simp only [List.map_cons, normPos, Bool.and_eq_true, Bool.or_eq_true, Bool.not_eq_true',
          List.contains_iff_mem, bne_iff_ne, ne_eq, hdoc, Bool.false_eq_true, or_false] at hn
        simp only [List.map_cons, commentPosOK, Bool.and_eq_true, beq_iff_eq] at hcp
        refine ⟨?_, ih as as' (i + 1) hn.2 hcp.2 hr.2⟩
        unfold ArgRel
        split
        · trivial
        · rename_i hd
          have := res3_sym (hn.1.1.resolve_right hd) hn.1.2 hr.1
          simpa only [hcp.1, List.contains_iff_mem] using this

theorem commentCore_other {h : Handler} {lhs : String} {rhs : List String}
    (hc : commentCore (some h) lhs rhs = true) (hid : h ≠ .identity) (hes : h ≠ .emptyString) :
    commentPosOK h 0 rhs = true ∧ isCommentSym lhs = false := by
  unfold commentCore at hc
  split at hc
  · cases hc
  · rename_i heq; cases heq; exact absurd rfl hid
  · rename_i heq; cases heq; exact absurd rfl hes
  · rename_i heq
    cases heq
    simpa only [Bool.and_eq_true, Bool.not_eq_true'] using hc

theorem node_rel (tbl : Table) (iw : Nat) {e : String × List String × String × Bool} {h : Handler}
    (hres : resolve e = some h) (hce : checkEntry e = true) (hno : normOK e = true)
    (hco : commentOK e = true) {cs : List Tree} {args args' : List Fmt}
    (hrhs : cs.map (rootSym tbl) = e.2.1) (hk : HasKinds args (e.2.1.map kindOf))
    (hr : Res3L tbl cs args args') :
    ORel (fun v v' => if isCommentSym e.1 = true then CArg v v' else VRel v v')
      (h.run iw args) (h.run iw args') := by
  have ⟨k, hsig, _⟩ := sig_of_checkEntry hres hce
  simp only [normOK, normCore, hres, ← hrhs] at hno
  simp only [commentOK, commentCore, hres] at hco
  by_cases hid : h = .identity
  · -- one argument, handed through
    subst hid
    simp only [Handler.sig] at hsig
    split at hsig
    · rename_i k0 hks
      rw [hks] at hk
      obtain ⟨a, rfl, -⟩ := hasKinds_one hk
      obtain ⟨c, a', rfl, rfl, hr1⟩ := res3L_single hr
      rw [← hrhs] at hco
      -- child and node are comment symbols together; the child is neither layout nor `Documentation`
      simp only [List.map_cons, List.map_nil, beq_iff_eq] at hco
      simp only [List.map_cons, List.map_nil, normPos, Handler.dropped, List.contains_nil,
        Bool.or_false, Bool.and_eq_true, Bool.not_eq_true', Bool.and_true, bne_iff_ne, ne_eq,
        Bool.or_eq_true, beq_iff_eq, reduceCtorEq, or_false] at hno
      rw [← hco]
      exact res3_sym hno.1 hno.2 hr1
    · cases hsig
  · by_cases hes : h = .emptyString
    · subst hes
      obtain ⟨hks, -⟩ := Option.ite_some_none_eq_some.mp hsig
      rw [hks] at hk
      cases hasKinds_nil hk
      obtain ⟨rfl, rfl⟩ := res3L_nil hr
      show if _ then _ else _
      split
      · exact CArg.refl_str []
      · exact rfl
    · have hco' := commentCore_other hco hid hes
      simp only [hco'.2, Bool.false_eq_true, if_false]
      cases hdr : (h == Handler.docRstrip) with
      | false =>
        exact run_rel iw hid (res3L_argsRel tbl h hdr cs args args' 0 hno (by rw [hrhs]; exact hco'.1) hr)
          hk hsig
      | true =>
        -- `_doc` strips its argument, a `Documentation` token or the value of a node
        have hh : h = .docRstrip := by simpa using hdr
        subst hh
        obtain ⟨hks, -⟩ := Option.ite_some_none_eq_some.mp hsig
        rw [hks] at hk
        obtain ⟨_, rfl, sa, rfl⟩ := hasKinds_one hk
        obtain ⟨c, a', rfl, rfl, hr1⟩ := res3L_single hr
        have hcp := hco'.1
        rw [← hrhs] at hcp
        -- the child is neither a comment symbol nor layout
        simp only [List.map_cons, List.map_nil, commentPosOK, Handler.commentPos, List.contains_nil,
          Bool.and_true, beq_iff_eq] at hcp
        simp only [List.map_cons, List.map_nil, normPos, Handler.dropped, List.contains_nil,
          Bool.or_false, Bool.and_eq_true, Bool.not_eq_true', Bool.and_true] at hno
        cases c with
        | node q cs0 =>
          simp only [Res3, hcp, Bool.false_eq_true, if_false] at hr1
          cases hr1.view
          exact rfl
        | tok s x =>
          simp only [rootSym] at hno hcp
          simp only [Res3, hno.1, Bool.false_eq_true, if_false] at hr1
          split at hr1
          · obtain ⟨y, y', hy, rfl, hyy⟩ := hr1
            cases hy
            exact hyy
          · have hns : s ≠ commentSym := by
              intro hs; rw [hs] at hcp; cases hcp
            simp only [hns, if_false] at hr1
            obtain ⟨y, hy, rfl⟩ := hr1
            cases hy
            exact rfl

mutual
  theorem fold_equivC (tbl : Table) (iw : Nat) (ht : tableTyped tbl = true) (hn : tableNormal tbl = true)
      (hcm : tableComment tbl = true) :
      ∀ (t t' : Tree), wf tbl t = true → equivC t t' = true →
        ∀ v, fold tbl iw t = some v → ∃ v', fold tbl iw t' = some v' ∧ Res3 tbl t v v'
    | .tok s x, .tok s' x', _, he, v, hv => by
      simp only [equivC, Bool.and_eq_true, beq_iff_eq] at he
      obtain ⟨rfl, hte⟩ := he
      simp only [fold, Option.some.injEq] at hv
      subst hv
      exact ⟨.str x', rfl, res3_tok tbl hte⟩
    | .tok _ _, .node _ _, _, he, _, _ => by simp [equivC] at he
    | .node _ _, .tok _ _, _, he, _, _ => by simp [equivC] at he
    | .node p cs, .node p' cs', hw, he, v, hv => by
      simp only [equivC, Bool.and_eq_true, beq_iff_eq] at he
      obtain ⟨rfl, hel⟩ := he
      obtain ⟨e, h, he, hres', hrhs, hwl, -⟩ := wf_node hw
      have hmem := List.mem_of_getElem? he
      obtain ⟨args, hargs, hkinds, -⟩ := foldList_ok tbl iw ht cs hwl
      obtain ⟨args', hargs', hres⟩ := foldList_equivC tbl iw ht hn hcm cs cs' hwl hel args hargs
      simp only [fold, he, hres', hargs] at hv
      simp only [fold, he, hres', hargs', Res3, rootSym]
      exact (node_rel tbl iw hres' (tableTyped_entry ht he).1 (List.all_eq_true.mp hn e hmem)
        (List.all_eq_true.mp hcm e hmem) hrhs (by rw [← hrhs, List.map_map]; exact hkinds) hres).of_some hv
  theorem foldList_equivC (tbl : Table) (iw : Nat) (ht : tableTyped tbl = true) (hn : tableNormal tbl = true)
      (hcm : tableComment tbl = true) :
      ∀ (ts ts' : List Tree), wfList tbl ts = true → equivCL ts ts' = true →
        ∀ vs, foldList tbl iw ts = some vs → ∃ vs', foldList tbl iw ts' = some vs' ∧ Res3L tbl ts vs vs'
    | [], [], _, _, vs, hvs => by
      simp only [foldList, Option.some.injEq] at hvs
      subst hvs
      exact ⟨[], rfl, trivial⟩
    | [], _ :: _, _, he, _, _ => by simp [equivCL] at he
    | _ :: _, [], _, he, _, _ => by simp [equivCL] at he
    | t :: ts, t' :: ts', hw, he, vs, hvs => by
      simp only [wfList, Bool.and_eq_true] at hw
      simp only [equivCL, Bool.and_eq_true] at he
      simp only [foldList] at hvs
      split at hvs
      · cases hvs
      · rename_i v hv
        split at hvs
        · cases hvs
        · rename_i vr hvr
          cases hvs
          obtain ⟨v', hv', hr⟩ := fold_equivC tbl iw ht hn hcm t t' hw.1 he.1 v hv
          obtain ⟨vr', hvr', hrr⟩ := foldList_equivC tbl iw ht hn hcm ts ts' hw.2 he.2 vr hvr
          exact ⟨v' :: vr', by simp only [foldList, hv', hvr'], hr, hrr⟩
end

/-- The four hypotheses on the root symbol hold of the start symbol. -/
theorem fold_equivC_str (tbl : Table) (iw : Nat) (ht : tableTyped tbl = true) (hn : tableNormal tbl = true)
    (hcm : tableComment tbl = true) {t t' : Tree} (hw : wf tbl t = true) (he : equivC t t' = true)
    (hk : kindOf (rootSym tbl t) = .str) (hl : isLayoutSym (rootSym tbl t) = false)
    (hd : rootSym tbl t ≠ docSym) (hc : isCommentSym (rootSym tbl t) = false) :
    fold tbl iw t' = fold tbl iw t := by
  obtain ⟨v, hv, hkv, _⟩ := fold_ok tbl iw ht t hw
  obtain ⟨v', hv', hr⟩ := fold_equivC tbl iw ht hn hcm t t' hw he v hv
  have hr' := res3_sym hl hd hr
  rw [hc, if_neg Bool.false_ne_true] at hr'
  rw [hk] at hkv
  rw [hv, hv', vrel_str hkv hr']

end Emboss.Fmt
