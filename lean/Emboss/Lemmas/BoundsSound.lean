/-
Whole-expression soundness: mutual induction over expressions and argument lists; the bound
functions bound the value (`eval_bound_le`); the synthesised size expression evaluates to at
least the end of every present field.
-/
import Emboss.Spec.BoundsSize
import Emboss.Lemmas.BoundsNodes
namespace Emboss.Bounds
open ExtInt

theorem atypeConstCV_sound {ty : AType} {v x : CVal} (hg : GammaT ty v)
    (h : atypeConstCV (some ty) = .val x) : v = x := by
  unfold atypeConstCV at h
  split at h <;> try cases h
  · rename_i mn mx c heq
    cases heq
    obtain ⟨n, rfl, hn⟩ := GammaT_int_inv hg
    cases hn.const rfl
    rfl
  · rename_i b heq; cases heq
    cases v <;> simp [GammaT] at hg
    rw [hg]
  · rename_i n heq; cases heq
    cases v <;> simp [GammaT] at hg
    rw [hg]

/-- `hv` is `eval ρ (.upper e)` / `eval ρ (.lower e)` unfolded, with `o := abs e` -/
theorem bound_sound {up : Bool} {o : Option AType} {v : CVal}
    (hv : (match o with
      | some (.int a) => (if up then a.max else a.min).toInt?.map CVal.int
      | _ => none) = some v) :
    ∃ a, o = some (.int a) ∧ GammaT (.int (boundFn up a)) v ∧
      CvAgrees (cvBound (some (.int (boundFn up a)))) v := by
  split at hv <;> try cases hv
  rename_i a
  cases hb : (if up then a.max else a.min) <;> rw [hb] at hv <;> cases hv
  refine ⟨a, rfl, ?_⟩
  rw [boundFn_fin hb]
  exact ⟨constRange_sound _, fun x hx => by cases hx; rfl⟩

theorem sound_atom {e : Expr} {ty : AType} {v : CVal} (ha : abs e = some ty)
    (hg : GammaT ty v) (hc : CvAgrees (cv e) v) :
    (∀ ty, abs e = some ty → GammaT ty v) ∧ CvAgrees (cv e) v :=
  ⟨fun _ h => by rw [ha] at h; cases h; exact hg, hc⟩

mutual
/-- The two halves are proved together because neither is inductive alone: the annotation of a comparison
    reads `cv` of its operands (`absCmp`), and `cv` of a constant reference or a bound function reads `abs`. -/
theorem sound_aux (ρ : Env) : (e : Expr) → EnvOk ρ e → ∀ v, eval ρ e = some v →
    (∀ ty, abs e = some ty → GammaT ty v) ∧ CvAgrees (cv e) v
  | .const c, _, _, h => by cases h; exact sound_atom rfl (constRange_sound c) (fun _ hx => by cases hx; rfl)
  | .bconst _, _, _, h => by cases h; exact sound_atom rfl (fun _ hb => by cases hb; rfl) (fun _ hx => by cases hx; rfl)
  | .econst _, _, _, h => by cases h; exact sound_atom rfl (fun _ hb => by cases hb; rfl) (fun _ hx => by cases hx; rfl)
  | .ileaf _ _ _, henv, _, h => by cases h; exact sound_atom rfl (leafRange_sound henv) (CvAgrees_unknown _)
  | .ssize _, henv, _, h => by cases h; exact sound_atom rfl (staticSize_sound henv) (CvAgrees_unknown _)
  | .given _ _, henv, _, h => by cases h; exact sound_atom rfl henv (CvAgrees_unknown _)
  | .bleaf _, _, _, h => by cases h; exact sound_atom rfl nofun (CvAgrees_unknown _)
  | .eleaf _, _, _, h => by cases h; exact sound_atom rfl nofun (CvAgrees_unknown _)
  | .bin op l r, henv, v, h2 => by
    obtain ⟨vl, vr, hvl, hvr, h2⟩ := eval_bin_some h2
    obtain ⟨gl, cl⟩ := sound_aux ρ l henv.1 _ hvl
    obtain ⟨gr, cr⟩ := sound_aux ρ r henv.2 _ hvr
    refine ⟨fun ty h1 => ?_, fun x hx => cvBin_sound cl cr hx h2⟩
    obtain ⟨a, b, ha, hb, h1⟩ := abs_bin_some h1
    exact absBin_sound (gl _ ha) (gr _ hb) cl cr h1 h2
  | .choice c t f, henv, v, h2 => by
    obtain ⟨bb, x, y, hc, hx, hy, rfl⟩ := eval_choice_some h2
    obtain ⟨gc, cc⟩ := sound_aux ρ c henv.1 _ hc
    obtain ⟨gt, ct⟩ := sound_aux ρ t henv.2.1 _ hx
    obtain ⟨gf, cf⟩ := sound_aux ρ f henv.2.2 _ hy
    refine ⟨fun ty h1 => ?_, fun z hz => cvChoice_sound cc ct cf hz⟩
    obtain ⟨a, b, d, ha, hb, hd, h1⟩ := abs_choice_some h1
    exact absChoice_sound (gc _ ha) (gt _ hb) (gf _ hd) h1
  | .max args, henv, v, h2 => by
    obtain ⟨l, m, hvs, hm, rfl⟩ := eval_max_some h2
    obtain ⟨gs, cs⟩ := soundList_aux ρ args henv _ hvs
    refine ⟨fun ty h1 => ?_, fun x hx => cvMax_sound cs hx hm⟩
    obtain ⟨tys, htys, h1⟩ := abs_max_some h1
    exact absMax_sound (gs _ htys) h1 hm
  | .upper e, _, v, h2 => by
    simp only [eval] at h2
    obtain ⟨a, ha, hg, hc⟩ := bound_sound (up := true) h2
    exact sound_atom (by simp only [abs, ha, absBound]) hg (by simp only [cv, ha, absBound]; exact hc)
  | .lower e, _, v, h2 => by
    simp only [eval] at h2
    obtain ⟨a, ha, hg, hc⟩ := bound_sound (up := false) h2
    exact sound_atom (by simp only [abs, ha, absBound]) hg (by simp only [cv, ha, absBound]; exact hc)
  | .cref e, henv, v, h2 => by
    have ih := sound_aux ρ e henv v h2
    refine ⟨ih.1, fun x hx => ?_⟩
    simp only [cv] at hx
    cases ha : abs e with
    | none => rw [ha] at hx; cases hx
    | some ty =>
      rw [ha] at hx
      exact atypeConstCV_sound (ih.1 _ ha) hx
  | .vref e, henv, v, h2 => ⟨(sound_aux ρ e henv v h2).1, CvAgrees_unknown _⟩
  | .present _ c, henv, v, h2 => ⟨(sound_aux ρ c henv v h2).1, CvAgrees_unknown _⟩
theorem soundList_aux (ρ : Env) : (es : List Expr) → EnvOkList ρ es → ∀ vs, evalList ρ es = some vs →
    (∀ tys, absList es = some tys → Forall2 GammaT tys vs) ∧ Forall2 CvAgrees (cvList es) vs
  | [], _, _, rfl => ⟨fun _ h1 => by cases h1; exact .nil, .nil⟩
  | e :: es, henv, vs, h2 => by
    obtain ⟨v, vs', hv, hvs, rfl⟩ := evalList_cons_some h2
    obtain ⟨g1, c1⟩ := sound_aux ρ e henv.1 _ hv
    obtain ⟨g2, c2⟩ := soundList_aux ρ es henv.2 _ hvs
    refine ⟨fun tys h1 => ?_, .cons c1 c2⟩
    obtain ⟨a, l, ha, hl, rfl⟩ := absList_cons_some h1
    exact .cons (g1 _ ha) (g2 _ hl)
end

theorem eval_bound_le {ρ : Env} {e : Expr} {v : Int} (henv : EnvOk ρ e)
    (hev : eval ρ e = some (.int v)) :
    (∀ u, eval ρ (.upper e) = some (.int u) → v ≤ u) ∧ (∀ l, eval ρ (.lower e) = some (.int l) → l ≤ v) := by
  constructor
  · intro u hu
    simp only [eval] at hu
    split at hu <;> try cases hu
    rename_i a ha
    obtain ⟨-, h2, -⟩ := (sound_aux ρ e henv _ hev).1 _ ha
    cases hm : a.max <;> rw [hm] at hu h2 <;> cases hu
    exact h2
  · intro l hl
    simp only [eval] at hl
    split at hl <;> try cases hl
    rename_i a ha
    obtain ⟨h1, -, -⟩ := (sound_aux ρ e henv _ hev).1 _ ha
    cases hm : a.min <;> rw [hm] at hl h1 <;> cases hl
    exact h1

/-! ### the synthesised size expression (Spec/BoundsSize.lean) -/

theorem evalList_mem {ρ : Env} : ∀ {es : List Expr} {vs : List CVal}, evalList ρ es = some vs →
    ∀ e ∈ es, ∀ x, eval ρ e = some x → x ∈ vs
  | [], _, _, e, he, _, _ => nomatch he
  | e0 :: es, vs, h, e, he, x, hx => by
    obtain ⟨v, vs', hv, hvs, rfl⟩ := evalList_cons_some h
    rcases List.mem_cons.mp he with rfl | hm
    · rw [hv] at hx; cases hx; exact List.mem_cons_self
    · exact List.mem_cons_of_mem _ (evalList_mem hvs e hm x hx)

theorem eval_max_ge {ρ : Env} {args : List Expr} {v : Int} (hev : eval ρ (.max args) = some (.int v)) :
    ∀ e ∈ args, ∀ y, eval ρ e = some (.int y) → y ≤ v := by
  obtain ⟨l, m, hvs, hm, hmv⟩ := eval_max_some hev
  cases hmv
  intro e he y hy
  obtain ⟨z, hz, hzy⟩ := List.mem_map.mp (evalList_mem hvs e he _ hy)
  cases hzy
  exact (listMax_isMax hm).2 y hz

theorem sizeExpr_ge {ρ : Env} {fs : List PField} {v : Int}
    (hev : eval ρ (sizeExpr fs) = some (.int v)) :
    0 ≤ v ∧ ∀ f ∈ fs, ∀ s z : Int, eval ρ f.cond = some (.bool true) →
      eval ρ f.start = some (.int s) → eval ρ f.size = some (.int z) → s + z ≤ v := by
  have mem := eval_max_ge hev
  refine ⟨mem (.const 0) List.mem_cons_self 0 rfl, fun f hf s z hc hs hz => ?_⟩
  apply mem (sizeClause f) (List.mem_cons_of_mem _ (List.mem_map.mpr ⟨f, hf, rfl⟩))
  simp [sizeClause, eval, hc, hs, hz, evalBin]

end Emboss.Bounds
