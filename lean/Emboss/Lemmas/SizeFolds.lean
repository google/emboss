/-
`SizeCovers`: the hypothesis under which `Ok()` is prefix-monotone for structures with arrays (a
truncated array can be Ok while a longer one is not; that theorem, `G_ok_mono_arr`, and locality are
in `Emboss.Lemmas.Locality`), and its reduction to the exactness of the compiler's constant-folding
annotations on the structure's size expression.
-/
import Emboss.Lemmas.ViewMono
import Emboss.Lemmas.Synth
namespace Emboss.View

/-- Semantic hypothesis of the array case (soundness of the compiler's size expression incl. its
constant folding, i.e. C05 territory): whenever a view knows its size, every present physical field
with a known non-negative location ends at or before that size.  For an un-folded synthesized
size expression this is `C01_size_covers_present_fields`. -/
def SizeCovers (m : Module) (sd : StructDef) : Prop :=
  ∀ (k : Nat) (w : SView) (sz : Int), w.sd = sd →
    (G m (k + 1)).read w [w.sd.sizeField] = some (.int sz) →
    ∀ (f : Field) (start size : Expr) (ty : PType) (bo : ByteOrder),
      f ∈ w.sd.fields → f.kind = .phys start size ty bo →
      ∀ (j : Nat), j ≤ k → ∀ off s : Int,
        hasField (G m j) w f = some true →
        evalInt (envOf (G m j) w none) start = some off →
        evalInt (envOf (G m j) w none) size = some s → 0 ≤ off → 0 ≤ s → off + s ≤ sz

/-- the structure's size field is literally the synthesized expression (no folding) -/
def plainSize (sd : StructDef) : Prop :=
  ∃ fs, sd.field sd.sizeField = some fs ∧ fs.kind = .virt (synthSize sd.fields) none

/-- **The folding annotations of the size expression are exact on completions.**  The real
`$size_in_*` expression is `synthSize fields` with constant-folding annotations on the nodes
`synthetics.py` adds (`$max`, `?:`, `+`; `sizeIsSynth` checks the shape on every IR).  This
predicate says: whenever a view's (partial) environment gives the *annotated* expression the value
`sz`, some completion of that environment — every field it knows, known with the same value, and
more — gives the *un-annotated* synthesized expression the same value `sz`.  It is what C05's
soundness theorem (`C05_constant_value_agrees`: an expression the compiler treats as the constant
`x` evaluates to `x` in every environment whose leaves hold values of their physical types;
`C05_size_bounds`) says on the bounds model, on whose total, typed environments every
well-typed expression is computable; the two Lean models (`Emboss.View.Expr` with partial
environments / `Emboss.Bounds.Expr` with total ones) are not connected by a theorem — each is
tied to the real compiler by its own correspondence run. -/
def SizeFoldsExact (m : Module) (sd : StructDef) : Prop :=
  ∃ fs value, sd.field sd.sizeField = some fs ∧ fs.kind = .virt value none ∧
    ∀ (k : Nat) (w : SView) (sz : Int), w.sd = sd →
      eval (envOf (G m k) w none) value = some (.int sz) →
      ∃ env', EnvLe (envOf (G m k) w none) env' ∧ eval env' (synthSize sd.fields) = some (.int sz)

theorem sizeFoldsExact_of_plain {m : Module} {sd : StructDef} (hp : plainSize sd) :
    SizeFoldsExact m sd := by
  obtain ⟨fs, hfs, hfk⟩ := hp
  exact ⟨fs, _, hfs, hfk, fun k w sz _ h => ⟨_, EnvLe.refl _, h⟩⟩

theorem sizeCovers_of_foldsExact {m : Module} (hm : moduleWF m = true) {sd : StructDef}
    (hwf : structWF m sd = true) (hp : SizeFoldsExact m sd) : SizeCovers m sd := by
  intro k w sz hsd hsz f start size ty bo hf hkind j hj off s hh hst hs ho0 hs0
  obtain ⟨fs, value, hfs, hfk, hexact⟩ := hp
  subst hsd
  have hval : eval (envOf (G m k) w none) value = some (.int sz) := by
    have : (step m (G m k)).read w [w.sd.sizeField] = some (.int sz) := hsz
    simp only [step_read_cons m _ w hfs, hfk] at this
    exact (virtRead_eq_some.mp this).1
  obtain ⟨env', hle', hsynth⟩ := hexact k w sz rfl hval
  have hcov := (synthSize_covers env' w.sd.fields sz hsynth).2
  -- values known at level j are the same at level k, and in the completion
  have hle := G_le hm hj
  have henv := envOf_mono hle (VLe.refl w) hwf none
  have hh' := evalBool_mono hle' f.cond true (evalBool_mono henv f.cond true hh)
  have hst' := evalInt_mono hle' start off (evalInt_mono henv start off hst)
  have hs' := evalInt_mono hle' size s (evalInt_mono henv size s hs)
  have hmem := mem_extents (env := env') hkind w.sd.fields hf
  rw [hh', hst', hs'] at hmem
  exact hcov off s hmem

/-! ### a decidable class: annotations that are closed constants -/

theorem exprBEq_sound :
    (∀ a b : Expr, exprBEq a b = true → a = b) ∧ (∀ a b : Exprs, exprsBEq a b = true → a = b) := by
  refine exprBEq.mutual_induct (fun a b => exprBEq a b = true → a = b)
    (fun a b => exprsBEq a b = true → a = b) ?_ ?_ ?_ ?_ ?_ ?_ ?_ ?_ ?_ ?_ ?_
  · intro a b h
    simp only [exprBEq, beq_iff_eq] at h
    rw [h]
  · intro a x b y ih h
    simp only [exprBEq, Bool.and_eq_true, beq_iff_eq] at h
    rw [h.1, ih h.2]
  · intro p q h
    simp only [exprBEq, beq_iff_eq] at h
    rw [h]
  · intro a b h
    simp only [exprBEq, beq_iff_eq] at h
    rw [h]
  · intro p q h
    simp only [exprBEq, beq_iff_eq] at h
    rw [h]
  · intro _; rfl
  · intro f xs g ys ih h
    simp only [exprBEq, Bool.and_eq_true, beq_iff_eq] at h
    rw [h.1, ih h.2]
  · intro t x h1 h2 h3 h4 h5 h6 h7 h
    rw [exprBEq] at h
    · cases h
    all_goals assumption
  · intro _; rfl
  · intro a as b bs ih1 ih2 h
    simp only [exprsBEq, Bool.and_eq_true] at h
    rw [ih1 h.1, ih2 h.2]
  · intro t x h1 h2 h
    rw [exprsBEq] at h
    · cases h
    all_goals assumption

theorem exprBEq_eq : ∀ a b : Expr, exprBEq a b = true → a = b := exprBEq_sound.1

theorem exprsBEq_eq : ∀ a b : Exprs, exprsBEq a b = true → a = b := exprBEq_sound.2

theorem emptyEnv_le (env : Env) : EnvLe emptyEnv env :=
  ⟨fun _ => OLe.none _, fun _ => OLe.none _, fun _ => OLe.none _, OLe.none _⟩

theorem eval_strip_both (env : Env) :
    (∀ e : Expr, closedFolds e = true → eval env e = eval env (stripFolds e)) ∧
    (∀ es : Exprs, closedFoldsList es = true →
      evalList env es = evalList env (stripFoldsList es)) := by
  refine closedFolds.mutual_induct
    (fun e => closedFolds e = true → eval env e = eval env (stripFolds e))
    (fun es => closedFoldsList es = true → evalList env es = evalList env (stripFoldsList es))
    ?_ ?_ ?_ ?_ ?_ ?_
  · -- an annotation that is a closed constant: its value in the empty environment persists
    intro v orig v' he h
    simp only [closedFolds, he, beq_iff_eq] at h
    subst h
    exact (eval_mono (emptyEnv_le env) _ _ he).symm
  · intro v orig he h
    simp only [closedFolds, he] at h
    cases h
  · intro f args ih h
    simp only [closedFolds] at h
    simp only [eval, stripFolds, ih h]
  · intro e h1 h2 _
    cases e with
    | fold v orig => exact (h1 v orig rfl).elim
    | op f args => exact (h2 f args rfl).elim
    | _ => rfl
  · intro _; rfl
  · intro e es ih1 ih2 h
    simp only [closedFoldsList, Bool.and_eq_true] at h
    simp only [evalList, stripFoldsList, ih1 h.1, ih2 h.2]

theorem eval_strip (env : Env) : ∀ e : Expr, closedFolds e = true → eval env e = eval env (stripFolds e) :=
  (eval_strip_both env).1

theorem evalList_strip (env : Env) :
    ∀ es : Exprs, closedFoldsList es = true → evalList env es = evalList env (stripFoldsList es) :=
  (eval_strip_both env).2

theorem closedFolds_sizeClauses : ∀ fs : List Field, fs.all fieldClosedFolds = true →
    closedFoldsList (sizeClauses fs) = true
  | [], _ => rfl
  | f :: fs, h => by
    simp only [List.all_cons, Bool.and_eq_true] at h
    have ih := closedFolds_sizeClauses fs h.2
    have hf := h.1
    unfold fieldClosedFolds at hf
    simp only [Bool.and_eq_true] at hf
    unfold sizeClauses
    cases hk : f.kind with
    | alias t => simpa only using ih
    | virt a b => simpa only using ih
    | phys start size ty bo =>
      rw [hk] at hf
      simp only [Bool.and_eq_true] at hf
      simp only [closedFoldsList, sizeClause, closedFolds, hf.1, hf.2.1, hf.2.2, ih, Bool.and_self]

theorem closedFolds_synthSize (fs : List Field) (h : fs.all fieldClosedFolds = true) :
    closedFolds (synthSize fs) = true := by
  simp only [synthSize, closedFolds, closedFoldsList, closedFolds_sizeClauses fs h, Bool.and_self]

theorem sizeFoldsExact_of_closed {m : Module} {sd : StructDef} (h : structClosedFolds sd = true) :
    SizeFoldsExact m sd := by
  unfold structClosedFolds at h
  split at h
  · rename_i fs hfs
    split at h
    · rename_i value hk
      simp only [Bool.and_eq_true] at h
      obtain ⟨⟨hshape, hval⟩, hfields⟩ := h
      refine ⟨fs, value, hfs, hk, fun k w sz _ hev => ⟨_, EnvLe.refl _, ?_⟩⟩
      rw [eval_strip _ _ (closedFolds_synthSize _ hfields), ← exprBEq_eq _ _ hshape,
        ← eval_strip _ _ hval]
      exact hev
    · cases h
  · cases h

end Emboss.View
