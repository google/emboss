/- The field-ordering loop: two laws of `TopoFrom`, what `pickFirst` returns, and induction along a
run of `orderAux`. -/
import Emboss.Spec.Deps
namespace Emboss.Deps

theorem ready_iff {deps : DepFn} {added : List Nat} {f : Nat} :
    ready deps added f = true ↔ ∀ d ∈ deps f, d ∈ added := by
  simp [ready, List.all_eq_true]

theorem TopoFrom_mono {deps : DepFn} {a b l : List Nat}
    (hs : a ⊆ b) (h : TopoFrom deps a l) : TopoFrom deps b l := by
  induction l generalizing a b with
  | nil => trivial
  | cons f rest ih => exact ⟨fun d hd => hs (h.1 d hd), ih (List.cons_subset_cons f hs) h.2⟩

theorem TopoFrom_erase {deps : DepFn} {added l : List Nat} {f : Nat} (h : TopoFrom deps added l) :
    TopoFrom deps (f :: added) (l.erase f) := by
  induction l generalizing added with
  | nil => trivial
  | cons a rest ih =>
    by_cases hfa : a = f
    · subst hfa
      simpa using h.2
    · have : (a :: rest).erase f = a :: rest.erase f := by
        simp [hfa]
      rw [this]
      refine ⟨fun d hd => List.mem_cons_of_mem _ (h.1 d hd), ?_⟩
      exact TopoFrom_mono (List.Perm.swap ..).subset (ih h.2)

section
variable {deps : DepFn} {added needed : List Nat} {f : Nat} {rest : List Nat}

theorem pickFirst_some (h : pickFirst deps added needed = some (f, rest)) :
    ∃ pre post, needed = pre ++ f :: post ∧ rest = pre ++ post ∧ ready deps added f = true ∧
      ∀ x ∈ pre, ready deps added x = false := by
  induction needed generalizing f rest with
  | nil => simp [pickFirst] at h
  | cons a t ih =>
    unfold pickFirst at h
    split at h
    · rename_i ha
      cases h
      exact ⟨[], t, rfl, rfl, ha, nofun⟩
    · rename_i hna
      split at h
      · cases h
      · rename_i g r hg
        cases h
        obtain ⟨pre, post, rfl, rfl, hr, hpre⟩ := ih hg
        refine ⟨a :: pre, post, rfl, rfl, hr, fun x hx => ?_⟩
        rcases List.mem_cons.mp hx with rfl | hx
        · exact Bool.of_not_eq_true hna
        · exact hpre x hx

theorem pickFirst_ready (h : pickFirst deps added needed = some (f, rest)) :
    ready deps added f = true := by
  obtain ⟨_, _, _, _, hr, _⟩ := pickFirst_some h
  exact hr

theorem pickFirst_perm (h : pickFirst deps added needed = some (f, rest)) :
    needed.Perm (f :: rest) := by
  obtain ⟨pre, post, rfl, rfl, _⟩ := pickFirst_some h
  exact List.perm_middle

theorem pickFirst_length (h : pickFirst deps added needed = some (f, rest)) :
    needed.length = rest.length + 1 :=
  (pickFirst_perm h).length_eq

theorem pickFirst_sublist (h : pickFirst deps added needed = some (f, rest)) :
    rest.Sublist needed := by
  obtain ⟨pre, post, rfl, rfl, _⟩ := pickFirst_some h
  exact (List.sublist_cons_self f post).append_left pre

theorem pickFirst_min (hs : needed.Pairwise (· < ·))
    (h : pickFirst deps added needed = some (f, rest)) :
    ∀ x ∈ needed, ready deps added x = true → f ≤ x := by
  obtain ⟨pre, post, rfl, rfl, _, hpre⟩ := pickFirst_some h
  intro x hx hr
  rcases List.mem_append.mp hx with hx | hx
  · rw [hpre x hx] at hr; cases hr
  · rcases List.mem_cons.mp hx with rfl | hx
    · exact Nat.le_refl _
    · exact Nat.le_of_lt ((List.pairwise_cons.mp (List.pairwise_append.mp hs).2.1).1 x hx)

theorem pickFirst_head_ready (h : ready deps added f = true) :
    pickFirst deps added (f :: rest) = some (f, rest) := by
  simp [pickFirst, h]

theorem pickFirst_none (h : pickFirst deps added needed = none) :
    ∀ f ∈ needed, ready deps added f = false := by
  induction needed with
  | nil => exact nofun
  | cons a t ih =>
    unfold pickFirst at h
    split at h
    · cases h
    · rename_i hna
      split at h
      · rename_i hn
        intro f hf
        rcases List.mem_cons.mp hf with rfl | hf
        · exact Bool.of_not_eq_true hna
        · exact ih hn f hf
      · cases h

end

theorem orderAux_topo (deps : DepFn) (fuel : Nat) (added needed : List Nat) :
    TopoFrom deps added (orderAux deps fuel added needed) := by
  induction fuel generalizing added needed with
  | zero => simp [orderAux, TopoFrom]
  | succ n ih =>
    unfold orderAux
    split
    · simp [TopoFrom]
    · rename_i f rest h
      exact ⟨ready_iff.mp (pickFirst_ready h), ih _ _⟩

theorem orderAux_nil (deps : DepFn) (fuel : Nat) (added : List Nat) :
    orderAux deps fuel added [] = [] := by
  cases fuel <;> simp [orderAux, pickFirst]

theorem orderAux_perm_append (deps : DepFn) (fuel : Nat) (added needed : List Nat) :
    ∃ left, needed.Perm (orderAux deps fuel added needed ++ left) := by
  induction fuel generalizing added needed with
  | zero => exact ⟨needed, .refl _⟩
  | succ n ih =>
    unfold orderAux
    split
    · exact ⟨needed, .refl _⟩
    · rename_i f rest hp
      obtain ⟨left, hl⟩ := ih (f :: added) rest
      exact ⟨left, (pickFirst_perm hp).trans (hl.cons f)⟩

theorem orderAux_mem (deps : DepFn) (fuel : Nat) (added needed : List Nat) :
    ∀ x ∈ orderAux deps fuel added needed, x ∈ needed := by
  obtain ⟨left, hl⟩ := orderAux_perm_append deps fuel added needed
  exact fun x hx => hl.mem_iff.mpr (List.mem_append_left _ hx)

/-- Every step removes one field, so with `needed.length ≤ fuel` a run ends because nothing is ready
(`stop`), never for lack of fuel. -/
theorem orderAux_induction {motive : List Nat → List Nat → List Nat → Prop} (deps : DepFn)
    (stop : ∀ added needed, (∀ f ∈ needed, ready deps added f = false) → motive added needed [])
    (step : ∀ added needed f rest out, pickFirst deps added needed = some (f, rest) →
      motive (f :: added) rest out → motive added needed (f :: out))
    {fuel : Nat} (added needed : List Nat) (hf : needed.length ≤ fuel) :
    motive added needed (orderAux deps fuel added needed) := by
  induction fuel generalizing added needed with
  | zero =>
    rw [List.eq_nil_of_length_eq_zero (Nat.le_zero.mp hf)]
    exact stop _ [] nofun
  | succ n ih =>
    unfold orderAux
    split
    · rename_i hnone
      exact stop _ _ (pickFirst_none hnone)
    · rename_i f rest hp
      rw [pickFirst_length hp] at hf
      exact step _ _ f rest _ hp (ih _ _ (Nat.le_of_succ_le_succ hf))

theorem orderChecked_of_length {deps : DepFn} {params fields : List Nat}
    (h : (order deps params fields).length = fields.length) :
    orderChecked deps params fields = some (order deps params fields) :=
  if_pos h

end Emboss.Deps
