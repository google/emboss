/-
Lemmas for C19: from `generate d = some g`, every value has its non-empty list of spellings `namesOf d v`, and the
four emitted lists are maps over `entries` / `firsts` of them (`generate_spec`; the loop itself, as a fold, is in
`EnumSem`); a value the front end's range check admits lies in the underlying type, and the C++ value of an
enumerator that lies in it is the value itself (`holds_of_inRange`, `enumeratorValue_exact`).
-/
import Emboss.Lemmas.EnumSem
import Emboss.Lemmas.CppInt
namespace Emboss.Enum
open Emboss.CppInt

/-- The spellings of a value as the back end computes them ([] if it would crash). -/
def namesOf (d : Def) (v : Value) : List Name :=
  match enumeratorNames v.name (effectiveCase v.attrs (defaultsOf d.levels)) with
  | some l => l
  | none => []

theorem namesOf_eq (d : Def) (v : Value) : namesOf d v = (d.spellings v).getD [] := by
  unfold namesOf Def.spellings
  split <;> simp [*]

/-! ## `mapM` into `Option` -/

theorem mapM_option_eq_some {α β : Type} (f : α → Option β) (l : List α) (r : List β) :
    l.mapM f = some r ↔ l.map f = r.map some := by
  induction l generalizing r with
  | nil => cases r <;> simp
  | cons a as ih =>
    rw [List.mapM_cons]
    cases r with
    | nil => cases f a <;> cases as.mapM f <;> simp
    | cons b bs =>
      rw [List.map_cons, List.map_cons, List.cons.injEq, ← ih]
      cases f a <;> cases as.mapM f <;> simp

theorem mapM_option_nodup {α β : Type} (f : α → Option β)
    (hinj : ∀ a b y, f a = some y → f b = some y → a = b) (l : List α) (r : List β)
    (h : l.mapM f = some r) (hn : l.Nodup) : r.Nodup := by
  rw [mapM_option_eq_some] at h
  have hl : (l.map f).Nodup := List.pairwise_map.mpr (hn.imp_of_mem fun {a b} ha _ hab he => by
    obtain ⟨y, _, hy⟩ := List.mem_map.mp (h ▸ List.mem_map_of_mem ha : f a ∈ r.map some)
    exact hab (hinj a b y hy.symm (he ▸ hy.symm)))
  exact (List.pairwise_map.mp (h ▸ hl)).imp fun hne e => hne (congrArg some e)

/-! ## from `generate d = some g` to the declarative lists -/

theorem splitComma_ne_nil (s : List Char) : splitComma s ≠ [] := by
  induction s with
  | nil => simp [splitComma]
  | cons c cs ih =>
    simp only [splitComma]
    split
    · simp
    · split <;> simp

theorem dropTrailingBlank_ne_nil (ps : List (List Char)) (h : ps ≠ []) : dropTrailingBlank ps ≠ [] := by
  unfold dropTrailingBlank
  split
  · split
    · simp
    · exact h
  · exact h

theorem splitCases_ne_nil (t : List Char) : splitCases t ≠ [] := by
  unfold splitCases
  intro h
  exact dropTrailingBlank_ne_nil _ (splitComma_ne_nil t) (List.map_eq_nil_iff.mp h)

theorem enumeratorNames_ne_nil (n : Name) (e : Effective) (l : List Name)
    (h : enumeratorNames n e = some l) : l ≠ [] := by
  cases e with
  | crash => simp [enumeratorNames] at h
  | unset => simp [enumeratorNames] at h; subst h; simp
  | cases t =>
    rintro rfl
    exact splitCases_ne_nil t (List.map_eq_nil_iff.mp ((mapM_option_eq_some ..).mp h))

theorem generate_eq (d : Def) (g : Gen) (h : generate d = some g) :
    ∃ ty st, cppTypeForEnum d.maxBits d.isSigned = some ty ∧
      stepValues (defaultsOf d.levels) ⟨{ ty := ty }, []⟩ d.values = some st ∧ st.gen = g := by
  unfold generate at h
  split at h
  · cases h
  · rename_i ty hty
    obtain ⟨st, hst, rfl⟩ := Option.map_eq_some_iff.mp h
    exact ⟨ty, st, hty, hst, rfl⟩

theorem generate_names (d : Def) (g : Gen) (h : generate d = some g) :
    ∀ v ∈ d.values, d.spellings v = some (namesOf d v) := by
  obtain ⟨ty, st, _, hst, _⟩ := generate_eq d g h
  intro v hv
  obtain ⟨l, hl⟩ := stepValues_some _ _ _ _ hst v hv
  rw [namesOf_eq, Def.spellings, hl]
  rfl

theorem generate_spellings (d : Def) (g : Gen) (h : generate d = some g) :
    d.values.mapM d.spellings = some (d.values.map (namesOf d)) :=
  (mapM_option_eq_some ..).mpr (by rw [List.map_map]; exact List.map_congr_left (generate_names d g h))

theorem generate_spec (d : Def) (g : Gen) (h : generate d = some g) :
    cppTypeForEnum d.maxBits d.isSigned = some g.ty ∧
    (∀ v ∈ d.values, namesOf d v ≠ []) ∧
    g.enumerators = (entries (namesOf d) d.values).map (fun e => (e.2, e.1.value)) ∧
    g.fromName = (entries (namesOf d) d.values).map (fun e => (e.1.name, e.2)) ∧
    g.toName = (firsts (·.1.value) [] (entries (namesOf d) d.values)).map (fun e => (e.2, e.1.name)) ∧
    g.known = (firsts (·.1.value) [] (entries (namesOf d) d.values)).map (·.2) := by
  have hnm := generate_names d g h
  obtain ⟨ty, st, hty, hst, rfl⟩ := generate_eq d g h
  rw [stepValues_eq_foldl _ (namesOf d) d.values _ hnm, foldl_stepEntry] at hst
  cases hst
  exact ⟨hty, fun v hv => enumeratorNames_ne_nil _ _ _ (hnm v hv), rfl, rfl, rfl, rfl⟩

theorem generate_known (d : Def) (g : Gen) (h : generate d = some g) : g.known = g.toName.map (·.1) := by
  obtain ⟨_, _, _, _, ht, hk⟩ := generate_spec d g h
  rw [hk, ht, List.map_map]
  rfl

/-! ## underlying type and enumerator values -/

theorem cppTypeForEnum_eq_find (mb : Int) (sg : Bool) :
    cppTypeForEnum mb sg = ([8, 16, 32, 64].find? (fun b : Nat => decide (mb ≤ b))).map (IntTy.mk sg) := by
  simp only [find?_cons_decide, List.find?_nil, apply_ite (Option.map (IntTy.mk sg)), Option.map_some, Option.map_none]
  rfl

theorem cppTypeForEnum_spec (mb : Int) (sg : Bool) (ty : IntTy) (h : cppTypeForEnum mb sg = some ty) :
    ty.signed = sg ∧ mb ≤ ty.bits ∧ (ty.bits = 8 ∨ ty.bits = 16 ∨ ty.bits = 32 ∨ ty.bits = 64) := by
  rw [cppTypeForEnum_eq_find] at h
  obtain ⟨b, hb, rfl⟩ := Option.map_eq_some_iff.mp h
  have hp := List.find?_some hb
  exact ⟨rfl, of_decide_eq_true hp, by simpa using List.mem_of_find?_eq_some hb⟩

theorem inRange_eq_holds (sg : Bool) (bits : Nat) (v : Int) :
    inRange sg bits v = IntTy.holds ⟨sg, bits⟩ v := by cases sg <;> rfl

theorem holds_of_inRange (sg : Bool) (bits : Nat) (ty : IntTy) (v : Int) (hs : ty.signed = sg)
    (hb : bits ≤ ty.bits) (h : inRange sg bits v = true) : ty.holds v = true := by
  rw [inRange_eq_holds] at h
  subst hs
  exact holds_mono (t := ⟨ty.signed, bits⟩) hb h

theorem enumeratorValue_exact (t : IntTy) (v : Int) (hb : t.bits ≤ 64) (h : t.holds v = true) :
    enumeratorValue t v = some v := by
  obtain ⟨r, hr1, hr2, _⟩ := render_eval v (holds_le_64 t v hb h)
  simp [enumeratorValue, hr1, hr2, h]

theorem mapM_enumeratorValue (t : IntTy) (es : List (Name × Int))
    (h : ∀ p ∈ es, enumeratorValue t p.2 = some p.2) :
    es.mapM (fun p => (enumeratorValue t p.2).map (fun x => (p.1, x))) = some es := by
  rw [mapM_option_eq_some]
  exact List.map_congr_left fun p hp => by rw [h p hp]; rfl

end Emboss.Enum
