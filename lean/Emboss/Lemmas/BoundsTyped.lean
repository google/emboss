/-
The bounds analysis and `ir_util.constant_value` never raise on a well-typed expression
(`tyOf`, Model/ExprType.lean), comparisons, `&&`, `||`, `?:` on arbitrary conditions
included; the annotation has the expression's type (that it satisfies the invariant is
`inv_aux`, BoundsInvTree; `total_aux` puts the two together on `ArithOnly`).  The arithmetic
fragment `ArithOnly` (Spec/BoundsArith.lean) is well typed, so the same holds there.
-/
import Emboss.Model.ExprType
import Emboss.Spec.BoundsArith
import Emboss.Lemmas.BoundsInvTree
namespace Emboss.Bounds
open ExtInt

theorem applyBin_typed {op : BinOp} {x y : CVal} {τ : Ty} (h : binTy op x.tag y.tag = some τ) :
    ∃ v, applyBin op x y = some v ∧ v.tag = τ := by
  cases op <;> cases x <;> cases y <;> cases h <;> exact ⟨_, rfl, rfl⟩

theorem binTy_arith {op : BinOp} {a b τ : Ty} (hop : isArith op = true) (h : binTy op a b = some τ) :
    a = .int ∧ b = .int ∧ τ = .int := by
  cases op <;> cases hop <;> cases a <;> cases b <;> cases h <;> exact ⟨rfl, rfl, rfl⟩

theorem binTy_bool {op : BinOp} {a b τ : Ty} (hop : isArith op = false) (h : binTy op a b = some τ) :
    τ = .bool := by
  cases op <;> cases hop <;> cases a <;> cases b <;> cases h <;> rfl

/-- what is known about a `constant_value` result of an expression of type `τ` -/
def CVOk (c : CV) (τ : Ty) : Prop := c ≠ .crash ∧ ∀ x, c = .val x → x.tag = τ

theorem CVOk_unknown (τ : Ty) : CVOk .unknown τ := ⟨nofun, nofun⟩

theorem CVOk_val {x : CVal} {τ : Ty} (h : x.tag = τ) : CVOk (.val x) τ :=
  ⟨nofun, fun _ hz => by cases hz; exact h⟩

theorem cvBin_typed {op : BinOp} {cl cr : CV} {a b τ : Ty} (hl : CVOk cl a) (hr : CVOk cr b)
    (h : binTy op a b = some τ) : CVOk (cvBin op cl cr) τ := by
  have table : CVOk (cvTable op cl cr) τ := by
    unfold cvTable
    split
    · rename_i x y
      rw [← hl.2 x rfl, ← hr.2 y rfl] at h
      obtain ⟨v, hv, hvt⟩ := applyBin_typed h
      simp only [hv]
      exact CVOk_val hvt
    · exact CVOk_unknown τ
  unfold cvBin
  rw [if_neg (by simp [hl.1, hr.1])]
  cases op
  case and =>
    rw [binTy_bool rfl h]
    simp only [cvAnd]
    split
    · exact CVOk_val rfl
    · split
      · exact CVOk_unknown _
      · exact CVOk_val rfl
  case or =>
    rw [binTy_bool rfl h]
    simp only [cvOr]
    split
    · exact CVOk_val rfl
    · split
      · exact CVOk_unknown _
      · exact CVOk_val rfl
  all_goals exact table

theorem absCmp_typed {op : BinOp} {cl cr : CV} {a b : Ty} (hl : CVOk cl a) (hr : CVOk cr b)
    (h : binTy op a b = some .bool) : ∃ ob, absCmp op cl cr = some (.bool ob) := by
  unfold absCmp
  cases cl with
  | crash => exact absurd rfl hl.1
  | unknown => exact ⟨_, rfl⟩
  | val x =>
    cases cr with
    | crash => exact absurd rfl hr.1
    | unknown => exact ⟨_, rfl⟩
    | val y =>
      have hx := hl.2 x rfl
      have hy := hr.2 y rfl
      rw [← hx, ← hy] at h
      obtain ⟨v, hv, hvt⟩ := applyBin_typed h
      cases v <;> simp [CVal.tag] at hvt
      rename_i bb
      exact ⟨some bb, by simp [hv]⟩

theorem tag_int {ty : AType} (h : ty.tag = .int) : ∃ a, ty = .int a := by
  cases ty <;> simp [AType.tag] at h; exact ⟨_, rfl⟩

theorem tag_bool {ty : AType} (h : ty.tag = .bool) : ∃ b, ty = .bool b := by
  cases ty <;> simp [AType.tag] at h; exact ⟨_, rfl⟩

theorem tag_enum {ty : AType} (h : ty.tag = .enum) : ∃ b, ty = .enum b := by
  cases ty <;> simp [AType.tag] at h; exact ⟨_, rfl⟩

theorem absBin_typed {op : BinOp} {tl tr : AType} {cl cr : CV} {a b τ : Ty}
    (htl : tl.tag = a) (htr : tr.tag = b) (hil : InvT tl) (hir : InvT tr)
    (hl : CVOk cl a) (hr : CVOk cr b) (h : binTy op a b = some τ) :
    ∃ ty, absBin op tl tr cl cr = some ty ∧ ty.tag = τ := by
  by_cases hop : isArith op = true
  · obtain ⟨rfl, rfl, rfl⟩ := binTy_arith hop h
    obtain ⟨al, rfl⟩ := tag_int htl
    obtain ⟨ar, rfl⟩ := tag_int htr
    obtain ⟨r, h1, _⟩ := absArith_inv hop hil hir
    exact ⟨.int r, by simp only [absBin, hop, if_true, h1, Option.map_some], rfl⟩
  · cases binTy_bool (Bool.eq_false_iff.mpr hop) h
    obtain ⟨ob, hob⟩ := absCmp_typed hl hr h
    unfold absBin
    rw [if_neg hop]
    exact ⟨_, hob, rfl⟩

theorem absChoice_typed {tc tt tf : AType} {a : Ty} (htc : tc.tag = .bool) (htt : tt.tag = a)
    (htf : tf.tag = a) (hit : InvT tt) (hif : InvT tf) :
    ∃ ty, absChoice tc tt tf = some ty ∧ ty.tag = a := by
  obtain ⟨ob, rfl⟩ := tag_bool htc
  cases ob with
  | some bv =>
    cases bv
    · exact ⟨tf, rfl, htf⟩
    · exact ⟨tt, rfl, htt⟩
  | none =>
    cases a with
    | int =>
      obtain ⟨at', rfl⟩ := tag_int htt
      obtain ⟨af, rfl⟩ := tag_int htf
      obtain ⟨r, hr, _⟩ := choiceHull_inv hit hif
      exact ⟨.int r, by simp only [absChoice, hr, Option.map_some], rfl⟩
    | bool =>
      obtain ⟨_, rfl⟩ := tag_bool htt
      obtain ⟨_, rfl⟩ := tag_bool htf
      exact ⟨.bool none, rfl, rfl⟩
    | enum =>
      obtain ⟨_, rfl⟩ := tag_enum htt
      obtain ⟨_, rfl⟩ := tag_enum htf
      exact ⟨.enum none, rfl, rfl⟩

theorem cvChoice_typed {c t f : CV} {τ : Ty} (hc : CVOk c .bool) (ht : CVOk t τ) (hf : CVOk f τ) :
    CVOk (cvChoice c t f) τ := by
  cases c with
  | crash => exact absurd rfl hc.1
  | unknown =>
    cases t <;> cases f <;> first
      | exact absurd rfl ht.1
      | exact absurd rfl hf.1
      | (simp only [cvChoice]; exact CVOk_unknown τ)
  | val x =>
    have hx := hc.2 x rfl
    cases x <;> simp [CVal.tag] at hx
    rename_i b
    cases t <;> cases f <;> first
      | exact absurd rfl ht.1
      | exact absurd rfl hf.1
      | (simp only [cvChoice]; cases b <;> simp <;> assumption)

theorem cvInts_typed : ∀ {l : List CV}, (∀ c ∈ l, CVOk c .int) → (∀ c ∈ l, c ≠ .unknown) →
    ∃ vs, cvInts l = some vs
  | [], _, _ => ⟨[], rfl⟩
  | c :: r, h, hu => by
    obtain ⟨vs, hvs⟩ := cvInts_typed (l := r) (fun c hc => h c (List.mem_cons_of_mem _ hc))
      (fun c hc => hu c (List.mem_cons_of_mem _ hc))
    have hc := h c List.mem_cons_self
    cases c with
    | crash => exact absurd rfl hc.1
    | unknown => exact absurd rfl (hu _ List.mem_cons_self)
    | val x =>
      have hx := hc.2 x rfl
      cases x <;> simp [CVal.tag] at hx
      rename_i v
      exact ⟨v :: vs, by simp [cvInts, hvs]⟩

theorem cvMax_typed {l : List CV} (hne : l ≠ []) (h : ∀ c ∈ l, CVOk c .int) :
    CVOk (cvMax l) .int := by
  unfold cvMax
  have h1 : l.any (· == .crash) = false := by
    rw [List.any_eq_false]
    intro c hc
    have := (h c hc).1
    simpa using this
  rw [h1]
  simp only [Bool.false_eq_true, if_false]
  split
  · exact CVOk_unknown _
  · rename_i hu
    have hu' : ∀ c ∈ l, c ≠ .unknown := by
      intro c hc e
      apply hu
      rw [List.any_eq_true]
      exact ⟨c, hc, by simp [e]⟩
    obtain ⟨vs, hvs⟩ := cvInts_typed h hu'
    rw [hvs]
    cases vs with
    | nil => exact absurd (cvInts_eq_some hvs) hne
    | cons v vs' =>
      simp only [maxInts]
      exact CVOk_val rfl

theorem cvBound_typed (o : Option AType) : CVOk (cvBound o) .int := by
  unfold cvBound
  split
  · exact CVOk_val rfl
  · exact CVOk_unknown _

@[reducible] def TypedAt (e : Expr) (τ : Ty) : Prop :=
  (∃ ty, abs e = some ty ∧ ty.tag = τ) ∧ CVOk (cv e) τ

mutual
theorem typed_aux : (e : Expr) → (τ : Ty) → tyOf e = some τ → GivenOk e = true → TypedAt e τ
  | .const _, _, h, _ => by cases h; exact ⟨⟨_, rfl, rfl⟩, CVOk_val rfl⟩
  | .bconst _, _, h, _ => by cases h; exact ⟨⟨_, rfl, rfl⟩, CVOk_val rfl⟩
  | .econst _, _, h, _ => by cases h; exact ⟨⟨_, rfl, rfl⟩, CVOk_val rfl⟩
  | .ileaf _ _ _, _, h, _ => by cases h; exact ⟨⟨_, rfl, rfl⟩, CVOk_unknown _⟩
  | .ssize _, _, h, _ => by cases h; exact ⟨⟨_, rfl, rfl⟩, CVOk_unknown _⟩
  | .given _ _, _, h, _ => by cases h; exact ⟨⟨_, rfl, rfl⟩, CVOk_unknown _⟩
  | .bleaf _, _, h, _ => by cases h; exact ⟨⟨_, rfl, rfl⟩, CVOk_unknown _⟩
  | .eleaf _, _, h, _ => by cases h; exact ⟨⟨_, rfl, rfl⟩, CVOk_unknown _⟩
  | .bin op l r, τ, h, hg => by
    simp only [tyOf] at h
    simp only [GivenOk, Bool.and_eq_true] at hg
    split at h
    · rename_i a b ha hb
      obtain ⟨⟨tl, habl, htl⟩, hcl⟩ := typed_aux l a ha hg.1
      obtain ⟨⟨tr, habr, htr⟩, hcr⟩ := typed_aux r b hb hg.2
      have hil := inv_aux l hg.1 tl habl
      have hir := inv_aux r hg.2 tr habr
      obtain ⟨ty, hty, htag⟩ := absBin_typed htl htr hil hir hcl hcr h
      exact ⟨⟨ty, by simp only [abs, habl, habr, hty], htag⟩,
        by simp only [cv]; exact cvBin_typed hcl hcr h⟩
    · cases h
  | .choice c t f, τ, h, hg => by
    simp only [tyOf] at h
    simp only [GivenOk, Bool.and_eq_true] at hg
    split at h
    · rename_i a b hc ha hb
      split at h
      · rename_i hab
        subst hab
        simp only [Option.some.injEq] at h
        subst h
        obtain ⟨⟨tc, habc, htc⟩, hcc⟩ := typed_aux c .bool hc hg.1.1
        obtain ⟨⟨tt, habt, htt⟩, hct⟩ := typed_aux t a ha hg.1.2
        obtain ⟨⟨tf, habf, htf⟩, hcf⟩ := typed_aux f a hb hg.2
        have hit := inv_aux t hg.1.2 tt habt
        have hif := inv_aux f hg.2 tf habf
        obtain ⟨ty, hty, htag⟩ := absChoice_typed htc htt htf hit hif
        exact ⟨⟨ty, by simp only [abs, habc, habt, habf, hty], htag⟩,
          by simp only [cv]; exact cvChoice_typed hcc hct hcf⟩
      · cases h
    · cases h
  | .max args, τ, h, hg => by
    simp only [tyOf] at h
    simp only [GivenOk] at hg
    split at h
    · rename_i hcond
      simp only [Option.some.injEq] at h
      subst h
      simp only [Bool.and_eq_true] at hcond
      obtain ⟨⟨avs, habs, hinv⟩, hcvs, hlen⟩ := typedList_aux args hcond.2 hg
      obtain ⟨a, ha, _⟩ := maxFn_inv (absList_ne_nil hcond.1 habs) hinv
      refine ⟨⟨.int a, by simp only [abs, habs, absMax, atypeInts_map, ha, Option.map_some], rfl⟩, ?_⟩
      simp only [cv]
      refine cvMax_typed (fun e => ?_) hcvs
      cases args with
      | nil => cases hcond.1
      | cons x xs => cases e
    · cases h
  | .upper e, τ, h, hg => by
    simp only [tyOf] at h
    split at h <;> cases h
    rename_i he
    obtain ⟨⟨ty, habs, htag⟩, _⟩ := typed_aux e .int he hg
    obtain ⟨a, rfl⟩ := tag_int htag
    exact ⟨⟨.int (boundFn true a), by simp only [abs, habs, absBound], rfl⟩, cvBound_typed _⟩
  | .lower e, τ, h, hg => by
    simp only [tyOf] at h
    split at h <;> cases h
    rename_i he
    obtain ⟨⟨ty, habs, htag⟩, _⟩ := typed_aux e .int he hg
    obtain ⟨a, rfl⟩ := tag_int htag
    exact ⟨⟨.int (boundFn false a), by simp only [abs, habs, absBound], rfl⟩, cvBound_typed _⟩
  | .vref e, τ, h, hg => ⟨(typed_aux e τ h hg).1, CVOk_unknown _⟩
  | .present _ c, τ, h, hg => by
    simp only [tyOf] at h
    split at h <;> cases h
    rename_i hc
    exact ⟨(typed_aux c .bool hc hg).1, CVOk_unknown _⟩
  | .cref _, _, h, _ => by cases h
theorem typedList_aux : (es : List Expr) → allInt es = true → GivenOkList es = true →
    (∃ avs : List AVal, absList es = some (avs.map .int) ∧ ∀ a ∈ avs, InvS a) ∧
    (∀ c ∈ cvList es, CVOk c .int) ∧ (cvList es).length = es.length
  | [], _, _ => ⟨⟨[], rfl, fun a ha => nomatch ha⟩, by simp [cvList], rfl⟩
  | e :: es, h, hg => by
    simp only [allInt, Bool.and_eq_true] at h
    simp only [GivenOkList, Bool.and_eq_true] at hg
    have he : tyOf e = some .int := by
      have := h.1
      split at this
      · assumption
      · cases this
    obtain ⟨⟨ty, habs, htag⟩, hc⟩ := typed_aux e .int he hg.1
    obtain ⟨a, rfl⟩ := tag_int htag
    have hia : InvS a := inv_aux e hg.1 _ habs
    obtain ⟨⟨avs, habss, hinv⟩, hcs, hlen⟩ := typedList_aux es h.2 hg.2
    exact ⟨⟨a :: avs, by simp [absList, habs, habss], List.forall_mem_cons.mpr ⟨hia, hinv⟩⟩,
      List.forall_mem_cons.mpr ⟨hc, hcs⟩, by simp [cvList, hlen]⟩
end

/-! ### the arithmetic fragment `ArithOnly` (Spec/BoundsArith.lean) is a special case -/

mutual
theorem arith_tyOf : (e : Expr) → ArithOnly e = true → tyOf e = some .int
  | .const _, _ => rfl
  | .ileaf _ _ _, _ => rfl
  | .ssize _, _ => rfl
  | .given _ _, _ => rfl
  | .bin op l r, h => by
    simp only [ArithOnly, Bool.and_eq_true] at h
    simp only [tyOf, arith_tyOf l h.1.2, arith_tyOf r h.2]
    cases op <;> first | rfl | cases h.1.1
  | .choice c t f, h => by
    simp only [ArithOnly, Bool.and_eq_true] at h
    have hc : tyOf c = some .bool := by cases c <;> first | rfl | cases h.1.1
    simp only [tyOf, hc, arith_tyOf t h.1.2, arith_tyOf f h.2, if_true]
  | .max args, h => by
    simp only [ArithOnly, Bool.and_eq_true] at h
    simp only [tyOf, h.1, arithList_allInt args h.2, Bool.and_self, if_true]
  | .upper e, h => by simp only [tyOf, arith_tyOf e h]
  | .lower e, h => by simp only [tyOf, arith_tyOf e h]
  | .vref e, h => arith_tyOf e h
  | .bconst _, h => by cases h
  | .econst _, h => by cases h
  | .bleaf _, h => by cases h
  | .eleaf _, h => by cases h
  | .cref _, h => by cases h
  | .present _ _, h => by cases h
theorem arithList_allInt : (es : List Expr) → ArithOnlyList es = true → allInt es = true
  | [], _ => rfl
  | e :: es, h => by
    simp only [ArithOnlyList, Bool.and_eq_true] at h
    simp only [allInt, arith_tyOf e h.1, arithList_allInt es h.2, Bool.and_self]
end

theorem total_aux : (e : Expr) → ArithOnly e = true → GivenOk e = true →
    ∃ a, abs e = some (.int a) ∧ InvS a := fun e h hg => by
  obtain ⟨⟨ty, habs, htag⟩, _⟩ := typed_aux e .int (arith_tyOf e h) hg
  obtain ⟨a, rfl⟩ := tag_int htag
  exact ⟨a, habs, inv_aux e hg _ habs⟩

theorem totalList_aux : (es : List Expr) → ArithOnlyList es = true → GivenOkList es = true →
    ∃ avs : List AVal, absList es = some (avs.map .int) ∧ ∀ a ∈ avs, InvS a :=
  fun es h hg => (typedList_aux es (arithList_allInt es h) hg).1

end Emboss.Bounds
