/-
C13, natural input ("Nat"): on user-written (non-synthetic) input every error is visible, so the
pipeline stops at the first pass that objects and never reaches the unguarded reads.
-/
import Emboss.Lemmas.TypesMod
namespace Emboss.Types

theorem natural_loc {e : Expr} (h : natural e = true) : e.loc.syn = false := by
  cases e <;> simp only [natural, Bool.and_eq_true, Bool.not_eq_true'] at h <;>
    first | exact h | exact h.1

theorem naturalList_mem : ∀ {es : List Expr}, naturalList es = true → ∀ a ∈ es, natural a = true
  | [], _ => fun _ h => nomatch h
  | _ :: _, h =>
    have h := Bool.and_eq_true_iff.1 h
    List.forall_mem_cons.2 ⟨h.1, naturalList_mem h.2⟩

theorem kids_natural {file : FileId} {e : Expr} (h : natural e = true) :
    ∀ k ∈ kids file e, natural k.2 = true := by
  cases e with
  | cvirt | lvirt =>
    simp only [natural, Bool.and_eq_true] at h
    exact List.forall_mem_singleton.2 h.2
  | bin =>
    simp only [natural, Bool.and_eq_true] at h
    exact List.forall_mem_cons.2 ⟨h.2.1, List.forall_mem_singleton.2 h.2.2⟩
  | choice =>
    simp only [natural, Bool.and_eq_true] at h
    exact List.forall_mem_cons.2 ⟨h.2.1, List.forall_mem_cons.2 ⟨h.2.2.1, List.forall_mem_singleton.2 h.2.2.2⟩⟩
  | fn =>
    simp only [natural, Bool.and_eq_true] at h
    exact List.forall_mem_map.2 (naturalList_mem h.2)
  | _ => exact fun _ hk => nomatch hk

theorem Err.visible {er : Err} (hl : er.l.syn = false) (hn : er.notes = []) : er.hidden = false := by
  simp [Err.hidden, hl, hn]

theorem OwnErr.visible {file : FileId} {e : Expr} {er : Err} (hn : natural e = true)
    (ho : OwnErr file e er) : er.hidden = false := by
  obtain ⟨_, hat, hno⟩ := ho
  have hl : er.l.syn = false := by
    rcases hat with h | ⟨k, hk, _, h⟩
    · exact h ▸ natural_loc hn
    · exact h ▸ natural_loc (kids_natural hn k hk)
  rcases hno with hno | ⟨l, df, dl, rfl, hno⟩
  · exact Err.visible hl hno
  · simp only [natural, Bool.and_eq_true, Bool.not_eq_true'] at hn
    simp [Err.hidden, hl, hno, hn.2]

theorem tc_visible (e : Expr) (hn : natural e = true) (file : FileId) : ∀ er ∈ (tc file e).errs,
    er.hidden = false := by
  induction file, e using kids_induction with
  | step file e ih =>
    intro er h
    rcases mem_tc_errs h with ⟨k, hk, h⟩ | ho
    · exact ih k hk (kids_natural hn k hk) er h
    · exact ho.visible hn

theorem tcList_visible (es : List Expr) : naturalList es = true → ∀ (file : FileId),
    ∀ er ∈ (tcList file es).errs, er.hidden = false := by
  intro hn file er h
  obtain ⟨a, ha, h⟩ := List.mem_flatMap.1 (tcList_errs file es ▸ h)
  exact tc_visible a (naturalList_mem hn a ha) file er h

/-- the module's expressions and parameter declarations are user-written -/
def Module.natural (m : Module) : Prop :=
  (∀ e ∈ m.exprs, Emboss.Types.natural e.2 = true) ∧ ∀ p ∈ m.params, p.l.syn = false

theorem annotate_visible (m : Module) (hn : m.natural) : ∀ er ∈ annotate m, er.hidden = false := by
  intro er h
  simp only [annotate, tcAll_eq, List.mem_append, List.mem_flatMap] at h
  rcases h with ⟨e, he, h⟩ | ⟨p, hp, h⟩
  · exact tc_visible e.2 (hn.1 e he) e.1 er h
  · split at h
    · rw [List.mem_singleton.1 h]
      exact Err.visible (hn.2 p hp) rfl
    · cases h

theorem run_total_natural (m : Module) (wf : m.wf) (hn : m.natural)
    (k : Crash) : run m ≠ .crashed k := by
  intro h
  obtain ⟨hne, hall⟩ := run_crashed_hidden wf h
  cases ha : annotate m with
  | nil => exact hne ha
  | cons er _ =>
    have her : er ∈ annotate m := ha ▸ List.mem_cons_self
    exact Bool.false_ne_true ((annotate_visible m hn er her).symm.trans (hall er her))

end Emboss.Types
