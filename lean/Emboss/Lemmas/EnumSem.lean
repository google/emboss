/-
Lemmas for C19: the loop of `_generate_enum_definition` (model: `stepNames` / `stepValues`) as one
fold over the entries (value, spelling), what it appends — a line per entry, and `case` labels for
the first entry of every number — and the meaning of the generated `strcmp` chain and `switch`es
over entries that resolve to their numbers.
-/
import Emboss.Model.Enum
namespace Emboss.Enum

theorem find?_congr {α : Type} {p q : α → Bool} {l : List α} (h : ∀ a ∈ l, p a = q a) :
    l.find? p = l.find? q := by
  induction l with
  | nil => rfl
  | cons a l ih =>
    rw [List.find?_cons, List.find?_cons, h a (List.mem_cons_self ..),
      ih fun b hb => h b (List.mem_cons_of_mem _ hb)]

/-! ## first occurrences -/

def firsts {α κ : Type} [DecidableEq κ] (key : α → κ) : List κ → List α → List α
  | _, [] => []
  | seen, a :: l => if key a ∈ seen then firsts key seen l else a :: firsts key (seen ++ [key a]) l

section firsts
variable {α κ : Type} [DecidableEq κ] (key : α → κ)

theorem firsts_sublist (seen : List κ) (l : List α) : (firsts key seen l).Sublist l := by
  induction l generalizing seen with
  | nil => exact .slnil
  | cons a l ih =>
    unfold firsts
    split
    · exact (ih _).cons _
    · exact (ih _).cons_cons _

theorem firsts_find (x : κ) (seen : List κ) (l : List α) :
    (firsts key seen l).find? (fun a => key a == x) =
      if x ∈ seen then none else l.find? (fun a => key a == x) := by
  induction l generalizing seen with
  | nil => simp [firsts]
  | cons a l ih =>
    unfold firsts
    by_cases hx : key a = x
    · subst hx
      by_cases hs : key a ∈ seen
      · simp [hs, ih]
      · simp [hs]
    · have hb : (key a == x) = false := beq_eq_false_iff_ne.mpr hx
      have : x ∈ seen ++ [key a] ↔ x ∈ seen := by simp [Ne.symm hx]
      split <;> simp [ih, hb, this]

theorem firsts_mem (k : κ) (seen : List κ) (l : List α) :
    k ∈ (firsts key seen l).map key ↔ k ∉ seen ∧ k ∈ l.map key := by
  have := congrArg Option.isSome (firsts_find key k seen l)
  rw [Bool.eq_iff_iff, List.find?_isSome] at this
  simp only [beq_iff_eq] at this
  rw [List.mem_map, this]
  split <;> simp [*]

theorem firsts_nodup (seen : List κ) (l : List α) : ((firsts key seen l).map key).Nodup := by
  induction l generalizing seen with
  | nil => exact .nil
  | cons a l ih =>
    unfold firsts
    split
    · exact ih _
    · exact List.nodup_cons.mpr ⟨fun h => ((firsts_mem key _ _ _).mp h).1 (by simp), ih _⟩

end firsts

/-! ## the loop of `_generate_enum_definition` as one fold -/

theorem stepNames_seen {emboss : Name} {v : Int} {xs : List Name} {g : Gen} {seen : List Int}
    (h : v ∈ seen) :
    stepNames emboss v ⟨g, seen⟩ xs =
      ⟨{ g with
          enumerators := g.enumerators ++ xs.map (fun x => (x, v))
          fromName := g.fromName ++ xs.map (fun x => (emboss, x)) }, seen⟩ := by
  induction xs generalizing g with
  | nil => simp [stepNames]
  | cons x xs ih =>
    have hc : seen.contains v = true := List.contains_iff_mem.mpr h
    simp only [stepNames, hc, Bool.not_true, Bool.false_eq_true, if_false]
    rw [ih]
    simp [List.append_assoc]

/-- Inner loop on a fresh number: the first spelling gets the `case` labels. -/
theorem stepNames_fresh {emboss : Name} {v : Int} {x : Name} {xs : List Name} {g : Gen}
    {seen : List Int} (h : v ∉ seen) :
    stepNames emboss v ⟨g, seen⟩ (x :: xs) =
      ⟨{ g with
          enumerators := g.enumerators ++ (x :: xs).map (fun x => (x, v))
          fromName := g.fromName ++ (x :: xs).map (fun x => (emboss, x))
          toName := g.toName ++ [(x, emboss)]
          known := g.known ++ [x] }, seen ++ [v]⟩ := by
  have hc : seen.contains v = false := by simp [h]
  simp only [stepNames, hc, Bool.not_false, if_true]
  rw [stepNames_seen]
  · simp [List.append_assoc]
  · simp

def stepEntry (st : LoopState) (e : Value × Name) : LoopState := stepNames e.1.name e.1.value st [e.2]

/-- Every value with each of its spellings, in the order the two loops visit them. -/
def entries (nm : Value → List Name) (vs : List Value) : List (Value × Name) :=
  vs.flatMap (fun v => (nm v).map (fun x => (v, x)))

theorem entries_map {β : Type} (f : Value × Name → β) (nm : Value → List Name) (vs : List Value) :
    (entries nm vs).map f = vs.flatMap (fun v => (nm v).map (fun x => f (v, x))) := by
  simp [entries, List.map_flatMap, Function.comp_def]

theorem stepNames_eq_foldl (v : Value) (xs : List Name) (st : LoopState) :
    stepNames v.name v.value st xs = (xs.map (fun x => (v, x))).foldl stepEntry st := by
  induction xs generalizing st with
  | nil => rfl
  -- `stepNames … st (x :: xs)` unfolds to `stepNames … (stepEntry st (v, x)) xs`
  | cons x xs ih => exact ih _

theorem stepValues_eq_foldl (dflt : Option (List Char)) (nm : Value → List Name)
    (vs : List Value) (st : LoopState)
    (h : ∀ v ∈ vs, enumeratorNames v.name (effectiveCase v.attrs dflt) = some (nm v)) :
    stepValues dflt st vs = some ((entries nm vs).foldl stepEntry st) := by
  induction vs generalizing st with
  | nil => rfl
  | cons v vs ih =>
    simp only [stepValues, h v (List.mem_cons_self ..), entries, List.flatMap_cons, List.foldl_append,
      ← stepNames_eq_foldl]
    exact ih _ (fun w hw => h w (List.mem_cons_of_mem _ hw))

theorem stepValues_some (dflt : Option (List Char)) (vs : List Value) (st st' : LoopState)
    (h : stepValues dflt st vs = some st') :
    ∀ v ∈ vs, ∃ l, enumeratorNames v.name (effectiveCase v.attrs dflt) = some l := by
  induction vs generalizing st with
  | nil => intro v hv; cases hv
  | cons w ws ih =>
    intro v hv
    simp only [stepValues] at h
    cases hn : enumeratorNames w.name (effectiveCase w.attrs dflt) with
    | none => simp [hn] at h
    | some l =>
      simp only [hn] at h
      rcases List.mem_cons.mp hv with rfl | hv'
      · exact ⟨l, hn⟩
      · exact ih _ h v hv'

theorem foldl_stepEntry (l : List (Value × Name)) (g : Gen) (seen : List Int) :
    l.foldl stepEntry ⟨g, seen⟩ =
      ⟨{ g with
          enumerators := g.enumerators ++ l.map (fun e => (e.2, e.1.value))
          fromName := g.fromName ++ l.map (fun e => (e.1.name, e.2))
          toName := g.toName ++ (firsts (·.1.value) seen l).map (fun e => (e.2, e.1.name))
          known := g.known ++ (firsts (·.1.value) seen l).map (·.2) },
        seen ++ (firsts (·.1.value) seen l).map (·.1.value)⟩ := by
  induction l generalizing g seen with
  | nil => simp [firsts]
  | cons e l ih =>
    rw [List.foldl_cons, stepEntry]
    by_cases h : e.1.value ∈ seen
    · rw [stepNames_seen h, ih]
      simp [firsts, h]
    · rw [stepNames_fresh h, ih]
      simp [firsts, h]

theorem entries_find {β : Type} (nm : Value → List Name) (vs : List Value) (hne : ∀ v ∈ vs, nm v ≠ [])
    (p : Value → Bool) (f : Value → β) :
    ((entries nm vs).find? (fun e => p e.1)).map (fun e => f e.1) = (vs.find? p).map f := by
  induction vs with
  | nil => rfl
  | cons v vs ih =>
    obtain ⟨hv, hvs⟩ := List.forall_mem_cons.mp hne
    obtain ⟨x, xs, hx⟩ := List.exists_cons_of_ne_nil hv
    rw [entries, List.flatMap_cons, List.find?_append, List.find?_cons]
    cases hp : p v
    · rw [List.find?_eq_none.mpr (by simp [hp]), Option.none_or]; exact ih hvs
    · simp [hx, hp]

/-! ## the generated functions -/

theorem lookup_of_mem_nodup {es : List (Name × Int)} {x : Name} {v : Int}
    (hn : (es.map (·.1)).Nodup) (hm : (x, v) ∈ es) : lookup es x = some v := by
  induction es with
  | nil => cases hm
  | cons e es ih =>
    simp only [List.map_cons, List.nodup_cons] at hn
    simp only [lookup, List.find?_cons]
    rcases List.mem_cons.mp hm with h | h
    · subst h; simp
    · have hne : e.1 ≠ x := fun he => hn.1 (he ▸ List.mem_map.mpr ⟨(x, v), h, rfl⟩)
      simp only [beq_eq_false_iff_ne.mpr hne]
      exact ih hn.2 h

theorem lookup_iff_mem (es : List (Name × Int)) (hn : (es.map (·.1)).Nodup) (x : Name) (v : Int) :
    lookup es x = some v ↔ (x, v) ∈ es := by
  refine ⟨fun h => ?_, lookup_of_mem_nodup hn⟩
  obtain ⟨p, hp, rfl⟩ := Option.map_eq_some_iff.mp h
  have hx : p.1 = x := by simpa using List.find?_some hp
  subst hx
  exact List.mem_of_find?_eq_some hp

section meaning
variable {es : List (Name × Int)} {nm : Value → List Name} {vs : List Value}
  (hr : ∀ e ∈ entries nm vs, lookup es e.2 = some e.1.value) {g : Gen}
include hr

/-- The `strcmp` chain returns the number of the first value with that Emboss name. -/
theorem fromName_find (hne : ∀ v ∈ vs, nm v ≠ [])
    (hf : g.fromName = (entries nm vs).map (fun e => (e.1.name, e.2))) (n : Name) :
    g.cppFromName es (some n) = (vs.find? (fun v => v.name == n)).map (·.value) := by
  rw [← entries_find nm vs hne (fun v => v.name == n) (·.value)]
  simp only [Gen.cppFromName, hf, List.find?_map, Function.comp_def]
  cases h : (entries nm vs).find? (fun e => e.1.name == n) with
  | none => rfl
  | some e => exact hr e (List.mem_of_find?_eq_some h)

theorem labels_resolve (ht : g.toName = (firsts (·.1.value) [] (entries nm vs)).map (fun e => (e.2, e.1.name))) :
    g.labelValues es = ((firsts (·.1.value) [] (entries nm vs)).map (·.1.value)).map some := by
  rw [Gen.labelValues, ht, List.map_map, List.map_map]
  exact List.map_congr_left fun e he => hr e ((firsts_sublist _ _ _).subset he)

/-- The `switch` returns the Emboss name of the first value with that number. -/
theorem toName_find (hne : ∀ v ∈ vs, nm v ≠ [])
    (ht : g.toName = (firsts (·.1.value) [] (entries nm vs)).map (fun e => (e.2, e.1.name))) (x : Int) :
    g.cppToName es x = (vs.find? (fun v => v.value == x)).map (·.name) := by
  rw [← entries_find nm vs hne (fun v => v.value == x) (·.name), Gen.cppToName, ht, List.find?_map, Option.map_map,
    find?_congr (q := fun e => e.1.value == x) fun e he => by
      simp [hr e ((firsts_sublist _ _ _).subset he)],
    firsts_find]
  rfl

end meaning

/-- `EnumIsKnown` and `TryToGetNameFromEnum` are `switch`es over the same labels. -/
theorem cppIsKnown_eq_isSome (g : Gen) (es : List (Name × Int)) (x : Int)
    (hk : g.known = g.toName.map (·.1)) : g.cppIsKnown es x = (g.cppToName es x).isSome := by
  rw [Gen.cppIsKnown, hk, Gen.cppToName, Option.isSome_map, Bool.eq_iff_iff, List.find?_isSome, List.any_map,
    List.any_eq_true]
  rfl

end Emboss.Enum
