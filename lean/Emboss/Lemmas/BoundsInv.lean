/-
The invariant `InvOk` (Spec/BoundsInv.lean) in structural form, and its semantic
consequences: finite ends belong to γ, a non-constant value has two distinct members.
-/
import Emboss.Spec.BoundsInv
import Emboss.Lemmas.BoundsOps
namespace Emboss.Bounds
open ExtInt

/-- structural form of `InvOk` for a finite modulus -/
structure InvVar (a : AVal) (m : Nat) (v : Int) : Prop where
  hm : a.modulus = .fin m
  mpos : 0 < m
  hv : a.mv = .fin v
  v0 : 0 ≤ v
  vlt : v < (m : Int)
  hmin : ∀ x, a.min = .fin x → x % (m : Int) = v
  hmax : ∀ y, a.max = .fin y → y % (m : Int) = v
  minNe : a.min ≠ .posInf
  maxNe : a.max ≠ .negInf
  ne : a.min ≠ a.max
  le : ∀ x y, a.min = .fin x → a.max = .fin y → x ≤ y

/-- structural form of `InvOk` -/
def InvS (a : AVal) : Prop := (∃ c, a = constRange c) ∨ (∃ m v, InvVar a m v)

theorem InvOk_const (c : Int) : InvOk (constRange c) = true := by
  simp [InvOk, invPy, constRange, CanonMv, FiniteConst]

/-- the assert block for a positive modulus and a finite remainder: the last six fields of `InvVar` -/
theorem invPy_fin {mn mx : ExtInt} {m : Nat} {v : Int} (hm : 0 < m) :
    invPy ⟨mn, mx, .fin m, .fin v⟩ = some true ↔
      (∀ x, mn = .fin x → x % (m : Int) = v) ∧ (∀ y, mx = .fin y → y % (m : Int) = v) ∧
      mn ≠ .posInf ∧ mx ≠ .negInf ∧ mn ≠ mx ∧ ∀ x y, mn = .fin x → mx = .fin y → x ≤ y := by
  simp only [invPy, Nat.ne_of_gt hm, if_false]
  cases mn <;> cases mx <;> simp
  · rename_i x
    by_cases h1 : x % (m : Int) = v <;> simp [h1]
  · rename_i x y
    by_cases h1 : x % (m : Int) = v <;> by_cases h2 : y % (m : Int) = v <;> by_cases h3 : x = y <;>
      simp [h1, h2, h3]

theorem InvOk_of_var {a : AVal} {m : Nat} {v : Int} (h : InvVar a m v) : InvOk a = true := by
  obtain ⟨mn, mx, md, mv⟩ := a
  obtain ⟨hm, mpos, hv, v0, vlt, hmin, hmax, minNe, maxNe, ne, le⟩ := h
  simp only at hm hv
  subst hm hv
  simp [InvOk, CanonMv, FiniteConst, v0, vlt, (invPy_fin mpos).mpr ⟨hmin, hmax, minNe, maxNe, ne, le⟩]

theorem InvOk_of_InvS {a : AVal} (h : InvS a) : InvOk a = true := by
  rcases h with ⟨c, rfl⟩ | ⟨m, v, h⟩
  · exact InvOk_const c
  · exact InvOk_of_var h

theorem InvS_of_InvOk {a : AVal} (h : InvOk a = true) : InvS a := by
  obtain ⟨mn, mx, md, mv⟩ := a
  simp only [InvOk, Bool.and_eq_true, beq_iff_eq] at h
  obtain ⟨⟨h1, h2⟩, h3⟩ := h
  cases md with
  | inf =>
    left
    cases mv with
    | negInf => simp [FiniteConst] at h3
    | posInf => simp [FiniteConst] at h3
    | fin c =>
      simp [invPy] at h1
      exact ⟨c, by simp [constRange, h1.1, h1.2]⟩
  | fin m =>
    cases mv with
    | negInf => simp [CanonMv] at h2
    | posInf => simp [CanonMv] at h2
    | fin v =>
      simp [CanonMv] at h2
      have mpos : 0 < m := Nat.pos_of_ne_zero (by rintro rfl; cases h1)
      obtain ⟨hmin, hmax, minNe, maxNe, ne, le⟩ := (invPy_fin mpos).mp h1
      exact Or.inr ⟨m, v, rfl, mpos, rfl, h2.1, h2.2, hmin, hmax, minNe, maxNe, ne, le⟩

theorem InvOk_iff {a : AVal} : InvOk a = true ↔ InvS a := ⟨InvS_of_InvOk, InvOk_of_InvS⟩

theorem CongOk.emod {m : Modulus} {r : ExtInt} {k : Nat} {v x : Int} (hm : m = .fin k)
    (hr : r = .fin v) (v0 : 0 ≤ v) (vlt : v < (k : Int)) (h : CongOk m r x) : x % (k : Int) = v := by
  obtain ⟨c, hc, hd⟩ := h
  subst hm hr
  cases hc
  exact (emod_eq_iff_dvd_sub.mpr hd).trans (Int.emod_eq_of_lt v0 vlt)

namespace InvVar

theorem cong {a : AVal} {m : Nat} {v : Int} (h : InvVar a m v) {x : Int}
    (hx : x % (m : Int) = v) : CongOk a.modulus a.mv x := by
  refine ⟨v, h.hv, ?_⟩
  rw [h.hm]; exact Int.dvd_self_sub_of_emod_eq hx

theorem emod_of_cong {a : AVal} {m : Nat} {v : Int} (h : InvVar a m v) {x : Int}
    (hc : CongOk a.modulus a.mv x) : x % (m : Int) = v :=
  hc.emod h.hm h.hv h.v0 h.vlt

theorem low_of_max {a : AVal} {m : Nat} {v : Int} (h : InvVar a m v) {y : Int}
    (hy : a.max = .fin y) : LowOk a.min y := by
  cases hmn : a.min with
  | negInf => trivial
  | posInf => exact absurd hmn h.minNe
  | fin x => exact h.le x y hmn hy

theorem high_of_min {a : AVal} {m : Nat} {v : Int} (h : InvVar a m v) {x : Int}
    (hx : a.min = .fin x) : HighOk a.max x := by
  cases hmx : a.max with
  | posInf => trivial
  | negInf => exact absurd hmx h.maxNe
  | fin y => exact h.le x y hx hmx

theorem min_mem {a : AVal} {m : Nat} {v : Int} (h : InvVar a m v) {x : Int}
    (hx : a.min = .fin x) : Gamma a x :=
  ⟨by rw [hx]; exact Int.le_refl x, h.high_of_min hx, h.cong (h.hmin x hx)⟩

theorem max_mem {a : AVal} {m : Nat} {v : Int} (h : InvVar a m v) {y : Int}
    (hy : a.max = .fin y) : Gamma a y :=
  ⟨h.low_of_max hy, by rw [hy]; exact Int.le_refl y, h.cong (h.hmax y hy)⟩

theorem two {a : AVal} {m : Nat} {v : Int} (h : InvVar a m v) :
    ∃ x1 x2, x1 < x2 ∧ Gamma a x1 ∧ Gamma a x2 := by
  have mpos : (0 : Int) < m := by have := h.mpos; omega
  cases hmn : a.min with
  | posInf => exact absurd hmn h.minNe
  | fin x =>
    refine ⟨x, x + m, by omega, h.min_mem hmn, ?_⟩
    refine ⟨by rw [hmn]; show x ≤ x + m; omega, ?_, h.cong ((Int.add_emod_right ..).trans (h.hmin x hmn))⟩
    cases hmx : a.max with
    | posInf => trivial
    | negInf => exact absurd hmx h.maxNe
    | fin y =>
      have hle := h.le x y hmn hmx
      have hne : x ≠ y := fun e => h.ne (by rw [hmn, hmx, e])
      exact emod_gap ((h.hmin x hmn).trans (h.hmax y hmx).symm) (by omega)
  | negInf =>
    cases hmx : a.max with
    | negInf => exact absurd hmx h.maxNe
    | fin y =>
      refine ⟨y - m, y, by omega, ?_, h.max_mem hmx⟩
      exact ⟨by rw [hmn]; trivial, by rw [hmx]; show y - m ≤ y; omega,
        h.cong ((Int.sub_emod_right ..).trans (h.hmax y hmx))⟩
    | posInf =>
      have hv : v % (m : Int) = v := Int.emod_eq_of_lt h.v0 h.vlt
      exact ⟨v, v + m, by omega,
        ⟨by rw [hmn]; trivial, by rw [hmx]; trivial, h.cong hv⟩,
        ⟨by rw [hmn]; trivial, by rw [hmx]; trivial, h.cong ((Int.add_emod_right ..).trans hv)⟩⟩

/-- how the invariant is established for a result: the remainder is some `w % m` (so it is
    canonical), the finite ends are congruent, and two different values lie between the ends -/
theorem of_witness {a : AVal} {m : Nat} {w : Int} (hm : a.modulus = .fin m) (mpos : 0 < m)
    (hv : a.mv = .fin (w % (m : Int)))
    (hmin : ∀ x, a.min = .fin x → CongOk a.modulus a.mv x)
    (hmax : ∀ y, a.max = .fin y → CongOk a.modulus a.mv y)
    (htwo : ∃ p1 p2 : Int, p1 < p2 ∧ LowOk a.min p1 ∧ HighOk a.max p2) :
    InvVar a m (w % (m : Int)) := by
  obtain ⟨p1, p2, hlt, hl1, hh2⟩ := htwo
  obtain ⟨v0, vlt⟩ := emod_canon w mpos
  refine ⟨hm, mpos, hv, v0, vlt, fun x hx => (hmin x hx).emod hm hv v0 vlt,
    fun y hy => (hmax y hy).emod hm hv v0 vlt, ?_, ?_, ?_, ?_⟩
  · intro e; rw [e] at hl1; exact hl1
  · intro e; rw [e] at hh2; exact hh2
  · intro e
    cases hmn : a.min with
    | posInf => rw [hmn] at hl1; exact hl1
    | negInf => rw [← e, hmn] at hh2; exact hh2
    | fin x =>
      rw [hmn] at hl1; rw [← e, hmn] at hh2
      simp only [LowOk, HighOk] at hl1 hh2; omega
  · intro x y hx hy
    rw [hx] at hl1; rw [hy] at hh2
    simp only [LowOk, HighOk] at hl1 hh2; omega

end InvVar

/-- the two points between the ends that `InvVar.of_witness` asks for -/
theorem Gamma.spread {a : AVal} {z1 z2 : Int} (h1 : Gamma a z1) (h2 : Gamma a z2) (hne : z1 ≠ z2) :
    ∃ p1 p2 : Int, p1 < p2 ∧ LowOk a.min p1 ∧ HighOk a.max p2 := by
  rcases Int.lt_or_gt_of_ne hne with h | h
  · exact ⟨z1, z2, h, h1.1, h2.2.1⟩
  · exact ⟨z2, z1, h, h2.1, h1.2.1⟩

theorem InvS.one {a : AVal} (h : InvS a) : ∃ x, Gamma a x := by
  rcases h with ⟨c, rfl⟩ | ⟨m, v, h⟩
  · exact ⟨c, constRange_sound c⟩
  · obtain ⟨x, _, _, hx, _⟩ := h.two; exact ⟨x, hx⟩

theorem InvS.min_mem {a : AVal} (h : InvS a) {x : Int} (hx : a.min = .fin x) : Gamma a x := by
  rcases h with ⟨c, rfl⟩ | ⟨m, v, h⟩
  · simp [constRange] at hx; subst hx; exact constRange_sound c
  · exact h.min_mem hx

theorem InvS.max_mem {a : AVal} (h : InvS a) {x : Int} (hx : a.max = .fin x) : Gamma a x := by
  rcases h with ⟨c, rfl⟩ | ⟨m, v, h⟩
  · simp [constRange] at hx; subst hx; exact constRange_sound c
  · exact h.max_mem hx

theorem InvS.minNe {a : AVal} (h : InvS a) : a.min ≠ .posInf := by
  rcases h with ⟨c, rfl⟩ | ⟨m, v, h⟩
  · simp [constRange]
  · exact h.minNe

theorem InvS.maxNe {a : AVal} (h : InvS a) : a.max ≠ .negInf := by
  rcases h with ⟨c, rfl⟩ | ⟨m, v, h⟩
  · simp [constRange]
  · exact h.maxNe

theorem InvS.mv_fin {a : AVal} (h : InvS a) : ∃ v, a.mv = .fin v := by
  rcases h with ⟨c, rfl⟩ | ⟨m, v, h⟩
  · exact ⟨c, rfl⟩
  · exact ⟨v, h.hv⟩

/-- a modulus that satisfies the invariant: "infinity" or positive -/
def Modulus.Pos : Modulus → Prop
  | .inf => True
  | .fin m => 0 < m

theorem InvS.modPos {a : AVal} (h : InvS a) : a.modulus.Pos := by
  rcases h with ⟨c, rfl⟩ | ⟨m, v, h⟩
  · trivial
  · rw [h.hm]; exact h.mpos

theorem InvS.is_const {a : AVal} (h : InvS a) (hm : a.modulus = .inf) : ∃ c, a = constRange c := by
  rcases h with hc | ⟨m, v, h⟩
  · exact hc
  · rw [h.hm] at hm; cases hm

theorem InvS.end_mem {a : AVal} (h : InvS a) {e : ExtInt} {x : Int}
    (he : e = a.min ∨ e = a.max) (hx : e = .fin x) : Gamma a x := by
  rcases he with rfl | rfl
  · exact h.min_mem hx
  · exact h.max_mem hx

theorem InvS.const_of_inf {a : AVal} (h : InvS a) (hm : a.modulus = .inf) {c : Int}
    (hv : a.mv = .fin c) : a = constRange c := by
  obtain ⟨d, rfl⟩ := h.is_const hm
  cases hv; rfl

theorem InvS.canon {a : AVal} (h : InvS a) {c : Int} (hv : a.mv = .fin c) :
    ∀ k, a.modulus = .fin k → 0 ≤ c ∧ c < (k : Int) := by
  intro k hk
  rcases h with ⟨d, rfl⟩ | ⟨m, v, h⟩
  · cases hk
  · rw [h.hm] at hk; cases hk
    rw [h.hv] at hv; cases hv
    exact ⟨h.v0, h.vlt⟩

end Emboss.Bounds
